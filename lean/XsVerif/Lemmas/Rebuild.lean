/-
  Helper lemmas for the "building twice" part of C09 (model: Model/Rebuild.lean).
  A build is a fold of `step`; every registry is described first for one step, then for the fold.
  "First registration wins" is `Option.or`.
-/
import XsVerif.Model.Rebuild
import XsVerif.Lemmas.Staged

namespace XsVerif.Rebuild
open Staged (lookup_snoc)

theorem clear_faithful (m : Maps) : clear faithful m = empty := rfl

theorem rebuild_faithful (g : Nat) (reqs : List Req) (m : Maps) :
    rebuild faithful g reqs m = rebuild faithful g reqs empty := rfl

theorem runFrom_last (reqs : List Req) :
    ∀ (hist : List (List Req)) (g : Nat) (m : Maps),
      runFrom faithful g m (hist ++ [reqs]) = rebuild faithful (g + hist.length) reqs empty := by
  intro hist
  induction hist with
  | nil => exact fun g m => rebuild_faithful g reqs m
  | cons h hist ih =>
    intro g m
    rw [List.cons_append, runFrom, ih, Nat.add_right_comm]
    rfl

variable (g : Nat)

theorem build_cons (r : Req) (reqs : List Req) (m : Maps) :
    build g (r :: reqs) m = build g reqs (step g m r) := rfl


theorem step_glob_frame (m : Maps) (n : Name) :
    (step g m (.glob n)).idents = m.idents ∧ (step g m (.glob n)).subst = m.subst ∧
    (step g m (.glob n)).views = m.views := by
  simp only [step]
  cases m.store.lookup n <;> exact ⟨rfl, rfl, rfl⟩

theorem step_ident_frame (m : Maps) (n node : Name) :
    (step g m (.ident n node)).store = m.store ∧ (step g m (.ident n node)).subst = m.subst ∧
    (step g m (.ident n node)).views = m.views := by
  simp only [step]
  cases m.idents.lookup n with
  | none => exact ⟨rfl, rfl, rfl⟩
  | some e => dsimp only; split <;> exact ⟨rfl, rfl, rfl⟩

theorem step_views (m : Maps) (r : Req) : (step g m r).views = m.views := by
  cases r with
  | glob n => exact (step_glob_frame g m n).2.2
  | ident n node => exact (step_ident_frame g m n node).2.2
  | subst h x => rfl

theorem build_views (reqs : List Req) : ∀ (m : Maps), (build g reqs m).views = m.views := by
  induction reqs with
  | nil => exact fun _ => rfl
  | cons r reqs ih => exact fun m => (ih _).trans (step_views g m r)

theorem touch_fields (m : Maps) :
    (touch g m).store = m.store ∧ (touch g m).idents = m.idents ∧ (touch g m).subst = m.subst ∧
    (touch g m).errors = m.errors := by
  unfold touch
  cases m.views <;> exact ⟨rfl, rfl, rfl, rfl⟩


theorem step_store_lookup (m : Maps) (r : Req) (n : Name) :
    (step g m r).store.lookup n = (m.store.lookup n).or (if r = .glob n then some g else none) := by
  cases r with
  | glob n' =>
    simp only [step]
    cases h' : m.store.lookup n' with
    | some v' =>
      by_cases e : n' = n
      · rw [← e, h']; rfl
      · rw [if_neg fun c => e (Req.glob.inj c), Option.or_none]
    | none =>
      show (m.store ++ [(n', g)]).lookup n = _
      rw [lookup_snoc]
      by_cases e : n = n'
      · rw [if_pos e, if_pos (congrArg _ e.symm)]
      · rw [if_neg e, if_neg fun c => e (Req.glob.inj c).symm]
  | ident n' node => rw [(step_ident_frame g m n' node).1, if_neg nofun, Option.or_none]
  | subst h x => exact Option.or_none.symm

theorem build_store_lookup (reqs : List Req) : ∀ (m : Maps) (n : Name),
    (build g reqs m).store.lookup n = (m.store.lookup n).or (if .glob n ∈ reqs then some g else none) := by
  induction reqs with
  | nil => exact fun m n => Option.or_none.symm
  | cons r reqs ih =>
    intro m n
    rw [build_cons, ih, step_store_lookup, Option.or_assoc]
    refine congrArg _ ?_
    by_cases e : r = .glob n
    · rw [if_pos e, if_pos (List.mem_cons.2 (Or.inl e.symm))]; rfl
    · rw [if_neg e]
      by_cases hm : .glob n ∈ reqs
      · rw [if_pos hm, if_pos (List.mem_cons_of_mem _ hm)]; rfl
      · rw [if_neg hm, if_neg fun c => (List.mem_cons.1 c).elim (fun c => e c.symm) hm]; rfl


/-- the XSD node of the first registration request for identity `n` -/
def firstNode : List Req → Name → Option Name
  | [], _ => none
  | .ident n' node :: rest, n => if n = n' then some node else firstNode rest n
  | _ :: rest, n => firstNode rest n

theorem firstNode_cons (r : Req) (rest : List Req) (n : Name) :
    firstNode (r :: rest) n = (firstNode [r] n).or (firstNode rest n) := by
  cases r with
  | ident n' node => simp only [firstNode]; split <;> rfl
  | _ => rfl

theorem firstNode_single {r : Req} {n node : Name} (h : firstNode [r] n = some node) : r = .ident n node := by
  cases r with
  | ident n' nd =>
    simp only [firstNode] at h
    split at h
    · next e => cases h; rw [e]
    · cases h
  | _ => cases h

theorem step_idents_lookup (m : Maps) (r : Req) (n : Name) :
    (step g m r).idents.lookup n = (m.idents.lookup n).or ((firstNode [r] n).map (⟨·, g⟩)) := by
  cases r with
  | glob n' => rw [(step_glob_frame g m n').1]; exact Option.or_none.symm
  | subst h x => exact Option.or_none.symm
  | ident n' node =>
    simp only [step, firstNode]
    cases h' : m.idents.lookup n' with
    | some e' =>
      have : (if e'.node = node then m else { m with errors := m.errors ++ [n'] }).idents = m.idents := by
        split <;> rfl
      show (if e'.node = node then m else { m with errors := m.errors ++ [n'] }).idents.lookup n = _
      rw [this]
      by_cases e : n = n'
      · rw [e, h']; rfl
      · rw [if_neg e]; exact Option.or_none.symm
    | none =>
      show (m.idents ++ [(n', Entry.mk node g)]).lookup n = _
      rw [lookup_snoc]
      split <;> rfl

theorem build_idents_lookup (reqs : List Req) : ∀ (m : Maps) (n : Name),
    (build g reqs m).idents.lookup n = (m.idents.lookup n).or ((firstNode reqs n).map (⟨·, g⟩)) := by
  induction reqs with
  | nil => exact fun m n => Option.or_none.symm
  | cons r reqs ih =>
    intro m n
    rw [build_cons, ih, step_idents_lookup, Option.or_assoc, firstNode_cons r reqs]
    cases firstNode [r] n <;> rfl

/-- every registration request of one name comes from the same XSD node (a schema without
    "duplicated identity constraint") -/
def Functional (reqs : List Req) : Prop :=
  ∀ n a b, .ident n a ∈ reqs → .ident n b ∈ reqs → a = b

theorem firstNode_spec (reqs : List Req) (n : Name) :
    (∀ node, firstNode reqs n = some node → .ident n node ∈ reqs) ∧
    (firstNode reqs n = none → ∀ node, .ident n node ∉ reqs) := by
  induction reqs with
  | nil => exact ⟨nofun, fun _ _ => nofun⟩
  | cons r rest ih =>
    rw [firstNode_cons]
    cases h1 : firstNode [r] n with
    | some nd => exact ⟨fun node h => Option.some.inj h ▸ firstNode_single h1 ▸ List.mem_cons_self .., nofun⟩
    | none =>
      refine ⟨fun node h => List.mem_cons_of_mem _ (ih.1 node h), fun h node c => ?_⟩
      rcases List.mem_cons.1 c with c | c
      · rw [← c, firstNode, if_pos rfl] at h1
        cases h1
      · exact ih.2 h node c

theorem firstNode_iff (reqs : List Req) (hf : Functional reqs) (n node : Name) :
    firstNode reqs n = some node ↔ .ident n node ∈ reqs := by
  refine ⟨(firstNode_spec reqs n).1 node, fun h => ?_⟩
  cases c : firstNode reqs n with
  | none => exact absurd h ((firstNode_spec reqs n).2 c node)
  | some nd => rw [hf n nd node ((firstNode_spec reqs n).1 nd c) h]

theorem memberOf_cons {k : Name} {ms : List (Name × Nat)} {l : List (Name × List (Name × Nat))} {h : Name}
    {y : Name × Nat} : MemberOf ((k, ms) :: l) h y ↔ (k = h ∧ y ∈ ms) ∨ MemberOf l h y := by
  constructor
  · rintro ⟨ms', hm, hy⟩
    rcases List.mem_cons.1 hm with e | hm
    · cases e; exact Or.inl ⟨rfl, hy⟩
    · exact Or.inr ⟨ms', hm, hy⟩
  · rintro (⟨rfl, hy⟩ | ⟨ms', hm, hy⟩)
    · exact ⟨ms, List.mem_cons_self .., hy⟩
    · exact ⟨ms', List.mem_cons_of_mem _ hm, hy⟩

theorem addMember_spec (l : List (Name × List (Name × Nat))) (h : Name) (x : Name × Nat) (h' : Name)
    (y : Name × Nat) : MemberOf (addMember l h x) h' y ↔ MemberOf l h' y ∨ (h' = h ∧ y = x) := by
  induction l with
  | nil => rw [addMember, memberOf_cons, or_comm, List.mem_singleton, eq_comm]
  | cons p rest ih =>
    obtain ⟨k, ms⟩ := p
    rw [addMember]
    split
    · next e =>
      have hy : y ∈ (if x ∈ ms then ms else ms ++ [x]) ↔ y ∈ ms ∨ y = x := by
        split
        · next hx => exact ⟨Or.inl, fun c => c.elim id (· ▸ hx)⟩
        · rw [List.mem_append, List.mem_singleton]
      rw [memberOf_cons, memberOf_cons, hy, and_or_left, or_right_comm, e, eq_comm (a := h')]
    · rw [memberOf_cons, memberOf_cons, ih, or_assoc]

theorem step_subst (m : Maps) (r : Req) (h : Name) (y : Name × Nat) :
    MemberOf (step g m r).subst h y ↔ MemberOf m.subst h y ∨ (y.2 = g ∧ r = .subst h y.1) := by
  cases r with
  | glob n' => rw [(step_glob_frame g m n').2.1]; exact (or_iff_left fun c => nomatch c.2).symm
  | ident n' node => rw [(step_ident_frame g m n' node).2.1]; exact (or_iff_left fun c => nomatch c.2).symm
  | subst h0 x =>
    refine (addMember_spec ..).trans (or_congr_right ?_)
    constructor
    · rintro ⟨rfl, rfl⟩; exact ⟨rfl, rfl⟩
    · rintro ⟨rfl, e⟩; cases e; exact ⟨rfl, rfl⟩

theorem build_subst (reqs : List Req) : ∀ (m : Maps) (h : Name) (y : Name × Nat),
    MemberOf (build g reqs m).subst h y ↔ MemberOf m.subst h y ∨ (y.2 = g ∧ .subst h y.1 ∈ reqs) := by
  induction reqs with
  | nil => exact fun m h y => (or_iff_left fun c => nomatch c.2).symm
  | cons r reqs ih =>
    intro m h y
    rw [build_cons, ih, step_subst, or_assoc, ← and_or_left, List.mem_cons, eq_comm (a := r)]

theorem step_errors_mono (m : Maps) (r : Req) (n : Name) (h : n ∈ m.errors) :
    n ∈ (step g m r).errors := by
  cases r with
  | glob n' => simp only [step]; cases m.store.lookup n' <;> first | exact h | exact List.mem_append_left _ h
  | ident n' node =>
    simp only [step]
    cases m.idents.lookup n' with
    | none => exact h
    | some e =>
      dsimp only
      split
      · exact h
      · exact List.mem_append_left _ h
  | subst h0 x => exact h

theorem build_errors_mono (reqs : List Req) : ∀ (m : Maps) (n : Name),
    n ∈ m.errors → n ∈ (build g reqs m).errors := by
  induction reqs with
  | nil => exact fun _ _ h => h
  | cons r reqs ih => exact fun m n h => ih _ n (step_errors_mono g m r n h)

theorem build_refuses_stored (reqs : List Req) : ∀ (m : Maps) (n : Name) (v : Nat),
    m.store.lookup n = some v → .glob n ∈ reqs → n ∈ (build g reqs m).errors := by
  induction reqs with
  | nil => exact fun _ _ _ _ h => nomatch h
  | cons r reqs ih =>
    intro m n v hs h
    rcases List.mem_cons.1 h with rfl | h
    · refine build_errors_mono g reqs _ n ?_
      simp only [step, hs]
      exact List.mem_append_right _ (List.mem_singleton_self n)
    · exact ih _ n v (by rw [step_store_lookup, hs]; rfl) h

theorem step_no_error (m : Maps) (r : Req) (hs : ∀ n, r = .glob n → m.store.lookup n = none)
    (hi : ∀ n node e, r = .ident n node → m.idents.lookup n = some e → e.node = node) :
    (step g m r).errors = m.errors := by
  cases r with
  | glob n => simp only [step, hs n rfl]
  | ident n node =>
    simp only [step]
    cases c : m.idents.lookup n with
    | none => rfl
    | some e => exact congrArg _ (if_pos (hi n node e rfl c))
  | subst h x => rfl

theorem build_no_errors (reqs : List Req) : ∀ (m : Maps),
    m.errors = [] →
    (∀ n, .glob n ∈ reqs → m.store.lookup n = none) →
    (∀ n node e, .ident n node ∈ reqs → m.idents.lookup n = some e → e.node = node) →
    (reqs.filterMap fun | .glob n => some n | _ => none).Nodup → Functional reqs →
    (build g reqs m).errors = [] := by
  induction reqs with
  | nil => exact fun _ he _ _ _ _ => he
  | cons r reqs ih =>
    intro m he hs hi hnd hf
    have hnd' : (reqs.filterMap fun | .glob n => some n | _ => none).Nodup ∧
        ∀ n, r = .glob n → .glob n ∉ reqs := by
      cases r with
      | glob n' =>
        have := List.nodup_cons.1 hnd
        exact ⟨this.2, fun n e hn => this.1 (List.mem_filterMap.2 ⟨_, Req.glob.inj e ▸ hn, rfl⟩)⟩
      | _ => exact ⟨hnd, nofun⟩
    refine ih (step g m r) ?_ (fun n hn => ?_) (fun n node e hn hl => ?_) hnd'.1
      fun n a b ha hb => hf n a b (List.mem_cons_of_mem _ ha) (List.mem_cons_of_mem _ hb)
    · exact (step_no_error g m r (fun n e => hs n (e ▸ List.mem_cons_self ..))
        fun n node e er => hi n node e (er ▸ List.mem_cons_self ..)).trans he
    · rw [step_store_lookup, hs n (List.mem_cons_of_mem _ hn), if_neg fun e => hnd'.2 n e hn]
      rfl
    · rw [step_idents_lookup] at hl
      cases c : m.idents.lookup n with
      | some e0 =>
        rw [c] at hl
        cases hl
        exact hi n node _ (List.mem_cons_of_mem _ hn) c
      | none =>
        rw [c] at hl
        obtain ⟨nd, h1, rfl⟩ := Option.map_eq_some_iff.1 hl
        exact hf n nd node (firstNode_single h1 ▸ List.mem_cons_self ..) (List.mem_cons_of_mem _ hn)

/-- every object held by the registries was created by build `g` -/
structure AllGen (g : Nat) (m : Maps) : Prop where
  store : ∀ p ∈ m.store, p.2 = g
  idents : ∀ p ∈ m.idents, p.2.gen = g
  subst : ∀ h y, MemberOf m.subst h y → y.2 = g

theorem empty_allGen : AllGen g empty :=
  ⟨fun _ h => (nomatch h), fun _ h => (nomatch h), fun _ _ ⟨_, hm, _⟩ => nomatch hm⟩

theorem step_allGen (m : Maps) (r : Req) (h : AllGen g m) : AllGen g (step g m r) := by
  refine ⟨?_, ?_, fun hd y hy => ((step_subst g m r hd y).1 hy).elim (h.subst hd y) (·.1)⟩
  · cases r with
    | glob n' =>
      simp only [step]
      cases m.store.lookup n' with
      | some v => exact h.store
      | none => exact List.forall_mem_append.2 ⟨h.store, List.forall_mem_singleton.2 rfl⟩
    | ident n' node => rw [(step_ident_frame g m n' node).1]; exact h.store
    | subst h0 x => exact h.store
  · cases r with
    | glob n' => rw [(step_glob_frame g m n').1]; exact h.idents
    | ident n' node =>
      simp only [step]
      cases m.idents.lookup n' with
      | some e => dsimp only; split <;> exact h.idents
      | none => exact List.forall_mem_append.2 ⟨h.idents, List.forall_mem_singleton.2 rfl⟩
    | subst h0 x => exact h.idents

theorem build_allGen (reqs : List Req) : ∀ (m : Maps), AllGen g m → AllGen g (build g reqs m) := by
  induction reqs with
  | nil => exact fun _ h => h
  | cons r reqs ih => exact fun m h => ih _ (step_allGen g m r h)

end XsVerif.Rebuild
