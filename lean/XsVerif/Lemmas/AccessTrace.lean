/-
  C12 — URL-level lemmas for the trace model of nested loads (Model/AccessTrace.lean): the possible
  results of `normalize_url`, how a string that starts with a scheme is classified,
  `os.path.dirname` of a rendered URL, the base-inheritance step.
  Core Lean only.
-/
import XsVerif.Lemmas.AccessCoding
namespace XsVerif.Access

theorem pureStr_abs {root : Nat} (h : 0 < root) (parts : List Bytes) :
    isAbsPath (pureStr root parts) = true := by
  obtain ⟨k, rfl⟩ : ∃ k, root = k + 1 := ⟨root - 1, by omega⟩
  unfold pureStr
  simp [List.replicate_succ, startsWith, isAbsPath]

theorem joinPath_abs_left {cwd : Bytes} (x : Bytes) (h : isAbsPath cwd = true) :
    isAbsPath (joinPath cwd x) = true := by
  unfold joinPath
  split
  · rename_i hx; exact pureStr_abs (initialSlashes_pos hx) _
  · exact pureStr_abs (initialSlashes_pos h) _

theorem fromUri_error {x : Bytes} {e : Norm} (h : fromUri x = .error e) :
    e = .error ∨ e = .outOfScope := by
  unfold fromUri at h
  rcases ite_eq_cases h with ⟨-, h⟩ | ⟨-, h⟩
  · cases h; exact .inl rfl
  rcases ite_eq_cases h with ⟨-, h⟩ | ⟨-, h⟩
  · cases h
  rcases ite_eq_cases h with ⟨-, h⟩ | ⟨-, h⟩
  · cases h; exact .inr rfl
  rcases ite_eq_cases h with ⟨-, h⟩ | ⟨-, h⟩
  · cases h; exact .inr rfl
  rcases ite_eq_cases h with ⟨-, h⟩ | ⟨-, h⟩
  · cases h; exact .inr rfl
  · cases h

/-- What `normalize_url cwd _ url` can return: the rendering of a path (absolute when the working
    directory is), a remote result whose scheme and authority are those of some string `x` with a
    non-local scheme (`x` is the location itself when no path was joined), or a failure. -/
inductive NormCase (cwd url : Bytes) : Norm → Prop
  | file (j : Bytes) (h : isAbsPath cwd = true → isAbsPath j = true) : NormCase cwd url (mkFile j)
  | remote (x : Bytes) (jn : Option Bytes) (h : isLocalScheme (urlsplit x).scheme = false)
      (hx : jn = none → x = lstrip url) :
      NormCase cwd url (.remote (urlsplit x).scheme (urlsplit x).netloc jn)
  | outOfScope : NormCase cwd url .outOfScope
  | error : NormCase cwd url .error

theorem NormCase.ofFromUri {cwd url x : Bytes} {e : Norm} (h : fromUri x = .error e) :
    NormCase cwd url e := by
  rcases fromUri_error h with rfl | rfl
  · exact .error
  · exact .outOfScope

theorem normalizeUrl_cases (cwd : Bytes) (base : Option Bytes) (url : Bytes) :
    NormCase cwd url (normalizeUrl cwd base url) := by
  generalize h : normalizeUrl cwd base url = r
  unfold normalizeUrl at h
  have hcwd : ∀ x, isAbsPath cwd = true → isAbsPath (joinPath cwd x) = true := fun x => joinPath_abs_left x
  rcases ite_eq_cases h with ⟨hl, rfl⟩ | ⟨-, h⟩
  · exact .remote _ _ (by simpa using hl) (fun _ => rfl)
  rcases ite_eq_cases h with ⟨-, rfl⟩ | ⟨-, h⟩
  · exact .outOfScope
  cases hf : fromUri (lstrip url) with
  | error e => rw [hf] at h; subst h; exact .ofFromUri hf
  | ok path =>
    rw [hf] at h
    rcases ite_eq_cases h with ⟨ha, rfl⟩ | ⟨-, h⟩
    · exact .file _ (fun _ => ha)
    cases base with
    | none => subst h; exact .file _ (hcwd _)
    | some b0 =>
      rcases ite_eq_cases h with ⟨-, rfl⟩ | ⟨-, h⟩
      · exact .outOfScope
      cases hb : fromUri (lstrip b0) with
      | error e => rw [hb] at h; subst h; exact .ofFromUri hb
      | ok bpath =>
        rw [hb] at h
        rcases ite_eq_cases h with ⟨-, h⟩ | ⟨hl, h⟩
        · rcases ite_eq_cases h with ⟨ha, rfl⟩ | ⟨-, rfl⟩
          · exact .file _ (fun _ => ha)
          · exact .file _ (hcwd _)
        rcases ite_eq_cases h with ⟨-, rfl⟩ | ⟨-, rfl⟩
        · exact .remote _ _ (by simpa using hl) nofun
        · exact .file _ (hcwd _)

theorem mkFile_abs {j : Bytes} (hj : isAbsPath j = true) :
    mkFile j = .file (normpath j) (filePre ++ quote (normpath j)) := by
  have : startsWith (normpath j) [47] = true := normpath_isAbs j hj
  simp [mkFile, asUri, this]

theorem normalizeUrl_file_shape (cwd : Bytes) (base : Option Bytes) (url p u : Bytes)
    (hcwd : isAbsPath cwd = true) (h : normalizeUrl cwd base url = .file p u) :
    ∃ j, isAbsPath j = true ∧ p = normpath j ∧ u = filePre ++ quote p := by
  have c := normalizeUrl_cases cwd base url
  rw [h] at c
  cases c with
  | file j hj => exact ⟨j, hj hcwd, rfl, (Norm.file.inj (mkFile_abs (hj hcwd))).2⟩

theorem normalizeUrl_remote_src {cwd : Bytes} {base : Option Bytes} {url s n : Bytes} {j : Option Bytes}
    (hn : normalizeUrl cwd base url = .remote s n j) :
    isLocalScheme s = false ∧ (∃ x, s = (urlsplit x).scheme) ∧
      (j = none → s = (urlsplit (lstrip url)).scheme) := by
  have c := normalizeUrl_cases cwd base url
  rw [hn] at c
  cases c with
  | remote x _ hl hx => exact ⟨hl, ⟨x, rfl⟩, fun h => by rw [hx h]⟩

theorem dropWhile_all_false {p : Nat → Bool} {l : Bytes} (h : ∀ c ∈ l, p c = false) :
    l.dropWhile p = l := by
  cases l with
  | nil => rfl
  | cons x t => simp [h x (by simp)]

theorem not_blank {c : Nat} (h : 32 < c) :
    isSpace c = false ∧ isC0OrSpace c = false ∧ (!(c == 9 || c == 10 || c == 13)) = true := by
  simp [isSpace, isC0OrSpace]; omega

theorem clean_text {s : Bytes} (h : ∀ c ∈ s, 32 < c) :
    lstrip s = s ∧ strip s = s ∧ s.dropWhile isC0OrSpace = s ∧
      s.filter (fun c => !(c == 9 || c == 10 || c == 13)) = s := by
  have hl : lstrip s = s := dropWhile_all_false fun c hc => (not_blank (h c hc)).1
  refine ⟨hl, ?_, dropWhile_all_false fun c hc => (not_blank (h c hc)).2.1,
    List.filter_eq_self.mpr fun c hc => (not_blank (h c hc)).2.2⟩
  unfold strip
  rw [hl, dropWhile_all_false fun c hc => (not_blank (h c (List.mem_reverse.mp hc))).1,
    List.reverse_reverse]

theorem isSafe_ge {c : Nat} (h : isSafe c = true) : 45 ≤ c := by
  unfold isSafe isAlpha isDigit at h
  simp only [Bool.or_eq_true, Bool.and_eq_true, decide_eq_true_eq, beq_iff_eq] at h
  omega

theorem fileUrl_ge (p : Bytes) : ∀ c ∈ filePre ++ quote p, 32 < c := by
  intro c hc
  rcases List.mem_append.mp hc with hc | hc
  · simp [filePre] at hc; omega
  · rcases mem_quote hc with ⟨-, hs⟩ | h
    · have := isSafe_ge hs; omega
    · omega

/-- a syntactically valid URL scheme: a letter followed by scheme characters -/
def SchemeOK (s : Bytes) : Prop := (∃ c t, s = c :: t ∧ isAlpha c = true) ∧ ∀ x ∈ s, isSchemeChar x = true

theorem scanScheme_scheme (s r acc : Bytes) (hs : ∀ x ∈ s, isSchemeChar x = true) :
    scanScheme acc (s ++ 58 :: r) = some (acc.reverse ++ s, r) := by
  induction s generalizing acc with
  | nil => simp [scanScheme]
  | cons x t ih =>
    have hx := hs x (by simp)
    have h58 : x ≠ 58 := by intro e; subst e; revert hx; decide
    simp only [List.cons_append, scanScheme, h58, if_false, hx, if_true]
    rw [ih _ (fun y hy => hs y (by simp [hy]))]
    simp

theorem schemeChar_gt {x : Nat} (h : isSchemeChar x = true) : 32 < x := by
  unfold isSchemeChar isAlpha isDigit at h
  simp only [Bool.or_eq_true, Bool.and_eq_true, decide_eq_true_eq, beq_iff_eq] at h
  omega

theorem splitScheme_scheme (s r : Bytes) (hs : SchemeOK s) : splitScheme (s ++ 58 :: r) = (s.map lower, r) := by
  obtain ⟨⟨c, t, rfl, hc⟩, hall⟩ := hs
  have := scanScheme_scheme (c :: t) r [] hall
  simp only [List.reverse_nil, List.nil_append, List.cons_append] at this
  simp only [splitScheme, List.cons_append, hc, if_true, this]

theorem urlsplit_scheme (s rest : Bytes) (hs : SchemeOK s) :
    (urlsplit (s ++ 58 :: rest)).scheme = s.map lower := by
  have hgt := fun x hx => not_blank (schemeChar_gt (hs.2 x hx))
  have hd : (s ++ 58 :: rest).dropWhile isC0OrSpace = s ++ 58 :: rest := by
    obtain ⟨c, t, rfl, -⟩ := hs.1
    simp [(hgt c (by simp)).2.1]
  have hf : (s ++ 58 :: rest).filter (fun x => !(x == 9 || x == 10 || x == 13)) =
      s ++ 58 :: rest.filter (fun x => !(x == 9 || x == 10 || x == 13)) := by
    rw [List.filter_append, List.filter_eq_self.mpr fun x hx => (hgt x hx).2.2]
    rfl
  unfold urlsplit
  simp only [hd, hf, splitScheme_scheme _ _ hs]

theorem strip_keeps {pre rest : Bytes} {y : Nat} (h0 : lstrip (pre ++ y :: rest) = pre ++ y :: rest)
    (hy : isSpace y = false) : ∃ rest', strip (pre ++ y :: rest) = pre ++ y :: rest' := by
  have e : (pre ++ y :: rest).reverse = rest.reverse ++ y :: pre.reverse := by simp
  unfold strip
  rw [h0, e, List.dropWhile_append]
  split
  · exact ⟨[], by simp [hy]⟩
  · exact ⟨(rest.reverse.dropWhile isSpace).reverse, by simp⟩

/-- `is_local_url` / `is_remote_url` (urls.py:80-113) on a string that starts with a scheme and ':'
    look at the scheme only — whatever follows the colon — unless the string contains a line feed. -/
theorem classify_scheme (s rest : Bytes) (hs : SchemeOK s) :
    classify (s ++ 58 :: rest) =
      if (s ++ 58 :: rest).contains 10 then .neither
      else if isLocalScheme (s.map lower) then .loc else .remote := by
  obtain ⟨c, t, rfl, hc⟩ := hs.1
  have hl : lstrip (c :: t ++ 58 :: rest) = c :: t ++ 58 :: rest := by
    simp [lstrip, (not_blank (schemeChar_gt (hs.2 c (by simp)))).1]
  -- the scheme and the colon survive `strip`: the colon is not white space
  obtain ⟨rest', hst⟩ := strip_keeps hl (by decide)
  have h60 : startsWith (c :: t ++ 58 :: rest) [60] = false := by
    simp [startsWith]; rintro rfl; revert hc; decide
  unfold classify
  rw [hl, h60, hst, urlsplit_scheme (c :: t) rest' hs, Bool.or_false]

def fileScheme : Bytes := [102, 105, 108, 101]

theorem schemeOK_file : SchemeOK fileScheme :=
  ⟨⟨102, [105, 108, 101], rfl, by decide⟩, by decide⟩

theorem filePre_eq (s : Bytes) : filePre ++ s = fileScheme ++ 58 :: 47 :: 47 :: s := rfl

theorem contains_eq_false {a : Nat} {l : Bytes} (h : a ∉ l) : l.contains a = false := by
  simpa using h

theorem classify_fileScheme {rest : Bytes} (h : 10 ∉ rest) : classify (fileScheme ++ 58 :: rest) = .loc := by
  rw [classify_scheme _ _ schemeOK_file, contains_eq_false (by simpa [fileScheme] using h)]
  decide

theorem classify_asUri (j : Bytes) : classify (asUri j) = .loc := by
  have h10 : 10 ∉ quote (normpath j) := not_mem_quote (by decide) (by decide) _
  simp only [asUri]
  split
  · exact classify_fileScheme (rest := 47 :: 47 :: _) (by simpa using h10)
  · exact classify_fileScheme h10

theorem normalizeUrl_file_local {cwd : Bytes} {base : Option Bytes} {url p u : Bytes}
    (h : normalizeUrl cwd base url = .file p u) : classify u = .loc := by
  have c := normalizeUrl_cases cwd base url
  rw [h] at c
  cases c with
  | file j _ => exact classify_asUri j

theorem breakAt_none (p : Nat → Bool) (l : Bytes) (h : ∀ c ∈ l, p c = false) :
    breakAt p l = (l, false, []) := by
  induction l with
  | nil => rfl
  | cons a t ih =>
    simp only [breakAt, h a (by simp)]
    rw [ih (fun c hc => h c (by simp [hc]))]
    simp

theorem quote_abs {q : Bytes} (hq : isAbsPath q = true) : ∃ r, q = 47 :: r ∧ quote q = 47 :: quote r := by
  obtain ⟨r, rfl⟩ := (startsWith_iff _ _).mp hq
  exact ⟨r, rfl, by simp [quote_cons, qc_47]⟩

theorem urlsplit_fileUrl (q : Bytes) (hq : isAbsPath q = true) :
    urlsplit (filePre ++ quote q) =
      { scheme := fileScheme, netloc := [], path := quote q, query := [], hasQuery := false,
        fragment := [], hasFragment := false } := by
  obtain ⟨-, -, hd, hf⟩ := clean_text (fileUrl_ge q)
  obtain ⟨r, rfl, hr⟩ := quote_abs hq
  -- neither '#' nor '?' occurs in the encoded path
  have hno : ∀ x, x ∉ quote (47 :: r) → breakAt (· == x) (47 :: quote r) = (47 :: quote r, false, []) :=
    fun x hx => breakAt_none _ _ fun c hc => by
      rw [← hr] at hc; simp only [beq_eq_false_iff_ne]; rintro rfl; exact hx hc
  unfold urlsplit
  simp only [hd, hf]
  rw [filePre_eq, splitScheme_scheme _ _ schemeOK_file, hr]
  simp [hno 35 (not_mem_quote (by decide) (by decide) _), hno 63 (not_mem_quote (by decide) (by decide) _)]
  decide

/-- neither '\\' nor ':' occurs in percent-encoded text -/
theorem windowsForm_quote (q : Bytes) : windowsForm (quote q) = startsWith (quote q) [47, 47] := by
  unfold windowsForm
  rw [contains_eq_false (not_mem_quote (by decide) (by decide) q)]
  have h58 : 58 ∉ quote q := not_mem_quote (by decide) (by decide) q
  split
  · rename_i c t heq
    have : 58 ∈ (quote q).dropWhile (· == 47) := by rw [heq]; simp
    exact absurd (List.dropWhile_subset _ this) h58
  · split
    · rename_i heq
      rw [heq] at h58; simp at h58
    · simp

theorem fromUri_fileUrl (q : Bytes) (hq : isAbsPath q = true) :
    fromUri (filePre ++ quote q) =
      if startsWith (quote q) [47, 47] then .error .outOfScope else .ok q := by
  unfold fromUri
  simp only [(clean_text (fileUrl_ge q)).2.1, urlsplit_fileUrl q hq]
  simp [fileScheme, urn, isLocalScheme, windowsForm_quote, unquote_quote]

/-- `normalize_url` of a rendered file URL: the URL of the normalised path (whatever the base), unless
    the encoded path starts with `//`, which is outside the modelled forms -/
theorem normalizeUrl_fileUrl (cwd : Bytes) (base : Option Bytes) (q : Bytes) (hq : isAbsPath q = true) :
    normalizeUrl cwd base (filePre ++ quote q) =
      if startsWith (quote q) [47, 47] then .outOfScope else mkFile q := by
  unfold normalizeUrl
  simp only [(clean_text (fileUrl_ge q)).1, urlsplit_fileUrl q hq, fromUri_fileUrl q hq]
  have h1 : startsWith (filePre ++ quote q) [47, 47] = false := by simp [filePre, startsWith]
  have h2 : startsWith (filePre ++ quote q) [92, 92] = false := by simp [filePre, startsWith]
  simp only [h1, h2]
  by_cases hw : startsWith (quote q) [47, 47] = true
  · simp [hw, fileScheme, isLocalScheme]
  · simp [hw, fileScheme, isLocalScheme, hq]

theorem join_concat (init : List Bytes) (c : Bytes) (h : init ≠ []) :
    join (init ++ [c]) = join init ++ 47 :: c := by
  induction init with
  | nil => exact absurd rfl h
  | cons a t ih =>
    cases t with
    | nil => simp [join]
    | cons b r =>
      have := ih (by simp)
      simp only [List.cons_append, join] at this ⊢
      rw [this]; simp

theorem join_last_ne_sep (cs : List Bytes) (hne : cs ≠ []) (h : ∀ c ∈ cs, Seg c) :
    ∃ h' x, join cs = h' ++ [x] ∧ x ≠ 47 := by
  induction cs with
  | nil => exact absurd rfl hne
  | cons a t ih =>
    cases t with
    | nil =>
      have ha := h a (by simp)
      refine ⟨a.dropLast, a.getLast ha.1, (List.dropLast_concat_getLast ha.1).symm, ?_⟩
      intro e; exact ha.2 (e ▸ List.getLast_mem ha.1)
    | cons b r =>
      obtain ⟨h', x, e, hx⟩ := ih (by simp) (fun c hc => h c (by simp [hc]))
      refine ⟨a ++ 47 :: h', x, ?_, hx⟩
      simp only [join]; rw [e]; simp

theorem rstripSlash_concat_sep (h : Bytes) : rstripSlash (h ++ [47]) = rstripSlash h := by
  simp [rstripSlash]

theorem rstripSlash_last_ne (h : Bytes) (x : Nat) (hx : x ≠ 47) : rstripSlash (h ++ [x]) = h ++ [x] := by
  simp [rstripSlash, hx]

theorem dirname_append (h w : Bytes) (hw : 47 ∉ w) :
    dirname (h ++ 47 :: w) = if rstripSlash h = [] then h ++ [47] else rstripSlash h := by
  unfold dirname
  have : ((h ++ 47 :: w).reverse.dropWhile (· != 47)).reverse = h ++ [47] := by
    have e : (h ++ 47 :: w).reverse = w.reverse ++ 47 :: h.reverse := by simp
    rw [e, List.dropWhile_append_of_pos (p := (· != 47)) fun a ha =>
        bne_iff_ne.mpr fun (e : a = 47) => hw (List.mem_reverse.mp (e ▸ ha)),
      List.dropWhile_cons_of_neg (by simp)]
    simp
  simp only [this, rstripSlash_concat_sep]
  by_cases hs : rstripSlash h = [] <;> simp [hs]

theorem qc_last {x : Nat} (hx : x ≠ 47) : ∃ l y, qc x = l ++ [y] ∧ y ≠ 47 := by
  unfold qc
  split
  · exact ⟨[], x, rfl, hx⟩
  · refine ⟨[37, hex (x / 16)], hex (x % 16), rfl, ?_⟩
    have := hex_digit (n := x % 16) (by omega)
    omega

theorem dirname_fileUrl (P c : Bytes) (hP : ∃ h' x, P = h' ++ [x] ∧ x ≠ 47) (hc : 47 ∉ c) :
    dirname (filePre ++ quote (P ++ 47 :: c)) = filePre ++ quote P := by
  obtain ⟨h', x, rfl, hx⟩ := hP
  obtain ⟨l, y, hq, hy⟩ := qc_last hx
  have e : filePre ++ quote (h' ++ [x] ++ 47 :: c) = (filePre ++ quote (h' ++ [x])) ++ 47 :: quote c := by
    simp [quote, qc_47]
  have e2 : filePre ++ quote (h' ++ [x]) = (filePre ++ quote h' ++ l) ++ [y] := by
    simp [quote, hq]
  rw [e, dirname_append _ _ (quote_noSep hc), e2, rstripSlash_last_ne _ _ hy]
  simp

/-- The base-inheritance step (`BaseUrlOption.__get__`: the public `base_url` of a resource with a
    URL is `os.path.dirname(url)`), for the URL of any admitted local resource. -/
theorem childBase_confined (cwd j : Bytes) (hj : isAbsPath j = true) (d0 : List Bytes)
    (hpre : d0 <+: comps (normpath j)) (hne : d0 ≠ comps (normpath j)) (d' du' : Bytes)
    (h : normalizeUrl cwd none (dirname (filePre ++ quote (normpath j))) = .file d' du') :
    d0 <+: comps d' := by
  obtain ⟨n, N, hn, hN, hclean, hc⟩ := normpath_abs_shape j hj
  rw [hc] at hpre hne
  rcases List.eq_nil_or_concat N with rfl | ⟨init, c, rfl⟩
  · exact absurd (List.prefix_nil.mp hpre) hne
  rw [List.concat_eq_append] at hpre hne hN hclean
  have hpre' : d0 <+: init := (List.prefix_concat_iff.mp hpre).resolve_left hne
  by_cases hi : init = []
  · subst hi; rw [List.prefix_nil.mp hpre']; exact List.nil_prefix
  have hsi : ∀ x ∈ init, Seg x := fun x hx => (hclean x (by simp [hx])).seg
  obtain ⟨h', x, e, hx⟩ := join_last_ne_sep init hi hsi
  rw [hN, join_concat init c hi, ← List.append_assoc,
    dirname_fileUrl _ c ⟨List.replicate n 47 ++ h', x, by rw [e]; simp, hx⟩ (hclean c (by simp)).2.2.2] at h
  rw [normalizeUrl_fileUrl cwd none _ (isAbsPath_replicate hn _)] at h
  split at h
  · cases h
  · simp only [mkFile, Norm.file.injEq] at h
    have hnorm : Normal (n != 0) init :=
      ⟨0, init, by simp, fun x hx => hclean x (by simp [hx]), fun _ => rfl⟩
    rw [normpath_of_normal n init (by omega) hnorm (fun e => absurd e hi)] at h
    rw [← h.1, comps_replicate_append, comps_join_seg init hsi]
    exact hpre'

end XsVerif.Access
