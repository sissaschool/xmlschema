/-
  C12 — a scheme that `urlsplit` returns is empty or a valid one in lower case,
  and `urlsplit` reads such a scheme back from any string that starts with it and ':';
  hence the rendering of remote URLs (`encode_url(get_uri(...))`, Model/AccessTrace.lean)
  yields `scheme ':' rest` with a valid non-local scheme (`render_shape`).  Core Lean only.
-/
import XsVerif.Lemmas.AccessTrace
import XsVerif.Model.AccessTrace

namespace XsVerif.Access

theorem lower_alpha {c : Nat} (h : isAlpha c = true) : isAlpha (lower c) = true := by
  unfold lower; unfold isAlpha at h ⊢
  simp only [Bool.or_eq_true, Bool.and_eq_true, decide_eq_true_eq] at h ⊢
  split <;> omega

theorem lower_schemeChar {c : Nat} (h : isSchemeChar c = true) : isSchemeChar (lower c) = true := by
  unfold lower; unfold isSchemeChar isAlpha isDigit at h ⊢
  simp only [Bool.or_eq_true, Bool.and_eq_true, decide_eq_true_eq, beq_iff_eq] at h ⊢
  split <;> omega

theorem lower_lower (c : Nat) : lower (lower c) = lower c := by
  unfold lower
  simp only [Bool.and_eq_true, decide_eq_true_eq]
  split
  · split <;> omega
  · rfl

/-- a valid scheme in lower case -/
def LowerScheme (s : Bytes) : Prop := SchemeOK s ∧ s.map lower = s

theorem SchemeOK.map_lower {s : Bytes} (h : SchemeOK s) : LowerScheme (s.map lower) := by
  obtain ⟨⟨c, t, rfl, hc⟩, hall⟩ := h
  refine ⟨⟨⟨lower c, t.map lower, rfl, lower_alpha hc⟩, ?_⟩, ?_⟩
  · intro x hx
    obtain ⟨y, hy, rfl⟩ := List.mem_map.mp hx
    exact lower_schemeChar (hall y hy)
  · simp [Function.comp_def, lower_lower]

theorem scanScheme_spec (u acc s rest : Bytes) (h : scanScheme acc u = some (s, rest)) :
    ∃ pre, s = acc.reverse ++ pre ∧ u = pre ++ 58 :: rest ∧ ∀ x ∈ pre, isSchemeChar x = true := by
  induction u generalizing acc with
  | nil => simp [scanScheme] at h
  | cons c t ih =>
    rw [scanScheme] at h
    rcases ite_eq_cases h with ⟨rfl, h⟩ | ⟨-, h⟩
    · cases h; exact ⟨[], by simp, rfl, nofun⟩
    rcases ite_eq_cases h with ⟨hsc, h⟩ | ⟨-, h⟩
    · obtain ⟨pre, rfl, rfl, hall⟩ := ih _ h
      exact ⟨c :: pre, by simp, rfl, List.forall_mem_cons.mpr ⟨hsc, hall⟩⟩
    · cases h

theorem splitScheme_cases (v : Bytes) :
    splitScheme v = ([], v) ∨
      ∃ s rest, SchemeOK s ∧ v = s ++ 58 :: rest ∧ splitScheme v = (s.map lower, rest) := by
  cases v with
  | nil => exact .inl rfl
  | cons c t =>
    by_cases hc : isAlpha c = true
    · cases hscan : scanScheme [] (c :: t) with
      | none => exact .inl (by simp [splitScheme, hc, hscan])
      | some sr =>
        obtain ⟨pre, -, hu, hall⟩ := scanScheme_spec _ _ _ _ hscan
        have hs : SchemeOK pre := by
          refine ⟨?_, hall⟩
          cases pre with
          | nil => cases hu; exact absurd hc (by decide)
          | cons a r => cases hu; exact ⟨c, r, rfl, hc⟩
        exact .inr ⟨pre, sr.2, hs, hu, hu ▸ splitScheme_scheme pre sr.2 hs⟩
    · exact .inl (by simp [splitScheme, hc])

theorem urlsplit_scheme_ok (u : Bytes) : (urlsplit u).scheme = [] ∨ LowerScheme (urlsplit u).scheme := by
  have : (urlsplit u).scheme = (splitScheme ((u.dropWhile isC0OrSpace).filter (fun c => !(c == 9 || c == 10 || c == 13)))).1 := by
    unfold urlsplit; rfl
  rw [this]
  rcases splitScheme_cases _ with h | ⟨s, rest, hs, -, h⟩
  · exact .inl (by rw [h])
  · exact .inr (by rw [h]; exact hs.map_lower)

/-- strings of the shape `scheme ':' rest` -/
def Prefixed (s g : Bytes) : Prop := ∃ rest, g = s ++ 58 :: rest

theorem Prefixed.append {s g : Bytes} (h : Prefixed s g) (t : Bytes) : Prefixed s (g ++ t) := by
  obtain ⟨r, rfl⟩ := h; exact ⟨r ++ t, by simp⟩

theorem Prefixed.ite {s g : Bytes} (h : Prefixed s g) (c : Prop) [Decidable c] (t : Bytes) :
    Prefixed s (if c then g ++ t else g) := by
  split
  · exact h.append t
  · exact h

theorem getUri_prefixed (s n p q f g : Bytes) (hs : s ≠ []) (h : getUri s n p q f = some g) : Prefixed s g := by
  unfold getUri at h
  rcases ite_eq_cases h with ⟨hu, h⟩ | ⟨-, h⟩
  · rcases ite_eq_cases h with ⟨-, h⟩ | ⟨-, h⟩
    · cases h
    rcases ite_eq_cases h with ⟨-, h⟩ | ⟨-, h⟩
    · cases h
    · cases h; exact ⟨p, by rw [hu]⟩
  · cases h
    rw [if_pos hs]
    exact Prefixed.ite (Prefixed.ite ⟨_, rfl⟩ _ _) _ _

theorem urlunsplit_prefixed (s n p q f : Bytes) (hs : s ≠ []) : Prefixed s (urlunsplit s n p q f) := by
  unfold urlunsplit
  simp only [hs, ne_eq, not_false_eq_true, if_true]
  exact (Prefixed.ite (Prefixed.ite ⟨_, rfl⟩ _ _) _ _)

theorem SchemeOK.ne_nil {s : Bytes} (h : SchemeOK s) : s ≠ [] := by
  obtain ⟨⟨c, t, rfl, -⟩, -⟩ := h; simp

theorem Prefixed.rebuild {s g : Bytes} (hs : LowerScheme s) (hg : Prefixed s g) (n p q f : Bytes) :
    Prefixed s (urlunsplit (urlsplit g).scheme n p q f) := by
  obtain ⟨r, rfl⟩ := hg
  rw [urlsplit_scheme s r hs.1, hs.2]
  exact urlunsplit_prefixed s n p q f hs.1.ne_nil

theorem decodeUrl_cases {g url : Bytes} (h : decodeUrl g = some url) :
    url = g ∨ ∃ n p q f, url = urlunsplit (urlsplit g).scheme n p q f := by
  simp only [decodeUrl, Option.bind_eq_bind, Option.pure_def, Option.bind_eq_some_iff] at h
  obtain ⟨e, -, h⟩ := h
  split at h
  · exact .inl (Option.some.inj h).symm
  · simp only [Option.bind_eq_some_iff] at h
    obtain ⟨n, -, p, -, q, -, f, -, h⟩ := h
    exact .inr ⟨n, p, q, f, (Option.some.inj h).symm⟩

theorem encodeUrl_cases {g r : Bytes} (h : encodeUrl g = some r) :
    r = g ∨ ∃ g' n p q f, (g' = g ∨ decodeUrl g = some g') ∧ r = urlunsplit (urlsplit g').scheme n p q f := by
  simp only [encodeUrl, Option.bind_eq_bind, Option.pure_def, Option.bind_eq_some_iff] at h
  obtain ⟨e, -, h⟩ := h
  split at h
  · exact .inl (Option.some.inj h).symm
  · simp only [Option.bind_eq_some_iff] at h
    obtain ⟨g', ⟨e', -, hg'⟩, h⟩ := h
    refine .inr ⟨g', _, _, _, _, ?_, (Option.some.inj h).symm⟩
    split at hg'
    · exact .inr hg'
    · exact .inl (Option.some.inj hg').symm

theorem decodeUrl_prefixed (s g url : Bytes) (hs : LowerScheme s) (hg : Prefixed s g)
    (h : decodeUrl g = some url) : Prefixed s url := by
  rcases decodeUrl_cases h with rfl | ⟨n, p, q, f, rfl⟩
  · exact hg
  · exact hg.rebuild hs n p q f

theorem encodeUrl_prefixed (s g r : Bytes) (hs : LowerScheme s) (hg : Prefixed s g)
    (h : encodeUrl g = some r) : Prefixed s r := by
  rcases encodeUrl_cases h with rfl | ⟨g', n, p, q, f, hg', rfl⟩
  · exact hg
  · have : Prefixed s g' := hg'.elim (· ▸ hg) (decodeUrl_prefixed s g g' hs hg)
    exact this.rebuild hs n p q f

/-- `encode_url(get_uri(scheme, ...))` for a non-local scheme that `urlsplit` has produced -/
theorem render_shape (x n p q f r : Bytes) (hloc : isLocalScheme (urlsplit x).scheme = false)
    (h : getUri (urlsplit x).scheme n p q f >>= encodeUrl = some r) :
    ∃ s rest, r = s ++ 58 :: rest ∧ SchemeOK s ∧ isLocalScheme (s.map lower) = false := by
  have hne : (urlsplit x).scheme ≠ [] := by intro e; rw [e] at hloc; simp [isLocalScheme] at hloc
  have hs := (urlsplit_scheme_ok x).resolve_left hne
  obtain ⟨g, hg, h⟩ := Option.bind_eq_some_iff.mp h
  obtain ⟨rest, hr⟩ := encodeUrl_prefixed _ g r hs (getUri_prefixed _ _ _ _ _ g hne hg) h
  exact ⟨_, rest, hr, hs.1, by rw [hs.2]; exact hloc⟩

end XsVerif.Access
