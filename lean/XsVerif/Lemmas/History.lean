/-
  Helper lemmas for C10 (history neutrality) over XsVerif/Model/History.lean.
-/
import XsVerif.Model.History

namespace XsVerif.History

variable {sch : Sch}

/-- `d` can be bound to `c` by some xsi:type widening -/
def Widenable (sch : Sch) (c : Con) (d : Decl) : Prop :=
  ∃ d0 t, sch.isComplex t = true ∧ d ∈ sch.widen c d0 t

theorem mem_widen {c d0 t d} :
    d ∈ sch.widen c d0 t ↔ ∃ e ∈ sch.wtab, e.1 = (c, d0, t) ∧ d ∈ e.2 := by
  simp only [Sch.widen, List.mem_flatMap, List.mem_filter, beq_iff_eq, and_assoc]

theorem widenableB_iff (sch : Sch) (c : Con) (d : Decl) :
    widenableB sch c d = true ↔ Widenable sch c d := by
  simp only [widenableB, List.any_eq_true, Bool.and_eq_true, beq_iff_eq, List.contains_iff_mem, Widenable]
  constructor
  · rintro ⟨⟨⟨_, d0, t⟩, l⟩, he, ⟨rfl, hc⟩, hd⟩
    exact ⟨d0, t, hc, mem_widen.2 ⟨_, he, rfl, hd⟩⟩
  · rintro ⟨d0, t, hc, hd⟩
    obtain ⟨⟨_, l⟩, he, rfl, hd⟩ := mem_widen.1 hd
    exact ⟨_, he, ⟨rfl, hc⟩, hd⟩

theorem mem_ins {α} [BEq α] [LawfulBEq α] {x y : α} {l : List α} : x ∈ ins y l ↔ x = y ∨ x ∈ l := by
  unfold ins
  split
  · next h => exact ⟨Or.inr, fun h' => h'.elim (· ▸ List.contains_iff_mem.1 h) id⟩
  · exact List.mem_cons

theorem isSel_iff {r : Res} {c : Con} {d : Decl} :
    isSel sch r c d = true ↔ (c, d) ∈ sch.base ∨ (c, d) ∈ r.sel := by
  simp only [isSel, Bool.or_eq_true, List.contains_iff_mem]

theorem lookup_mem {α β} [BEq α] [LawfulBEq α] {k : α} {v : β} {l : List (α × β)} (h : l.lookup k = some v) :
    (k, v) ∈ l := by
  obtain ⟨l₁, l₂, rfl, _⟩ := List.lookup_eq_some_iff.1 h
  exact List.mem_append_right _ (List.mem_cons_self ..)

/-- the residue invariant -/
structure Inv (sch : Sch) (r : Res) : Prop where
  /-- every addition to `selected_by` is a widening the schema allows -/
  sel : ∀ p ∈ r.sel, Widenable sch p.1 p.2
  /-- every addition to `identity.elements` is a widening the schema allows -/
  elems : ∀ p ∈ r.elems, Widenable sch p.1 p.2
  /-- every memo entry is the value of the pure function -/
  memo : ∀ kv ∈ r.memo, kv.2 = sch.pure kv.1
  /-- a recorded (type, constraint) pair means the constraint HAS been widened for it -/
  pairs : ∀ d t c, XsiEntry.pair d t c ∈ r.xsi → ∀ d' ∈ sch.widen c d t, (c, d') ∈ r.sel
  /-- only namespaces that have a location get loaded on demand -/
  loadedOK : ∀ n ∈ r.loaded, n ∈ sch.loadable
  /-- `identity.elements` is a function of its key: the selectors stored under a declaration are those of the
      declaration's own type -/
  cacheOK : ∀ e ∈ r.cache, e.2 = sch.declType e.1.2

theorem inv_fresh {loaded : List Nat} (h : ∀ n ∈ loaded, n ∈ sch.loadable) (scratch : List Nat)
    (stale : Bool) :
    Inv sch { xsi := [], elems := [], sel := [], memo := [], scratch, loaded, stale, cache := [] } :=
  ⟨nofun, nofun, nofun, fun _ _ _ => nofun, h, nofun⟩

theorem inv_init (sch : Sch) : Inv sch Res.init := inv_fresh (loaded := []) nofun [] false

theorem inv_rebuild {r : Res} {n : Nat} (h : Inv sch r) (hn : n ∈ sch.loadable) :
    Inv sch (rebuild r n) :=
  inv_fresh (List.forall_mem_cons.2 ⟨hn, h.loadedOK⟩) [] true

theorem inv_unstale {r : Res} (h : Inv sch r) : Inv sch { r with stale := false } :=
  { h with }

/-- a write that cannot break the invariant in state `r` -/
def wOK (sch : Sch) (r : Res) : Write → Prop
  | .elem c d t => Widenable sch c d ∧ t = sch.declType d
  | .sel c d => Widenable sch c d
  | .pair d t c => ∀ d' ∈ sch.widen c d t, (c, d') ∈ r.sel
  | .type _ _ => True

def AllOK (sch : Sch) : Res → List Write → Prop
  | _, [] => True
  | r, w :: ws => wOK sch r w ∧ AllOK sch (r.apply w) ws

theorem inv_apply {r : Res} {w : Write} (h : Inv sch r) (hw : wOK sch r w) :
    Inv sch (r.apply w) := by
  cases w with
  | elem c d t =>
    refine { h with elems := fun p hp => ?_, cacheOK := fun e he => ?_ }
    · exact (mem_ins.1 hp).elim (· ▸ hw.1) (h.elems p)
    · simp only [Res.apply] at he
      split at he
      · exact h.cacheOK e he
      · exact (List.mem_cons.1 he).elim (· ▸ hw.2) (h.cacheOK e)
  | sel c d =>
    refine { h with sel := fun p hp => ?_, pairs := fun d1 t1 c1 hx d' hd' => ?_ }
    · exact (mem_ins.1 hp).elim (· ▸ hw) (h.sel p)
    · exact mem_ins.2 (Or.inr (h.pairs d1 t1 c1 hx d' hd'))
  | pair d t c =>
    refine { h with pairs := fun d1 t1 c1 hx => ?_ }
    rcases mem_ins.1 hx with heq | hx
    · cases heq; exact hw
    · exact h.pairs d1 t1 c1 hx
  | type d t =>
    refine { h with pairs := fun d1 t1 c1 hx => ?_ }
    rcases mem_ins.1 hx with heq | hx
    · cases heq
    · exact h.pairs d1 t1 c1 hx

theorem applyWrites_cons (r : Res) (w : Write) (ws : List Write) :
    applyWrites r (w :: ws) = applyWrites (r.apply w) ws := rfl

theorem applyWrites_append (r : Res) (a b : List Write) :
    applyWrites r (a ++ b) = applyWrites (applyWrites r a) b :=
  List.foldl_append

theorem inv_applyWrites (ws : List Write) : ∀ (r : Res), Inv sch r → AllOK sch r ws →
    Inv sch (applyWrites r ws) := by
  induction ws with
  | nil => exact fun _ h _ => h
  | cons w ws ih => exact fun _ h hok => ih _ (inv_apply h hok.1) hok.2

theorem allOK_take (ws : List Write) : ∀ (k : Nat) (r : Res), AllOK sch r ws →
    AllOK sch r (ws.take k) := by
  induction ws with
  | nil => intro k r _; rw [List.take_nil]; trivial
  | cons w ws ih =>
    intro k r h
    cases k with
    | zero => trivial
    | succ k => exact ⟨h.1, ih k _ h.2⟩

theorem allOK_append (a b : List Write) : ∀ (r : Res),
    AllOK sch r (a ++ b) ↔ AllOK sch r a ∧ AllOK sch (applyWrites r a) b := by
  induction a with
  | nil => exact fun _ => ⟨fun h => ⟨trivial, h⟩, fun h => h.2⟩
  | cons w a ih => exact fun r => (and_congr_right fun _ => ih _).trans and_assoc.symm

theorem allOK_of_forall (ws : List Write) : ∀ (r : Res),
    (∀ w ∈ ws, ∀ r', wOK sch r' w) → AllOK sch r ws := by
  induction ws with
  | nil => exact fun _ _ => trivial
  | cons w ws ih =>
    exact fun r h => ⟨h w (List.mem_cons_self ..) r, ih _ fun w' hw' => h w' (List.mem_cons_of_mem _ hw')⟩

/-- `r'` holds every recorded binding, element and xsi:type use that `r` holds -/
structure Res.Le (r r' : Res) : Prop where
  sel : ∀ p ∈ r.sel, p ∈ r'.sel
  elems : ∀ p ∈ r.elems, p ∈ r'.elems
  xsi : ∀ p ∈ r.xsi, p ∈ r'.xsi

theorem Res.Le.refl (r : Res) : r.Le r := ⟨fun _ h => h, fun _ h => h, fun _ h => h⟩

theorem Res.Le.trans {a b c : Res} (h1 : a.Le b) (h2 : b.Le c) : a.Le c :=
  ⟨fun p h => h2.sel p (h1.sel p h), fun p h => h2.elems p (h1.elems p h), fun p h => h2.xsi p (h1.xsi p h)⟩

theorem le_apply (r : Res) (w : Write) : r.Le (r.apply w) := by
  have ins_mono {α} [BEq α] [LawfulBEq α] (x : α) (l : List α) : ∀ p ∈ l, p ∈ ins x l :=
    fun _ h => mem_ins.2 (Or.inr h)
  cases w with
  | elem c d t => exact { Res.Le.refl r with elems := ins_mono _ _ }
  | sel c d => exact { Res.Le.refl r with sel := ins_mono _ _ }
  | pair d t c => exact { Res.Le.refl r with xsi := ins_mono _ _ }
  | type d t => exact { Res.Le.refl r with xsi := ins_mono _ _ }

theorem le_writes (ws : List Write) (r : Res) : r.Le (applyWrites r ws) :=
  List.foldlRecOn ws Res.apply (.refl r) fun r' h w _ => h.trans (le_apply r' w)

theorem apply_frame (r : Res) (w : Write) :
    (r.apply w).memo = r.memo ∧ (r.apply w).scratch = r.scratch ∧ (r.apply w).loaded = r.loaded ∧
    (r.apply w).stale = r.stale := by
  cases w <;> exact ⟨rfl, rfl, rfl, rfl⟩

theorem writes_frame (ws : List Write) : ∀ (r : Res),
    (applyWrites r ws).memo = r.memo ∧ (applyWrites r ws).scratch = r.scratch ∧
    (applyWrites r ws).loaded = r.loaded ∧ (applyWrites r ws).stale = r.stale := by
  induction ws with
  | nil => exact fun _ => ⟨rfl, rfl, rfl, rfl⟩
  | cons w ws ih =>
    intro r
    have ⟨a1, a2, a3, a4⟩ := apply_frame r w
    have ⟨b1, b2, b3, b4⟩ := ih (r.apply w)
    exact ⟨b1.trans a1, b2.trans a2, b3.trans a3, b4.trans a4⟩

theorem memo_writes : ∀ (ws : List Write) (r : Res), (applyWrites r ws).memo = r.memo :=
  fun ws r => (writes_frame ws r).1

theorem scratch_writes : ∀ (ws : List Write) (r : Res), (applyWrites r ws).scratch = r.scratch :=
  fun ws r => (writes_frame ws r).2.1

theorem mem_sel_apply {r : Res} {w : Write} {p : Con × Decl} (h : p ∈ (r.apply w).sel) :
    p ∈ r.sel ∨ w = .sel p.1 p.2 := by
  cases w with
  | sel c d =>
    rcases mem_ins.1 h with rfl | h
    · exact Or.inr rfl
    · exact Or.inl h
  | _ => exact Or.inl h

theorem mem_sel_writes (ws : List Write) : ∀ (r : Res) {p : Con × Decl},
    p ∈ (applyWrites r ws).sel → p ∈ r.sel ∨ Write.sel p.1 p.2 ∈ ws := by
  induction ws with
  | nil => exact fun _ _ h => Or.inl h
  | cons w ws ih =>
    intro r p h
    rcases ih _ h with h | h
    · rcases mem_sel_apply h with h | rfl
      · exact Or.inl h
      · exact Or.inr (List.mem_cons_self ..)
    · exact Or.inr (List.mem_cons_of_mem _ h)

/-! ### `update_elements` -/

theorem mem_updateWrites {c d t} {w : Write} (h : w ∈ updateWrites sch c d t) :
    ∃ d' ∈ sch.widen c d t, w = .elem c d' (sch.declType d') ∨ w = .sel c d' := by
  simpa only [updateWrites, List.mem_flatMap, List.mem_cons, List.not_mem_nil, or_false] using h

theorem wOK_update {c d t} (hc : sch.isComplex t = true) :
    ∀ w ∈ updateWrites sch c d t, ∀ r', wOK sch r' w := by
  intro w hw r'
  obtain ⟨d', hd', rfl | rfl⟩ := mem_updateWrites hw
  · exact ⟨⟨d, t, hc, hd'⟩, rfl⟩
  · exact ⟨d, t, hc, hd'⟩

theorem sat_flat (c : Con) (f : Decl → TyId) (l : List Decl) : ∀ (r : Res), ∀ d' ∈ l,
    (c, d') ∈ (applyWrites r (l.flatMap fun d' => [Write.elem c d' (f d'), Write.sel c d'])).sel := by
  induction l with
  | nil => exact fun _ _ h => nomatch h
  | cons x l ih =>
    intro r d' h
    simp only [List.flatMap_cons, List.cons_append, List.nil_append, applyWrites_cons]
    rcases List.mem_cons.1 h with rfl | h
    · exact (le_writes _ _).sel _ (mem_ins.2 (Or.inl rfl))
    · exact ih _ d' h

theorem sat_update (sch : Sch) (c d t) (r : Res) : ∀ d' ∈ sch.widen c d t,
    (c, d') ∈ (applyWrites r (updateWrites sch c d t)).sel :=
  sat_flat c _ _ r

theorem allOK_block {c d t} (hc : sch.isComplex t = true) (r : Res) :
    AllOK sch r (updateWrites sch c d t ++ [.pair d t c]) :=
  (allOK_append ..).2 ⟨allOK_of_forall _ _ (wOK_update hc), sat_update sch c d t r, trivial⟩

theorem allOK_loop {d t} (hc : sch.isComplex t = true) (ctx : Ctx) : ∀ (r : Res),
    AllOK sch r (xsiLoop sch d t r ctx) := by
  induction ctx with
  | nil => exact fun _ => trivial
  | cons p cs ih =>
    intro r
    rw [xsiLoop]
    split
    · exact ih r
    · exact (allOK_append ..).2 ⟨allOK_block hc r, ih _⟩

theorem allOK_xsiWrites (sch : Sch) (r : Res) (ctx : Ctx) (d t) : AllOK sch r (xsiWrites sch r ctx d t) := by
  refine (allOK_append ..).2 ⟨?_, trivial, trivial⟩
  split
  · next hc => exact allOK_loop hc ctx r
  · trivial

theorem allOK_xsiWritesOld (sch : Sch) (r : Res) (ctx : Ctx) (d t) :
    AllOK sch r (xsiWritesOld sch r ctx d t) := by
  unfold xsiWritesOld
  split
  · trivial
  · refine (allOK_append ..).2 ⟨?_, trivial, trivial⟩
    split
    · next hc =>
      refine allOK_of_forall _ _ fun w hw r' => ?_
      obtain ⟨p, _, hw⟩ := List.mem_flatMap.1 hw
      exact wOK_update hc w hw r'
    · trivial

theorem allOK_stepWrites (sch : Sch) (m : Mode) (r : Res) (ctx : Ctx) (d t) :
    AllOK sch r (stepWrites sch m r ctx d t) := by
  cases m with
  | old => exact allOK_xsiWritesOld sch r ctx d t
  | _ => exact allOK_xsiWrites sch r ctx d t

theorem allOK_budgeted {r : Res} {ws : List Write} (b : Option Nat) (h : AllOK sch r ws) :
    AllOK sch r (budgeted ws b) := by
  cases b with
  | none => exact h
  | some k => exact allOK_take ws k r h

theorem mem_loop_sel {d t c d'} (ctx : Ctx) : ∀ (r : Res),
    Write.sel c d' ∈ xsiLoop sch d t r ctx → (c, true) ∈ ctx ∧ d' ∈ sch.widen c d t := by
  induction ctx with
  | nil => exact fun _ h => nomatch h
  | cons p cs ih =>
    obtain ⟨c0, en⟩ := p
    intro r h
    rw [xsiLoop] at h
    split at h
    · exact (ih r h).imp_left (List.mem_cons_of_mem _)
    · next hen =>
      cases en with
      | false => exact absurd rfl hen
      | true =>
        rcases List.mem_append.1 h with h | h
        · rcases List.mem_append.1 h with h | h
          · obtain ⟨d'', hd'', h | h⟩ := mem_updateWrites h <;> cases h
            exact ⟨List.mem_cons_self .., hd''⟩
          · cases List.mem_singleton.1 h
        · exact (ih _ h).imp_left (List.mem_cons_of_mem _)

/-- after the whole loop every ENABLED constraint of the context has been widened for (d, t):
    either now, or earlier (recorded pair + invariant) -/
theorem sat_loop {d t} (hc : sch.isComplex t = true) (ctx : Ctx) : ∀ (r : Res), Inv sch r →
    ∀ c, (c, true) ∈ ctx → ∀ d' ∈ sch.widen c d t, (c, d') ∈ (applyWrites r (xsiLoop sch d t r ctx)).sel := by
  induction ctx with
  | nil => exact fun _ _ _ h => nomatch h
  | cons p cs ih =>
    obtain ⟨c0, en⟩ := p
    intro r hinv c h d' hd'
    rw [xsiLoop]
    split
    · next hskip =>
      rcases List.mem_cons.1 h with heq | h
      · cases heq
        exact (le_writes _ _).sel _ (hinv.pairs d t c0 (List.contains_iff_mem.1 hskip) d' hd')
      · exact ih r hinv c h d' hd'
    · rw [applyWrites_append]
      rcases List.mem_cons.1 h with heq | h
      · cases heq
        rw [applyWrites_append]
        exact ((le_writes _ _).trans (le_writes _ _)).sel _ (sat_update sch c0 d t r d' hd')
      · exact ih _ (inv_applyWrites _ r hinv (allOK_block hc r)) c h d' hd'

theorem mem_xsiWrites_sel {r : Res} {ctx : Ctx} {d t c d'}
    (h : Write.sel c d' ∈ xsiWrites sch r ctx d t) :
    sch.isComplex t = true ∧ (c, true) ∈ ctx ∧ d' ∈ sch.widen c d t := by
  rcases List.mem_append.1 h with h | h
  · split at h
    · next hc => exact ⟨hc, mem_loop_sel ctx r h⟩
    · cases h
  · cases List.mem_singleton.1 h

theorem sat_xsiWrites {r : Res} {ctx : Ctx} {d t c d'} (hinv : Inv sch r)
    (hc : sch.isComplex t = true) (hm : (c, true) ∈ ctx) (hd : d' ∈ sch.widen c d t) :
    (c, d') ∈ (applyWrites r (xsiWrites sch r ctx d t)).sel := by
  rw [xsiWrites, if_pos hc, applyWrites_append]
  exact (le_writes _ _).sel _ (sat_loop hc ctx r hinv c hm d' hd)

theorem xsi_sel_sub {r1 r2 : Res} (ctx : Ctx) (d t) (h1 : Inv sch r1)
    (hsub : ∀ p ∈ r2.sel, p ∈ r1.sel) :
    ∀ p ∈ (applyWrites r2 (xsiWrites sch r2 ctx d t)).sel, p ∈ (applyWrites r1 (xsiWrites sch r1 ctx d t)).sel := by
  intro p hp
  rcases mem_sel_writes _ _ hp with hp | hp
  · exact (le_writes _ _).sel _ (hsub p hp)
  · obtain ⟨hc, hm, hd⟩ := mem_xsiWrites_sel hp
    exact sat_xsiWrites h1 hc hm hd

theorem wildStep_ungated (sch : Sch) (r : Res) (a : Bool) {pc : PC} (n : Nat) (hpc : pc ≠ .skip) :
    wildStep sch .ungated r a pc n =
      if isLoaded sch r n then (r, some (.ns true false))
      else if sch.loadable.contains n then (rebuild r n, some (.ns true true))
      else (r, some (.ns false false)) := by
  cases pc with
  | skip => exact absurd rfl hpc
  | _ => rfl

theorem wild_found {r : Res} (a : Bool) {pc : PC} {n : Nat} (hpc : pc ≠ .skip)
    (hl : isLoaded sch r n = true) : wildStep sch .ungated r a pc n = (r, some (.ns true false)) := by
  rw [wildStep_ungated sch r a n hpc, if_pos hl]

theorem wild_loads {r : Res} (a : Bool) {pc : PC} {n : Nat} (hpc : pc ≠ .skip)
    (hl : isLoaded sch r n = false) (hd : sch.loadable.contains n = true) :
    wildStep sch .ungated r a pc n = (rebuild r n, some (.ns true true)) := by
  rw [wildStep_ungated sch r a n hpc, if_neg (hl ▸ Bool.false_ne_true), if_pos hd]

theorem isLoaded_of_loaded {r : Res} {n : Nat} (h : n ∈ r.loaded) : isLoaded sch r n = true := by
  rw [isLoaded, List.contains_iff_mem.2 h, Bool.or_true]

theorem isLoaded_fresh {r : Res} {n : Nat} (hb : n ∉ sch.nsBase) (hl : r.loaded = []) :
    isLoaded sch r n = false := by
  rw [isLoaded, hl, Bool.or_eq_false_iff]
  exact ⟨Bool.eq_false_iff.2 fun h => hb (List.contains_iff_mem.1 h), rfl⟩

theorem wild_avail {r : Res} (h : Inv sch r) (a : Bool) {pc : PC} (n : Nat) (hpc : pc ≠ .skip) :
    ∃ b, (wildStep sch .ungated r a pc n).2 =
      some (.ns (sch.nsBase.contains n || sch.loadable.contains n) b) := by
  rw [wildStep_ungated sch r a n hpc, isLoaded]
  cases sch.nsBase.contains n
  · cases hl : r.loaded.contains n
    · rw [Bool.false_or, if_neg Bool.false_ne_true, Bool.false_or]
      cases sch.loadable.contains n <;> exact ⟨_, rfl⟩
    · rw [List.contains_iff_mem.2 (h.loadedOK n (List.contains_iff_mem.1 hl))]
      exact ⟨_, rfl⟩
  · exact ⟨_, rfl⟩

theorem wildStep_cases (sch : Sch) (m : Mode) (r : Res) (a : Bool) {pc : PC} (n : Nat) (hpc : pc ≠ .skip) :
    ∃ b : Bool, wildStep sch m r a pc n =
      if isLoaded sch r n then (r, some (.ns true false))
      else if b then (r, some (.ns false false))
      else if sch.loadable.contains n then (rebuild r n, some (.ns true true))
      else (r, some (.ns false false)) := by
  cases pc with
  | skip => exact absurd rfl hpc
  | _ => exact ⟨_, rfl⟩

theorem wild_fst (sch : Sch) (m : Mode) (r : Res) (a : Bool) (pc : PC) (n : Nat) :
    (wildStep sch m r a pc n).1 = r ∨ (n ∈ sch.loadable ∧ (wildStep sch m r a pc n).1 = rebuild r n) := by
  by_cases hpc : pc = .skip
  · subst hpc; exact Or.inl rfl
  · obtain ⟨b, e⟩ := wildStep_cases sch m r a n hpc
    rw [e]
    split
    · exact Or.inl rfl
    · split
      · exact Or.inl rfl
      · split
        · next hl => exact Or.inr ⟨List.contains_iff_mem.1 hl, rfl⟩
        · exact Or.inl rfl

theorem inv_wild (m : Mode) {r : Res} (a : Bool) (pc : PC) (n : Nat) (h : Inv sch r) :
    Inv sch (wildStep sch m r a pc n).1 := by
  rcases wild_fst sch m r a pc n with e | ⟨hl, e⟩
  · rw [e]; exact h
  · rw [e]; exact inv_rebuild h hl

/-- the writes of an xsi:type block as it ran: none on stale components, else up to the abort -/
def blockWrites (sch : Sch) (m : Mode) (s : Res × Ctx) (d : Decl) (t : TyId) (b : Option Nat) : List Write :=
  if s.1.stale then [] else budgeted (stepWrites sch m s.1 s.2 d t) b

theorem step_xsiType (sch : Sch) (m : Mode) (s : Res × Ctx) (d : Decl) (t : TyId) (b : Option Nat) :
    step sch m s (.xsiType d t b) = ((applyWrites s.1 (blockWrites sch m s d t b), s.2), none) := by
  simp only [step, blockWrites]
  split <;> rfl

theorem allOK_blockWrites (sch : Sch) (m : Mode) (s : Res × Ctx) (d : Decl) (t : TyId) (b : Option Nat) :
    AllOK sch s.1 (blockWrites sch m s d t b) := by
  unfold blockWrites
  split
  · trivial
  · exact allOK_budgeted b (allOK_stepWrites sch m s.1 s.2 d t)

/-- the memo after a memoised call: a miss adds the value of the pure function -/
def memoAfter (sch : Sch) (r : Res) (k : Nat) : List (Nat × Nat) :=
  match r.memo.lookup k with
  | some _ => r.memo
  | none => (k, sch.pure k) :: r.memo

theorem step_memoCall (sch : Sch) (m : Mode) (s : Res × Ctx) (k : Nat) :
    (step sch m s (.memoCall k)).1 = ({ s.1 with memo := memoAfter sch s.1 k }, s.2) := by
  simp only [step, memoAfter]
  cases s.1.memo.lookup k <;> rfl

theorem inv_step (sch : Sch) (m : Mode) (s : Res × Ctx) (x : Step) (h : Inv sch s.1) :
    Inv sch (step sch m s x).1.1 := by
  cases x with
  | xsiType d t b =>
    rw [step_xsiType]
    exact inv_applyWrites _ _ h (allOK_blockWrites sch m s d t b)
  | wild a pc n => exact inv_wild m a pc n h
  | nsRead n => exact inv_unstale h
  | memoCall k =>
    rw [step_memoCall]
    refine { h with memo := ?_ }
    unfold memoAfter
    split
    · exact h.memo
    · exact List.forall_mem_cons.2 ⟨rfl, h.memo⟩
  | scratchUse dirt => exact { h with }
  | _ => exact h

theorem inv_run (sch : Sch) (m : Mode) (doc : List Step) : ∀ (s : Res × Ctx), Inv sch s.1 →
    Inv sch (run sch m s doc).1.1 := by
  induction doc with
  | nil => exact fun _ h => h
  | cons x xs ih => exact fun s h => ih _ (inv_step sch m s x h)

theorem step_ctx (sch : Sch) (m : Mode) (r1 r2 : Res) (ctx : Ctx) (x : Step) :
    (step sch m (r1, ctx) x).1.2 = (step sch m (r2, ctx) x).1.2 := by
  cases x with
  | memoCall k => rw [step_memoCall, step_memoCall]
  | xsiType d t b => rw [step_xsiType, step_xsiType]
  | _ => rfl

theorem step_grows (sch : Sch) (m : Mode) (s : Res × Ctx) (x : Step) (hw : isWild x = false) :
    s.1.Le (step sch m s x).1.1 ∧ (step sch m s x).1.1.loaded = s.1.loaded ∧
    (stepPlain x = true → (step sch m s x).1.1.stale = s.1.stale) := by
  cases x with
  | xsiType d t b =>
    rw [step_xsiType]
    exact ⟨le_writes _ _, (writes_frame _ _).2.2.1, fun _ => (writes_frame _ _).2.2.2⟩
  | wild a pc n => cases hw
  | nsRead n => exact ⟨⟨fun _ h => h, fun _ h => h, fun _ h => h⟩, rfl, nofun⟩
  | memoCall k =>
    rw [step_memoCall]
    exact ⟨⟨fun _ h => h, fun _ h => h, fun _ h => h⟩, rfl, fun _ => rfl⟩
  | scratchUse dirt => exact ⟨⟨fun _ h => h, fun _ h => h, fun _ h => h⟩, rfl, fun _ => rfl⟩
  | _ => exact ⟨.refl _, rfl, fun _ => rfl⟩

theorem run_le (sch : Sch) (m : Mode) (doc : List Step) : ∀ (s : Res × Ctx), (doc.all fun x => !isWild x) = true →
    s.1.Le (run sch m s doc).1.1 := by
  induction doc with
  | nil => exact fun s _ => .refl s.1
  | cons x xs ih =>
    intro s hw
    simp only [List.all_cons, Bool.and_eq_true, Bool.not_eq_true'] at hw
    exact (step_grows sch m s x hw.1).1.trans (ih _ hw.2)

theorem memo_obs (m : Mode) {s : Res × Ctx} (k : Nat) (h : Inv sch s.1) :
    (step sch m s (.memoCall k)).2 = some (.memo (sch.pure k)) := by
  simp only [step]
  split
  · next v hv => exact congrArg _ (congrArg _ (h.memo (k, v) (lookup_mem hv)))
  · rfl

theorem typing_eq {r : Res} {ctx : Ctx} {d : Decl} {t : TyId} (h : Inv sch r) :
    typingOf sch r ctx d t = (ctx.filter (·.2)).map fun p => (p.1, t) := by
  refine List.map_congr_left fun p _ => ?_
  congr 1
  split
  · next ht =>
    obtain rfl : t = sch.declType d := beq_iff_eq.1 ht
    unfold cachedTy
    split
    · next v hv => exact h.cacheOK _ (lookup_mem hv)
    · split <;> rfl
  · rfl

/-- two states with the same counters and residues that satisfy the invariant: they stay so -/
structure Sim (sch : Sch) (s1 s2 : Res × Ctx) : Prop where
  ctx : s1.2 = s2.2
  i1 : Inv sch s1.1
  i2 : Inv sch s2.1

theorem Sim.step {s1 s2 : Res × Ctx} (h : Sim sch s1 s2) (m : Mode) (x : Step) :
    Sim sch (step sch m s1 x).1 (step sch m s2 x).1 := by
  obtain ⟨r1, ctx⟩ := s1
  obtain ⟨r2, _⟩ := s2
  obtain rfl : ctx = _ := h.ctx
  exact ⟨step_ctx sch m r1 r2 ctx x, inv_step sch m _ x h.i1, inv_step sch m _ x h.i2⟩

/-- with the invariant, what a step shows depends on the residue only through the gate of the collection, the
    answer of a wildcard lookup and the set of namespaces in the maps -/
theorem step_obs_congr {m : Mode} {s1 s2 : Res × Ctx} {x : Step} (h : Sim sch s1 s2)
    (hg : ∀ d, x = .collect d → gate sch m s1.1 s1.2 d = gate sch m s2.1 s1.2 d)
    (hw : ∀ a pc n, x = .wild a pc n → (wildStep sch m s1.1 a pc n).2 = (wildStep sch m s2.1 a pc n).2)
    (hn : ∀ n, x = .nsRead n → isLoaded sch s1.1 n = isLoaded sch s2.1 n) :
    (step sch m s1 x).2 = (step sch m s2 x).2 := by
  obtain ⟨r1, ctx⟩ := s1
  obtain ⟨r2, _⟩ := s2
  obtain rfl : ctx = _ := h.ctx
  cases x with
  | collect d => simp only [step, hg d rfl]
  | wild a pc n => exact hw a pc n rfl
  | nsRead n => simp only [step, hn n rfl]
  | memoCall k => rw [memo_obs m k h.i1, memo_obs m k h.i2]
  | fields d t => simp only [step, typing_eq h.i1, typing_eq h.i2]
  | xsiType d t b => rw [step_xsiType, step_xsiType]
  | _ => rfl

theorem run_cons_eq {m : Mode} {s1 s2 : Res × Ctx} {x : Step} {xs : List Step}
    (ho : (step sch m s1 x).2 = (step sch m s2 x).2)
    (h : (run sch m (step sch m s1 x).1 xs).2 = (run sch m (step sch m s2 x).1 xs).2) :
    (run sch m s1 (x :: xs)).2 = (run sch m s2 (x :: xs)).2 := by
  simp only [run]
  rw [ho, h]

theorem run_cons_ne {m : Mode} {s1 s2 : Res × Ctx} {x : Step} {xs : List Step}
    (ho : (step sch m s1 x).2 = (step sch m s2 x).2)
    (h : (run sch m (step sch m s1 x).1 xs).2 ≠ (run sch m (step sch m s2 x).1 xs).2) :
    (run sch m s1 (x :: xs)).2 ≠ (run sch m s2 (x :: xs)).2 := by
  simp only [run]
  rw [ho]
  exact fun heq => h (List.append_cancel_left heq)

theorem run_cons_ne_of_obs {m : Mode} {s1 s2 : Res × Ctx} {x : Step} {xs : List Step} {o1 o2 : Obs}
    (h1 : (step sch m s1 x).2 = some o1) (h2 : (step sch m s2 x).2 = some o2) (hne : o1 ≠ o2) :
    (run sch m s1 (x :: xs)).2 ≠ (run sch m s2 (x :: xs)).2 := by
  simp only [run]
  rw [h1, h2]
  exact fun heq => hne (List.cons.inj heq).1

/-! ### the collection gated by `selected_by`: the used schema against the fresh one -/

/-- `s1` = a run on a used schema object, `s2` = the run of a fresh one at the same point of the document -/
structure Rel (sch : Sch) (s1 s2 : Res × Ctx) : Prop extends Sim sch s1 s2 where
  sub : ∀ p ∈ s2.1.sel, p ∈ s1.1.sel
  f1 : s1.1.stale = false
  f2 : s2.1.stale = false

/-- the condition of `selfSufficient` for one step -/
def stepOK (sch : Sch) (s : Res × Ctx) : Step → Bool
  | .collect d => s.2.all fun p => !p.2 || !widenableB sch p.1 d || isSel sch s.1 p.1 d
  | _ => true

theorem selfSufficient_cons (sch : Sch) (s : Res × Ctx) (x : Step) (xs : List Step) :
    selfSufficient sch s (x :: xs) = (stepOK sch s x && selfSufficient sch (step sch .gated s x).1 xs) := by
  cases x <;> rfl

theorem stepOK_collect {s : Res × Ctx} {d : Decl} (h : stepOK sch s (.collect d) = true) {c : Con}
    (hc : (c, true) ∈ s.2) (hw : Widenable sch c d) : isSel sch s.1 c d = true := by
  have := List.all_eq_true.1 h _ hc
  rwa [(widenableB_iff sch c d).2 hw] at this

theorem stepOK_false {s : Res × Ctx} {x : Step} (h : stepOK sch s x = false) :
    ∃ d c, x = .collect d ∧ (c, true) ∈ s.2 ∧ Widenable sch c d ∧ isSel sch s.1 c d = false := by
  cases x with
  | collect d =>
    obtain ⟨⟨c, en⟩, hp, hpf⟩ := List.all_eq_false.1 h
    simp only [Bool.not_eq_true, Bool.or_eq_false_iff, Bool.not_eq_false'] at hpf
    obtain ⟨⟨rfl, hw⟩, hs⟩ := hpf
    exact ⟨d, c, rfl, hp, (widenableB_iff sch c d).1 hw, hs⟩
  | _ => cases h

theorem plain_cons (x : Step) (xs : List Step) : plainDoc (x :: xs) = (stepPlain x && plainDoc xs) :=
  List.all_cons

theorem stepPlain_notWild {x : Step} (h : stepPlain x = true) : isWild x = false := by
  cases x with
  | wild a pc n => cases h
  | _ => rfl

theorem mem_gate_gated {r : Res} {ctx : Ctx} {c : Con} {d : Decl} :
    c ∈ gate sch .gated r ctx d ↔ (c, true) ∈ ctx ∧ isSel sch r c d = true := by
  simp only [gate, List.mem_map, List.mem_filter, Bool.and_eq_true]
  constructor
  · rintro ⟨⟨_, _⟩, ⟨hp, rfl, hs⟩, rfl⟩
    exact ⟨hp, hs⟩
  · rintro ⟨hp, hs⟩
    exact ⟨_, ⟨hp, rfl, hs⟩, rfl⟩

theorem gate_congr (sch : Sch) (r1 r2 : Res) (ctx : Ctx) (d : Decl)
    (h : ∀ c, (c, true) ∈ ctx → isSel sch r1 c d = isSel sch r2 c d) :
    gate sch .gated r1 ctx d = gate sch .gated r2 ctx d := by
  refine congrArg _ (List.filter_congr fun p hp => ?_)
  obtain ⟨c, en⟩ := p
  cases en with
  | false => rfl
  | true => exact congrArg _ (h c hp)

theorem gate_rel {s1 s2 : Res × Ctx} {d : Decl} (hrel : Rel sch s1 s2)
    (hok : stepOK sch s2 (.collect d) = true) : gate sch .gated s1.1 s1.2 d = gate sch .gated s2.1 s1.2 d := by
  refine gate_congr sch _ _ _ d fun c hc => Bool.eq_iff_iff.2 ?_
  rw [isSel_iff, isSel_iff]
  constructor
  · rintro (h | h)
    · exact Or.inl h
    · exact isSel_iff.1 (stepOK_collect hok (hrel.ctx ▸ hc) (hrel.i1.sel _ h))
  · exact Or.imp_right (hrel.sub _)

theorem step_rel {s1 s2 : Res × Ctx} {x : Step} (hrel : Rel sch s1 s2)
    (hp : stepPlain x = true) (hok : stepOK sch s2 x = true) :
    (step sch .gated s1 x).2 = (step sch .gated s2 x).2 ∧
    Rel sch (step sch .gated s1 x).1 (step sch .gated s2 x).1 := by
  have hw := stepPlain_notWild hp
  refine ⟨step_obs_congr hrel.toSim (fun d e => gate_rel hrel (e ▸ hok)) (fun _ _ _ e => by subst e; cases hp)
      (fun _ e => by subst e; cases hp),
    hrel.toSim.step .gated x, ?_, ((step_grows sch _ s1 x hw).2.2 hp).trans hrel.f1, ((step_grows sch _ s2 x hw).2.2 hp).trans hrel.f2⟩
  cases x with
  | xsiType d t b =>
    cases b with
    | some k => cases hp
    | none =>
      simp only [step, hrel.f1, hrel.f2, Bool.false_eq_true, if_false]
      rw [← hrel.ctx]
      exact xsi_sel_sub s1.2 d t hrel.i1 hrel.sub
  | memoCall k =>
    rw [step_memoCall, step_memoCall]
    exact hrel.sub
  | wild a pc n => cases hp
  | nsRead n => cases hp
  | _ => exact hrel.sub

theorem neutral_gen (sch : Sch) (doc : List Step) : ∀ (s1 s2 : Res × Ctx), Rel sch s1 s2 →
    plainDoc doc = true → selfSufficient sch s2 doc = true →
    (run sch .gated s1 doc).2 = (run sch .gated s2 doc).2 := by
  induction doc with
  | nil => exact fun _ _ _ _ _ => rfl
  | cons x xs ih =>
    intro s1 s2 hrel hc hss
    rw [plain_cons, Bool.and_eq_true] at hc
    rw [selfSufficient_cons, Bool.and_eq_true] at hss
    obtain ⟨ho, hrel'⟩ := step_rel hrel hc.1 hss.1
    exact run_cons_eq ho (ih _ _ hrel' hc.2 hss.2)

/-- a document that is NOT self-sufficient has a (constraint, declaration) pair whose binding by an earlier
    call changes what the call sees -/
theorem dependent_gen (sch : Sch) : ∀ (doc : List Step) (s2 : Res × Ctx),
    plainDoc doc = true → selfSufficient sch s2 doc = false →
    ∃ c d, Widenable sch c d ∧ ∀ s1, Rel sch s1 s2 → (c, d) ∈ s1.1.sel →
      (run sch .gated s1 doc).2 ≠ (run sch .gated s2 doc).2 := by
  intro doc
  induction doc with
  | nil => exact fun _ _ hss => nomatch hss
  | cons x xs ih =>
    intro s2 hc hss
    rw [plain_cons, Bool.and_eq_true] at hc
    rw [selfSufficient_cons] at hss
    cases hok : stepOK sch s2 x
    · -- the offending step: the used schema collects for `c`, the fresh one does not
      obtain ⟨d, c, rfl, hm, hw, hs⟩ := stepOK_false hok
      refine ⟨c, d, hw, fun s1 hrel hsel => run_cons_ne_of_obs rfl rfl fun heq => ?_⟩
      have h1 : c ∈ gate sch .gated s1.1 s1.2 d :=
        mem_gate_gated.2 ⟨hrel.ctx ▸ hm, isSel_iff.2 (Or.inr hsel)⟩
      rw [(Obs.collected.inj heq).2] at h1
      exact absurd (mem_gate_gated.1 h1).2 (hs ▸ Bool.false_ne_true)
    · rw [hok, Bool.true_and] at hss
      obtain ⟨c, d, hw, hall⟩ := ih _ hc.2 hss
      refine ⟨c, d, hw, fun s1 hrel hsel => ?_⟩
      obtain ⟨ho, hrel'⟩ := step_rel hrel hc.1 hok
      exact run_cons_ne ho (hall _ hrel' ((step_grows sch .gated s1 x (stepPlain_notWild hc.1)).1.sel _ hsel))

/-! ### the collection since 1e49c64 (not gated by `selected_by`) -/

theorem nsStable_false {n : Nat} (h : nsStable sch n = false) : n ∉ sch.nsBase ∧ n ∈ sch.loadable := by
  rw [nsStable, Bool.or_eq_false_iff, Bool.not_eq_false'] at h
  exact ⟨fun hb => Bool.false_ne_true (h.1 ▸ List.contains_iff_mem.2 hb), List.contains_iff_mem.1 h.2⟩

theorem isLoaded_stable {r : Res} {n : Nat} (h : Inv sch r) (hs : nsStable sch n = true) :
    isLoaded sch r n = sch.nsBase.contains n := by
  unfold isLoaded
  cases hb : sch.nsBase.contains n
  · rw [nsStable, hb, Bool.false_or, Bool.not_eq_true'] at hs
    refine Bool.eq_false_iff.2 fun hl => ?_
    exact Bool.false_ne_true (hs ▸ List.contains_iff_mem.2 (h.loadedOK n (List.contains_iff_mem.1 hl)))
  · rfl

theorem wild_quiet {r : Res} (a : Bool) (pc : PC) (n : Nat) (h : Inv sch r)
    (hq : stepQuiet sch (.wild a pc n) = true) :
    wildStep sch .ungated r a pc n =
      (r, match pc with | .skip => none | _ => some (.ns (sch.nsBase.contains n) false)) := by
  cases pc with
  | skip => rfl
  | _ =>
    have hs : nsStable sch n = true := hq
    simp only [wildStep, isLoaded_stable h hs]
    cases hb : sch.nsBase.contains n
    · rw [nsStable, hb, Bool.false_or, Bool.not_eq_true'] at hs
      simp only [hs, Bool.false_eq_true, if_false]
    · rfl

theorem ungated_step {s1 s2 : Res × Ctx} {x : Step} (h : Sim sch s1 s2)
    (hq : stepQuiet sch x = true) :
    (step sch .ungated s1 x).2 = (step sch .ungated s2 x).2 :=
  step_obs_congr h (fun _ _ => rfl)
    (fun a pc n e => by subst e; rw [wild_quiet a pc n h.i1 hq, wild_quiet a pc n h.i2 hq])
    (fun n e => by subst e; rw [isLoaded_stable h.i1 hq, isLoaded_stable h.i2 hq])

theorem quiet_cons (sch : Sch) (x : Step) (xs : List Step) :
    nsQuiet sch (x :: xs) = (stepQuiet sch x && nsQuiet sch xs) :=
  List.all_cons

theorem ungated_gen (sch : Sch) (doc : List Step) : ∀ (s1 s2 : Res × Ctx), Sim sch s1 s2 →
    nsQuiet sch doc = true →
    (run sch .ungated s1 doc).2 = (run sch .ungated s2 doc).2 := by
  induction doc with
  | nil => exact fun _ _ _ _ => rfl
  | cons x xs ih =>
    intro s1 s2 h hq
    rw [quiet_cons, Bool.and_eq_true] at hq
    exact run_cons_eq (ungated_step h hq.1) (ih _ _ (h.step .ungated x) hq.2)

theorem loaded_mono_step (sch : Sch) (m : Mode) (s : Res × Ctx) (x : Step) {n : Nat} (h : n ∈ s.1.loaded) :
    n ∈ (step sch m s x).1.1.loaded := by
  cases hw : isWild x
  · rw [(step_grows sch m s x hw).2.1]; exact h
  · cases x with
    | wild a pc k =>
      rcases wild_fst sch m s.1 a pc k with e | ⟨_, e⟩
      · exact e ▸ h
      · exact e ▸ List.mem_cons_of_mem _ h
    | _ => cases hw

theorem loaded_nil_step (sch : Sch) (s : Res × Ctx) (x : Step) (hi : Inv sch s.1) (h : s.1.loaded = [])
    (hq : stepQuiet sch x = true) : (step sch .ungated s x).1.1.loaded = [] := by
  cases hw : isWild x
  · rw [(step_grows sch _ s x hw).2.1]; exact h
  · cases x with
    | wild a pc k => simp only [step, wild_quiet a pc k hi hq]; exact h
    | _ => cases hw

theorem stepQuiet_false {x : Step} (h : stepQuiet sch x = false) :
    ∃ n, n ∉ sch.nsBase ∧ n ∈ sch.loadable ∧ ((∃ a pc, pc ≠ .skip ∧ x = .wild a pc n) ∨ x = .nsRead n) := by
  cases x with
  | wild a pc n =>
    cases pc with
    | skip => cases h
    | lax => exact ⟨n, (nsStable_false h).1, (nsStable_false h).2, Or.inl ⟨a, .lax, nofun, rfl⟩⟩
    | strict => exact ⟨n, (nsStable_false h).1, (nsStable_false h).2, Or.inl ⟨a, .strict, nofun, rfl⟩⟩
  | nsRead n => exact ⟨n, (nsStable_false h).1, (nsStable_false h).2, Or.inr rfl⟩
  | _ => cases h

/-- a document that is NOT quiet meets a loadable namespace; whether an earlier call loaded it changes what
    the call sees (a rebuild in the middle of the call or not; the root found or not) -/
theorem ns_dependent_gen (sch : Sch) : ∀ (doc : List Step) (s2 : Res × Ctx), Inv sch s2.1 → s2.1.loaded = [] →
    nsQuiet sch doc = false →
    ∃ n, n ∈ sch.loadable ∧ n ∉ sch.nsBase ∧ ∀ s1, Sim sch s1 s2 → n ∈ s1.1.loaded →
      (run sch .ungated s1 doc).2 ≠ (run sch .ungated s2 doc).2 := by
  intro doc
  induction doc with
  | nil => exact fun _ _ _ hq => nomatch hq
  | cons x xs ih =>
    intro s2 h2 hl hq
    rw [quiet_cons] at hq
    cases hx : stepQuiet sch x
    · -- the offending step: the namespace is in the maps of the used schema only
      obtain ⟨n, hnb, hnl, hcase⟩ := stepQuiet_false hx
      refine ⟨n, hnl, hnb, fun s1 _ hm => ?_⟩
      have l1 := isLoaded_of_loaded (sch := sch) hm
      have l2 := isLoaded_fresh hnb hl
      rcases hcase with ⟨a, pc, hpc, rfl⟩ | rfl
      · exact run_cons_ne_of_obs (congrArg Prod.snd (wild_found a hpc l1))
          (congrArg Prod.snd (wild_loads a hpc l2 (List.contains_iff_mem.2 hnl))) nofun
      · exact run_cons_ne_of_obs (congrArg (fun b => some (Obs.nsSeen b)) l1)
          (congrArg (fun b => some (Obs.nsSeen b)) l2) nofun
    · rw [hx, Bool.true_and] at hq
      obtain ⟨n, hn, hnb, hall⟩ := ih _ (inv_step sch .ungated s2 x h2)
        (loaded_nil_step sch s2 x h2 hl hx) hq
      refine ⟨n, hn, hnb, fun s1 h hm => ?_⟩
      exact run_cons_ne (ungated_step h hx) (hall _ (h.step .ungated x) (loaded_mono_step sch .ungated s1 x hm))

theorem inv_call (sch : Sch) (m : Mode) (r : Res) (doc : List Step) (h : Inv sch r) :
    Inv sch (call sch m r doc).1 :=
  inv_run sch m doc ({ r with stale := false }, []) (inv_unstale h)

theorem inv_after (sch : Sch) (m : Mode) (hist : List (List Step)) : Inv sch (after sch m hist) :=
  List.foldlRecOn hist _ (inv_init sch) fun r h doc _ => inv_call sch m r doc h

theorem sim_start (sch : Sch) (m : Mode) (hist : List (List Step)) :
    Sim sch ({ after sch m hist with stale := false }, []) ({ Res.init with stale := false }, []) :=
  ⟨rfl, inv_unstale (inv_after sch m hist), inv_unstale (inv_init sch)⟩

theorem all_take {α} {p : α → Bool} {l : List α} (k : Nat) (h : l.all p = true) : (l.take k).all p = true :=
  List.all_eq_true.2 fun x hx => List.all_eq_true.1 h x (List.mem_of_mem_take hx)

theorem plain_take (doc : List Step) (k : Nat) (h : plainDoc doc = true) : plainDoc (doc.take k) = true :=
  all_take k h

theorem quiet_take (sch : Sch) (doc : List Step) (k : Nat) (h : nsQuiet sch doc = true) :
    nsQuiet sch (doc.take k) = true :=
  all_take k h

theorem selfSufficient_take (sch : Sch) : ∀ (doc : List Step) (k : Nat) (s : Res × Ctx),
    selfSufficient sch s doc = true → selfSufficient sch s (doc.take k) = true := by
  intro doc
  induction doc with
  | nil => intro k s _; rw [List.take_nil]; rfl
  | cons x xs ih =>
    intro k s h
    cases k with
    | zero => rfl
    | succ k =>
      rw [List.take_succ_cons, selfSufficient_cons, Bool.and_eq_true]
      rw [selfSufficient_cons, Bool.and_eq_true] at h
      exact ⟨h.1, ih k _ h.2⟩

end XsVerif.History
