import XsVerif.Model.Datatypes
import XsVerif.Model.DatatypesDate
import XsVerif.Lemmas.Datatypes
namespace XsVerif.Datatypes

/-
  C02, xs:date: the port of elementpath `Date.fromstring` + `AbstractDateTime.__init__`
  (`parseDt .date`) accepts exactly the XSD lexical space of xs:date and returns the denoted
  fields, on the years where the constructor's leap-year test is right (`DateJudged`).
  Core Lean only.
-/

/-- XSD time-zone grammar: (Z | (+|-)hh:mm) with hh:mm between 00:00 and 14:00; value in minutes -/
def TzLex (s : Str) (tz : Tz) : Prop :=
  (s = [] ∧ tz = none) ∨ (s = ['Z'] ∧ tz = some 0) ∨
  ∃ sg h1 h2 m1 m2, s = [sg, h1, h2, ':', m1, m2] ∧ (sg = '+' ∨ sg = '-') ∧
    isDig h1 = true ∧ isDig h2 = true ∧ isDig m1 = true ∧ isDig m2 = true ∧
    ((digVal h1 * 10 + digVal h2 ≤ 13 ∧ digVal m1 * 10 + digVal m2 ≤ 59) ∨
     (digVal h1 * 10 + digVal h2 = 14 ∧ digVal m1 * 10 + digVal m2 = 0)) ∧
    tz = some (if sg = '-' then -(((digVal h1 * 10 + digVal h2) * 60 + (digVal m1 * 10 + digVal m2) : Nat) : Int)
               else (((digVal h1 * 10 + digVal h2) * 60 + (digVal m1 * 10 + digVal m2) : Nat) : Int))

theorem parseTz_iff (s : Str) (tz : Tz) : parseTz s = some tz ↔ TzLex s tz := by
  constructor
  · intro h
    unfold parseTz at h
    split at h
    · cases h; exact .inl ⟨rfl, rfl⟩
    · cases h; exact .inr (.inl ⟨rfl, rfl⟩)
    · rename_i sg h1 h2 m1 m2
      simp only [Option.ite_none_right_eq_some, Bool.and_eq_true, Bool.or_eq_true, beq_iff_eq, decide_eq_true_eq,
        Option.some.injEq] at h
      obtain ⟨⟨⟨⟨⟨hsg, a1⟩, a2⟩, a3⟩, a4⟩, hr, rfl⟩ := h
      exact .inr (.inr ⟨sg, h1, h2, m1, m2, rfl, hsg, a1, a2, a3, a4, hr, rfl⟩)
    · cases h
  · rintro (⟨rfl, rfl⟩ | ⟨rfl, rfl⟩ | ⟨sg, h1, h2, m1, m2, rfl, hsg, a1, a2, a3, a4, hr, rfl⟩)
    · rfl
    · rfl
    · simp only [parseTz, Option.ite_none_right_eq_some, Bool.and_eq_true, Bool.or_eq_true, beq_iff_eq,
        decide_eq_true_eq, and_true]
      exact ⟨⟨⟨⟨⟨hsg, a1⟩, a2⟩, a3⟩, a4⟩, hr⟩

theorem tzMinutes_range (H M : Nat) (neg : Prop) [Decidable neg] (hr : (H ≤ 13 ∧ M ≤ 59) ∨ (H = 14 ∧ M = 0)) :
    -840 ≤ (if neg then -((H * 60 + M : Nat) : Int) else ((H * 60 + M : Nat) : Int)) ∧
    (if neg then -((H * 60 + M : Nat) : Int) else ((H * 60 + M : Nat) : Int)) ≤ 840 := by
  split <;> omega

theorem TzLex_range {s : Str} {z : Int} (h : TzLex s (some z)) : -840 ≤ z ∧ z ≤ 840 := by
  rcases h with ⟨-, h0⟩ | ⟨-, h0⟩ | ⟨sg, h1, h2, m1, m2, -, -, -, -, -, -, hr, hz⟩
  · cases h0
  · cases h0; omega
  · cases hz; exact tzMinutes_range _ _ _ hr

theorem take2_iff (s r : Str) (n : Nat) :
    take2 s = some (n, r) ↔
      ∃ a b, s = a :: b :: r ∧ isDig a = true ∧ isDig b = true ∧ n = digVal a * 10 + digVal b := by
  constructor
  · intro h
    unfold take2 at h
    split at h
    · split at h
      · rename_i hc
        cases h
        rw [Bool.and_eq_true] at hc
        exact ⟨_, _, rfl, hc.1, hc.2, rfl⟩
      · cases h
    · cases h
  · rintro ⟨a, b, rfl, ha, hb, rfl⟩
    simp only [take2, ha, hb, Bool.and_self, if_true]

theorem expect_iff (c : Char) (s r : Str) : expect c s = some r ↔ s = c :: r := by
  cases s with
  | nil => simp [expect]
  | cons d t =>
    simp only [expect]
    by_cases h : d = c
    · subst h; simp
    · simp [h]

theorem signMatch_pos (s : Str) :
    (∀ t, s ≠ '-' :: t) → (match s with | '-' :: r => (true, r) | r => (false, r)) = (false, s) := by
  intro h
  split
  · rename_i t; exact absurd rfl (h t)
  · rfl

theorem scanYear_some {s ds r : Str} {neg : Bool} (h : scanYear s = some (neg, ds, r)) :
    s = (if neg then ['-'] else []) ++ ds ++ r ∧ (∀ c ∈ ds, isDig c = true) ∧ 4 ≤ ds.length := by
  unfold scanYear at h
  split at h
  rename_i n t e
  have hs : s = (if n then ['-'] else []) ++ t := by split at e <;> cases e <;> rfl
  simp only at h
  split at h
  · rename_i hl
    cases h
    exact ⟨by rw [hs, List.append_assoc, List.takeWhile_append_dropWhile], List.all_eq_true.mp List.all_takeWhile, hl⟩
  · cases h

theorem scanYear_of (neg : Bool) (ds rest : Str) (hd : ∀ c ∈ ds, isDig c = true) (hl : 4 ≤ ds.length) :
    scanYear ((if neg then ['-'] else []) ++ ds ++ '-' :: rest) = some (neg, ds, '-' :: rest) := by
  have tw := span_append (b := '-' :: rest) hd (by simp; decide)
  unfold scanYear
  cases neg with
  | true => simp only [if_true, List.cons_append, List.nil_append, tw.1, tw.2, ge_iff_le, hl]
  | false =>
    have hne : ∀ t, ds ++ '-' :: rest ≠ '-' :: t := by
      cases ds with
      | nil => cases hl
      | cons c cs => intro t e; cases (List.cons.inj e).1; exact absurd (hd '-' (List.mem_cons_self ..)) (by decide)
    simp only [Bool.false_eq_true, if_false, List.nil_append, tw.1, tw.2, ge_iff_le, hl, if_true]

theorem yearValue_iff (v11 neg : Bool) (ds : Str) (y : Int) :
    yearValue v11 neg ds = some y ↔
      (4 < ds.length → ds.head? ≠ some '0') ∧
      (v11 = false → (if neg then -(posVal ds : Int) else (posVal ds : Int)) ≠ 0) ∧
      y = (if v11 = true ∧ (if neg then -(posVal ds : Int) else (posVal ds : Int)) ≤ 0
           then (if neg then -(posVal ds : Int) else (posVal ds : Int)) - 1
           else (if neg then -(posVal ds : Int) else (posVal ds : Int))) := by
  unfold yearValue
  rw [natOfDigits_eq_posVal]
  generalize (if neg then -(posVal ds : Int) else (posVal ds : Int)) = Y
  -- `if c then none else e = some y` is `¬ c ∧ e = some y`: both sides list the same conditions
  cases v11
  · simp only [Bool.not_false, if_true, Option.ite_none_left_eq_some, Bool.and_eq_true, decide_eq_true_eq,
      beq_iff_eq, not_and, Option.some.injEq, Bool.false_eq_true, false_and, if_false, forall_const, ne_eq,
      eq_comm (a := y), gt_iff_lt]
  · simp only [Bool.not_true, Bool.false_eq_true, if_false, Option.ite_none_left_eq_some, Bool.and_eq_true,
      decide_eq_true_eq, beq_iff_eq, not_and, Option.some.injEq, true_and, false_implies, reduceCtorEq,
      eq_comm (a := y), gt_iff_lt, ne_eq]

/-- the constructor at 00:00:00 (the `h24` branch is off) -/
theorem mkDt_date_iff (v11 : Bool) (y : Int) (mo d : Nat) (tz : Tz) (v : DtVal) :
    mkDt .date v11 y mo d 0 0 0 0 tz = some v ↔
      y ≠ 0 ∧ y.natAbs ≤ 2 ^ 31 ∧ 1 ≤ mo ∧ mo ≤ 12 ∧ 1 ≤ d ∧
      d ≤ daysInMonth (if 1 ≤ y ∧ y ≤ 9999 then isLeap y else isLeap (y + (if v11 then 1 else 0))) mo ∧
      v = ⟨.date, y, mo, d, 0, 0, 0, 0, tz⟩ := by
  unfold mkDt
  simp only [Nat.reduceBEq, BEq.rfl, Bool.and_true, Bool.false_eq_true, ↓reduceIte, Bool.not_and,
    Bool.and_eq_true, Bool.or_eq_true, Bool.not_eq_eq_eq_not, Bool.not_true, decide_eq_false_iff_not, Int.not_le,
    beq_iff_eq, Nat.reducePow, gt_iff_lt, decide_eq_true_eq, Nat.lt_one_iff, Nat.not_lt_zero, decide_false,
    Bool.or_false, Bool.not_false, Option.ite_none_left_eq_some, not_and, Nat.not_lt, not_or, Option.some.injEq, ne_eq]
  generalize daysInMonth _ mo = dm
  constructor
  · rintro ⟨h1, h2, ⟨⟨⟨a, b⟩, c⟩, e⟩, f⟩
    exact ⟨by omega, by omega, by omega, b, by omega, e, f.symm⟩
  · rintro ⟨h1, h2, a, b, c, e, f⟩
    exact ⟨fun _ => h1, fun _ => h2, ⟨⟨⟨by omega, b⟩, by omega⟩, e⟩, f.symm⟩


/-- the years on which the constructor is judged: XSD 1.1 up to 9999 (above, the leap test is made on
    year+1: finding C02-F6) and down to the implementation limit; XSD 1.0 positive years up to the limit -/
def DateJudged (v11 : Bool) (y : Int) : Prop :=
  if v11 then (-(2:Int)^31 ≤ y ∧ y ≤ 9999) else (1 ≤ y ∧ y ≤ (2:Int)^31)

instance (v11 : Bool) (y : Int) : Decidable (DateJudged v11 y) := by
  unfold DateJudged; infer_instance

/-- under the guard the constructor's leap test is the leap test on the written year -/
theorem judged_leap (v11 : Bool) (Y y : Int)
    (hy : y = if v11 = true ∧ Y ≤ 0 then Y - 1 else Y)
    (hg : DateJudged v11 y) :
    y ≠ 0 ∧ y.natAbs ≤ 2 ^ 31 ∧
    (if 1 ≤ y ∧ y ≤ 9999 then isLeap y else isLeap (y + (if v11 then 1 else 0))) = isLeap Y := by
  cases v11 with
  | true =>
    simp only [DateJudged, if_true] at hg
    simp only [true_and] at hy
    by_cases hY : Y ≤ 0
    · rw [if_pos hY] at hy
      refine ⟨by omega, by omega, ?_⟩
      rw [if_neg (by omega)]
      simp only [if_true]
      congr 1; omega
    · rw [if_neg hY] at hy
      subst hy
      refine ⟨by omega, by omega, ?_⟩
      rw [if_pos (by omega)]
  | false =>
    simp only [DateJudged, Bool.false_eq_true, if_false] at hg
    simp only [Bool.false_eq_true, false_and, if_false] at hy
    subst hy
    refine ⟨by omega, by omega, ?_⟩
    split
    · rfl
    · simp

theorem parseDt_date_eq (v11 : Bool) (s : Str) : parseDt .date v11 s =
    (scanYear s).bind fun p => (expect '-' p.2.2).bind fun r2 => (take2 r2).bind fun q => (expect '-' q.2).bind fun r4 =>
      (take2 r4).bind fun q' => (parseTz q'.2).bind fun tz => (yearValue v11 p.1 p.2.1).bind fun y =>
        mkDt .date v11 y q.1 q'.1 0 0 0 0 tz := rfl

theorem parseDt_date_layout (v11 neg : Bool) (yd : Str) (m1 m2 d1 d2 : Char) (tzs : Str)
    (hdig : ∀ c ∈ yd, isDig c = true) (hlen : 4 ≤ yd.length)
    (hm1 : isDig m1 = true) (hm2 : isDig m2 = true) (hd1 : isDig d1 = true) (hd2 : isDig d2 = true) :
    parseDt .date v11 ((if neg then ['-'] else []) ++ yd ++ ['-', m1, m2, '-', d1, d2] ++ tzs) =
      (parseTz tzs).bind fun tz => (yearValue v11 neg yd).bind fun y =>
        mkDt .date v11 y (digVal m1 * 10 + digVal m2) (digVal d1 * 10 + digVal d2) 0 0 0 0 tz := by
  have hs := scanYear_of neg yd (m1 :: m2 :: '-' :: d1 :: d2 :: tzs) hdig hlen
  rw [List.append_assoc _ _ tzs, parseDt_date_eq]
  simp only [List.cons_append, List.nil_append, hs, expect, take2, hm1, hm2, hd1, hd2, Bool.and_self, if_true,
    BEq.rfl, Option.bind_some]

theorem parseDt_date_iff (v11 : Bool) (s : Str) (v : DtVal) :
    parseDt .date v11 s = some v ↔
      ∃ neg yd m1 m2 d1 d2 tzs, s = (if neg then ['-'] else []) ++ yd ++ ['-', m1, m2, '-', d1, d2] ++ tzs ∧
        (∀ c ∈ yd, isDig c = true) ∧ 4 ≤ yd.length ∧
        isDig m1 = true ∧ isDig m2 = true ∧ isDig d1 = true ∧ isDig d2 = true ∧
        ∃ tz y, parseTz tzs = some tz ∧ yearValue v11 neg yd = some y ∧
          mkDt .date v11 y (digVal m1 * 10 + digVal m2) (digVal d1 * 10 + digVal d2) 0 0 0 0 tz = some v := by
  constructor
  · intro h
    simp only [parseDt_date_eq, Option.bind_eq_some_iff, Prod.exists] at h
    obtain ⟨neg, ds, r1, hs, r2, e1, mo, r3, t1, r4, e2, d, r5, t2, tz, hz, y, hy, hm⟩ := h
    obtain ⟨rfl, hdig, hlen⟩ := scanYear_some hs
    cases (expect_iff _ _ _).mp e1
    obtain ⟨m1, m2, rfl, hm1, hm2, rfl⟩ := (take2_iff _ _ _).mp t1
    cases (expect_iff _ _ _).mp e2
    obtain ⟨d1, d2, rfl, hd1, hd2, rfl⟩ := (take2_iff _ _ _).mp t2
    exact ⟨neg, ds, m1, m2, d1, d2, r5, (List.append_assoc _ ['-', m1, m2, '-', d1, d2] r5).symm, hdig, hlen, hm1, hm2, hd1, hd2,
      tz, y, hz, hy, hm⟩
  · rintro ⟨neg, yd, m1, m2, d1, d2, tzs, rfl, hdig, hlen, hm1, hm2, hd1, hd2, tz, y, hz, hy, hm⟩
    rw [parseDt_date_layout v11 neg yd m1 m2 d1 d2 tzs hdig hlen hm1 hm2 hd1 hd2, hz, hy]
    exact hm

/-- XSD lexical space and value of xs:date.  `Y` is the year number written in the literal; in XSD 1.1
    `0000` is 1 BCE (astronomical numbering, so the proleptic Gregorian leap rule applies to `Y` itself)
    and the implementation stores non-positive years shifted by one; in XSD 1.0 there is no year 0. -/
def DateLex (v11 : Bool) (s : Str) (v : DtVal) : Prop :=
  ∃ (neg : Bool) (yd : Str) (m1 m2 d1 d2 : Char) (tzs : Str) (tz : Tz),
    s = (if neg then ['-'] else []) ++ yd ++ ['-', m1, m2, '-', d1, d2] ++ tzs ∧
    (∀ c ∈ yd, isDig c = true) ∧ 4 ≤ yd.length ∧ (4 < yd.length → yd.head? ≠ some '0') ∧
    isDig m1 = true ∧ isDig m2 = true ∧ isDig d1 = true ∧ isDig d2 = true ∧ TzLex tzs tz ∧
    (v11 = false → (if neg then -(posVal yd : Int) else (posVal yd : Int)) ≠ 0) ∧
    1 ≤ digVal m1 * 10 + digVal m2 ∧ digVal m1 * 10 + digVal m2 ≤ 12 ∧
    1 ≤ digVal d1 * 10 + digVal d2 ∧
    digVal d1 * 10 + digVal d2 ≤
      daysInMonth (isLeap (if neg then -(posVal yd : Int) else (posVal yd : Int))) (digVal m1 * 10 + digVal m2) ∧
    v = ⟨.date,
         (if v11 = true ∧ (if neg then -(posVal yd : Int) else (posVal yd : Int)) ≤ 0
          then (if neg then -(posVal yd : Int) else (posVal yd : Int)) - 1
          else (if neg then -(posVal yd : Int) else (posVal yd : Int))),
         digVal m1 * 10 + digVal m2, digVal d1 * 10 + digVal d2, 0, 0, 0, 0, tz⟩

/-- FULL statement (false for the code: `Props.C02.date_lex_counterexample`):
      ∀ v11 s v, parseDt .date v11 s = some v ↔ DateLex v11 s v
    proved with the guard on the year of the value: -/
theorem date_lex_partial (v11 : Bool) (s : Str) (v : DtVal) (hg : DateJudged v11 v.year) :
    parseDt .date v11 s = some v ↔ DateLex v11 s v := by
  rw [parseDt_date_iff]
  constructor
  · rintro ⟨neg, yd, m1, m2, d1, d2, tzs, rfl, hdig, hlen, hm1, hm2, hd1, hd2, tz, y, hz, hy, hm⟩
    obtain ⟨hlz, hy0, hyv⟩ := (yearValue_iff _ _ _ _).mp hy
    obtain ⟨_, _, a1, a2, a3, a4, rfl⟩ := (mkDt_date_iff _ _ _ _ _ _).mp hm
    simp only at hg
    obtain ⟨_, _, hleap⟩ := judged_leap v11 _ y hyv hg
    exact ⟨neg, yd, m1, m2, d1, d2, tzs, tz, rfl, hdig, hlen, hlz, hm1, hm2, hd1, hd2, (parseTz_iff _ _).mp hz, hy0,
      a1, a2, a3, hleap ▸ a4, by rw [hyv]⟩
  · rintro ⟨neg, yd, m1, m2, d1, d2, tzs, tz, rfl, hdig, hlen, hlz, hm1, hm2, hd1, hd2, hz, hy0,
      a1, a2, a3, a4, rfl⟩
    simp only at hg
    obtain ⟨b1, b2, hleap⟩ := judged_leap v11 _ _ rfl hg
    exact ⟨neg, yd, m1, m2, d1, d2, tzs, rfl, hdig, hlen, hm1, hm2, hd1, hd2, tz, _, (parseTz_iff _ _).mpr hz,
      (yearValue_iff _ _ _ _).mpr ⟨hlz, hy0, rfl⟩, (mkDt_date_iff _ _ _ _ _ _).mpr ⟨b1, b2, a1, a2, a3, hleap ▸ a4, rfl⟩⟩

/-- non-vacuity: a leap day with a time zone -/
example : DateLex true "2000-02-29+14:00".toList ⟨.date, 2000, 2, 29, 0, 0, 0, 0, some 840⟩ :=
  (date_lex_partial true _ _ (by decide)).mp (by decide +kernel)

end XsVerif.Datatypes
