/-
  Lemmas about `Model/DatatypesPat`: the regular-expression matcher decides its language; the slot
  `context.patterns` is empty again after every decode that starts with an empty slot; a union is valid iff a first
  member accepts the text and every pattern group in the slot accepts the text as that member normalises it; from an
  empty slot the result of the stateful decode is the plain `decode` of `Model/Datatypes` on `flat` types.
-/
import XsVerif.Model.DatatypesPat
import XsVerif.Lemmas.Rx
import XsVerif.Lemmas.Datatypes

namespace XsVerif.Datatypes

theorem rxMatch_iff (r : CRx) (s : Str) : rxMatch r s = true ↔ CRx.Lang r s :=
  Rx.accepts_iff CClass.mem r s

theorem groupMatch_iff (g : List CRx) (s : Str) : groupMatch g s = true ↔ ∃ r ∈ g, CRx.Lang r s := by
  simp [groupMatch, rxMatch_iff]

theorem mkP_table (tab : PatTable) (tr : List (Nat × Str × Bool)) (id : Nat) (g : List CRx) (t : Str)
    (h : tab.lookup id = some g) : mkP tab tr id t = some true ↔ ∃ r ∈ g, CRx.Lang r t := by
  simp [mkP, h, groupMatch_iff]

theorem foldItems_slot (f : Slot → Str → Out) (hf : ∀ σ w, (f σ w).2.1 = [] ∨ (f σ w).2.1 = σ) :
    ∀ (ws : List Str) (σ : Slot), (foldItems f σ ws).2 = [] ∨ (foldItems f σ ws).2 = σ
  | [], σ => by simp [foldItems]
  | w :: ws, σ => by
    simp only [foldItems]
    rcases hf σ w with h | h
    · rcases foldItems_slot f hf ws (f σ w).2.1 with h2 | h2
      · exact .inl h2
      · exact .inl (h2.trans h)
    · rcases foldItems_slot f hf ws (f σ w).2.1 with h2 | h2
      · exact .inl h2
      · exact .inr (h2.trans h)

mutual
/-- (a) a type whose primitive type is a union consumes whatever is in the slot; (b) any type leaves the slot
    empty or as it found it -/
theorem slot_inv (E : Env) (C : Conv) (chain : Bool) : (t : SType) → (σ : Slot) → (s : Str) →
    (primIsUnion t = true → (decodeS E C chain t σ s).2.1 = []) ∧
    ((decodeS E C chain t σ s).2.1 = [] ∨ (decodeS E C chain t σ s).2.1 = σ)
  | .builtin b, σ, s => by simp [decodeS, primIsUnion]
  | .restr base ws pat facets, σ, s => by
    have ih := slot_inv E C chain base
    simp only [decodeS, primIsUnion]
    cases hU : primIsUnion base with
    | true =>
      have := (ih (push chain σ pat) (normalize E.W ws s)).1 hU
      simp [this]
    | false =>
      simp only [Bool.false_eq_true, if_false, false_implies, true_and]
      exact (ih σ (normalize E.W ws s)).2
  | .list item, σ, s => by
    have ih := slot_inv E C chain item
    simp only [decodeS, primIsUnion, Bool.false_eq_true, false_implies, true_and]
    exact foldItems_slot _ (fun σ' w => (ih σ' w).2) _ σ
  | .union ms, σ, s => by
    have ih := slot_inv_all E C chain ms s
    simp [decodeS, primIsUnion, ih]
theorem slot_inv_all (E : Env) (C : Conv) (chain : Bool) : (ms : STypes) → (s : Str) →
    (decodeAllS E C chain ms [] s).2 = []
  | .nil, s => by simp [decodeAllS]
  | .cons t ts, s => by
    simp only [decodeAllS]
    rcases (slot_inv E C chain t [] s).2 with h | h <;> rw [h] <;> exact slot_inv_all E C chain ts s
end

theorem slot_empty (E : Env) (C : Conv) (chain : Bool) (t : SType) (s : Str) :
    (decodeS E C chain t [] s).2.1 = [] := by
  rcases (slot_inv E C chain t [] s).2 with h | h <;> exact h

/-- the members of a union are each decoded as on their own, from an empty slot -/
theorem decodeAllS_standalone (E : Env) (C : Conv) (chain : Bool) : (ms : STypes) → (s : Str) →
    (decodeAllS E C chain ms [] s).1 =
      ms.toList.map fun m => (m, (decodeS E C chain m [] s).1, (decodeS E C chain m [] s).2.2)
  | .nil, s => by simp [decodeAllS, STypes.toList]
  | .cons t ts, s => by
    simp only [decodeAllS, STypes.toList, List.map_cons, slot_empty E C chain t s]
    rw [decodeAllS_standalone E C chain ts s]

theorem slotErrs_nil_iff (E : Env) (σ : Slot) (t : Str) :
    slotErrs E σ t = [] ↔ ∀ p ∈ σ, patErrs E (some p) t = [] := by
  rw [← List.flatMap_eq_nil_iff]
  unfold slotErrs
  split
  · rename_i heq; simp only [heq]
  · rename_i heq; simp [heq]

theorem slotErrs_nil (E : Env) (t : Str) : slotErrs E [] t = [] := (slotErrs_nil_iff ..).mpr nofun

theorem slotErrs_nil_iff_P (E : Env) (σ : Slot) (t : Str) : slotErrs E σ t = [] ↔ ∀ p ∈ σ, E.P p t = some true := by
  simp [slotErrs_nil_iff, patErrs_nil_iff]

theorem firstValidM_eq_find (rs : List Tried) : firstValidM rs = rs.find? (·.2.1.valid) := by
  induction rs with
  | nil => rfl
  | cons a t ih => simp only [firstValidM, List.find?_cons, ih]; cases a.2.1.valid <;> rfl

theorem firstValidM_map_iff (f : SType → Tried) (l : List SType) (x : Tried) :
    firstValidM (l.map f) = some x ↔ ∃ pre m post, l = pre ++ m :: post ∧
      (∀ u ∈ pre, (f u).2.1.valid = false) ∧ (f m).2.1.valid = true ∧ x = f m := by
  rw [firstValidM_eq_find, List.find?_map, Option.map_eq_some_iff]
  constructor
  · rintro ⟨m, hm, rfl⟩
    obtain ⟨hv, pre, post, rfl, hp⟩ := List.find?_eq_some_iff_append.mp hm
    exact ⟨pre, m, post, rfl, by simpa using hp, hv, rfl⟩
  · rintro ⟨pre, m, post, rfl, hp, hv, rfl⟩
    exact ⟨m, List.find?_eq_some_iff_append.mpr ⟨hv, pre, post, rfl, by simpa using hp⟩, rfl⟩

theorem firstNonDecodeM_invalid {rs : List Tried} {x : Tried}
    (h : firstNonDecodeM rs = some x) : x.2.1.valid = false := by
  induction rs with
  | nil => simp [firstNonDecodeM] at h
  | cons a as ih =>
    simp only [firstNonDecodeM] at h
    split at h
    · rename_i hc
      simp only [Option.some.injEq] at h; subst h
      simp only [Bool.and_eq_true, Bool.not_eq_true'] at hc
      exact hc.1
    · exact ih h

theorem unionResS_valid_iff (E : Env) (σ : Slot) (s : Str) (rs : List Tried) :
    (unionResS E σ s rs).valid = true ↔
      ∃ x, firstValidM rs = some x ∧ slotErrs E σ (normalize E.W (wsOf x.1) s) = [] := by
  unfold unionResS
  cases hv : firstValidM rs with
  | some x =>
    have : x.2.1.errs = [] := by
      rw [firstValidM_eq_find] at hv; simpa [Res.valid] using List.find?_some hv
    simp [Res.valid, this]
  | none =>
    simp only [false_and, exists_false, iff_false, reduceCtorEq]
    cases hd : firstNonDecodeM rs with
    | some x =>
      have := firstNonDecodeM_invalid hd
      simp only [Res.valid, List.isEmpty_eq_false_iff] at this
      simp [Res.valid, this]
    | none => simp [Res.valid]

theorem unionResS_val (E : Env) (σ : Slot) (s : Str) (rs : List Tried) (x : Tried)
    (h : firstValidM rs = some x) : (unionResS E σ s rs).val = x.2.1.val := by
  simp [unionResS, h]

theorem unionResS_mono (E : Env) {σ τ : Slot} (hsub : ∀ p ∈ τ, p ∈ σ) (s : Str) (rs : List Tried)
    (h : (unionResS E σ s rs).valid = true) :
    (unionResS E τ s rs).valid = true ∧ (unionResS E τ s rs).val = (unionResS E σ s rs).val := by
  obtain ⟨x, hx, hs⟩ := (unionResS_valid_iff ..).mp h
  refine ⟨(unionResS_valid_iff ..).mpr ⟨x, hx, ?_⟩, by rw [unionResS_val _ _ _ _ _ hx, unionResS_val _ _ _ _ _ hx]⟩
  rw [slotErrs_nil_iff] at hs ⊢
  exact fun p hp => hs p (hsub p hp)

theorem unionS_first_match (E : Env) (C : Conv) (chain : Bool) (ms : STypes) (σ : Slot) (s : Str) :
    ((decodeS E C chain (.union ms) σ s).1.valid = true ↔
      ∃ pre m post, ms.toList = pre ++ m :: post ∧
        (∀ u ∈ pre, (decodeTop E C chain u s).valid = false) ∧ (decodeTop E C chain m s).valid = true ∧
        ∀ p ∈ σ, E.P p (normalize E.W (wsOf m) s) = some true) ∧
    (∀ pre m post, ms.toList = pre ++ m :: post → (∀ u ∈ pre, (decodeTop E C chain u s).valid = false) →
      (decodeTop E C chain m s).valid = true →
      (decodeS E C chain (.union ms) σ s).1.val = (decodeTop E C chain m s).val) := by
  have hU : (decodeS E C chain (.union ms) σ s).1 = unionResS E σ s
      (ms.toList.map fun m => (m, decodeTop E C chain m s, strictDecodeErr E C chain m s)) := by
    simp only [decodeS, decodeAllS_standalone, decodeTop, strictDecodeErr]
  have hfirst := firstValidM_map_iff
    (fun m => (m, decodeTop E C chain m s, strictDecodeErr E C chain m s)) ms.toList
  rw [hU]
  generalize List.map _ ms.toList = rs at hfirst ⊢
  refine ⟨?_, fun pre m post hL hpre hm => unionResS_val E _ _ rs _ ((hfirst _).mpr ⟨pre, m, post, hL, hpre, hm, rfl⟩)⟩
  simp only [unionResS_valid_iff, slotErrs_nil_iff_P]
  constructor
  · rintro ⟨x, hx, hpat⟩
    obtain ⟨pre, m, post, hL, hpre, hm, rfl⟩ := (hfirst x).mp hx
    exact ⟨pre, m, post, hL, hpre, hm, hpat⟩
  · rintro ⟨pre, m, post, hL, hpre, hm, hpat⟩
    exact ⟨_, (hfirst _).mpr ⟨pre, m, post, hL, hpre, hm, rfl⟩, hpat⟩

mutual
def unionFree : SType → Bool
  | .builtin _ => true
  | .restr base _ _ _ => unionFree base
  | .list item => unionFree item
  | .union _ => false
/-- no pattern on a restriction of a union, and the members of every union are free of unions -/
def flat : SType → Bool
  | .builtin _ => true
  | .restr base _ pat _ => flat base && (pat.isNone || !primIsUnion base)
  | .list item => flat item
  | .union ms => unionFreeAll ms
def unionFreeAll : STypes → Bool
  | .nil => true
  | .cons t ts => unionFree t && unionFreeAll ts
end

theorem unionFree_not_primIsUnion : (t : SType) → unionFree t = true → primIsUnion t = false
  | .builtin _, _ => rfl
  | .restr base _ _ _, h => by
    simp only [unionFree] at h; simp only [primIsUnion]; exact unionFree_not_primIsUnion base h
  | .list _, _ => rfl
  | .union _, h => by simp [unionFree] at h

theorem foldItems_empty (f : Slot → Str → Out) (hf : ∀ w, (f [] w).2.1 = []) :
    ∀ ws : List Str, foldItems f [] ws = (ws.map fun w => ((f [] w).1, (f [] w).2.2), [])
  | [] => rfl
  | w :: ws => by simp only [foldItems, hf w, foldItems_empty f hf ws, List.map_cons]

theorem headDecode_append {a b : List Err} (h : a ≠ []) : headDecode (a ++ b) = headDecode a := by
  cases a with
  | nil => exact absurd rfl h
  | cons x xs => cases x <;> rfl

theorem headDecode_facetErrs (E : Env) (fs : List Facet) (v : Val) : headDecode (facetErrs E fs v) = false := by
  unfold facetErrs
  cases (fs.filter fun f => !f.ok E v) <;> rfl

theorem headDecode_patErrs (E : Env) (pat : Option Nat) (t : Str) : headDecode (patErrs E pat t) = false := by
  unfold patErrs
  split
  · rfl
  · split <;> rfl

theorem headDecode_restr {e1 e2 : List Err} (r : List Err) (h1 : headDecode e1 = false)
    (h2 : headDecode e2 = false) : headDecode (e1 ++ r ++ e2) = (e1.isEmpty && headDecode r) := by
  cases e1 with
  | cons x xs => cases x <;> first | rfl | cases h1
  | nil =>
    cases r with
    | nil => exact h2
    | cons y ys => cases y <;> rfl

theorem firstFailing_flatten : ∀ rs : List Res,
    firstFailing (rs.map fun r => (r, headDecode r.errs)) = headDecode (rs.map Res.errs).flatten
  | [] => rfl
  | r :: rs => by
    simp only [List.map_cons, firstFailing, List.flatten_cons]
    cases he : r.errs with
    | nil => simp [Res.valid, he, firstFailing_flatten rs]
    | cons e es =>
      have : r.valid = false := by simp [Res.valid, he]
      simp only [this, Bool.false_eq_true, if_false]
      rw [← he, headDecode_append (by simp [he])]

theorem headDecode_listRes (rs : List Res) : headDecode (listRes rs).errs =
    (rs.all (fun r => (itemOf r).isSome) && firstFailing (rs.map fun r => (r, headDecode r.errs))) := by
  unfold listRes
  cases rs.all fun r => (itemOf r).isSome with
  | false => rfl
  | true => simp only [if_true, Bool.true_and, firstFailing_flatten]

theorem decodeS_unionFree (E : Env) (C : Conv) (chain : Bool) : (t : SType) → (s : Str) → unionFree t = true →
    decodeS E C chain t [] s = (decode E C t s, [], headDecode (decode E C t s).errs)
  | .builtin b, s, _ => by simp [decodeS, decode]
  | .restr base ws pat facets, s, h => by
    simp only [unionFree] at h
    have ih := decodeS_unionFree E C chain base (normalize E.W ws s) h
    have hU := unionFree_not_primIsUnion base h
    simp only [decodeS, decode, hU, Bool.false_eq_true, if_false, ih]
    refine Prod.ext rfl (Prod.ext rfl (Eq.symm (headDecode_restr _ (headDecode_patErrs ..) ?_)))
    cases (decode E C base (normalize E.W ws s)).val
    · rfl
    · exact headDecode_facetErrs ..
    · exact headDecode_facetErrs ..
  | .list item, s, h => by
    simp only [unionFree] at h
    have ih := fun w => decodeS_unionFree E C chain item w h
    simp only [decodeS, decode]
    rw [foldItems_empty _ (fun w => slot_empty E C chain item w)]
    simp only [ih, List.map_map, Function.comp_def, headDecode_listRes]
  | .union ms, s, h => by simp [unionFree] at h

theorem firstValidM_map (rs : List Tried) :
    (firstValidM rs).map (·.2.1) = firstValid (rs.map (·.2.1)) := by
  rw [firstValidM_eq_find, firstValid_eq_find, List.find?_map]; rfl

theorem firstNonDecodeM_map (rs : List Tried) (h : ∀ x ∈ rs, x.2.2 = headDecode x.2.1.errs) :
    (firstNonDecodeM rs).map (·.2.1) = firstNonDecode (rs.map (·.2.1)) := by
  induction rs with
  | nil => rfl
  | cons x xs ih =>
    have hx := h x (by simp)
    have ih' := ih (fun y hy => h y (by simp [hy]))
    simp only [firstNonDecodeM, List.map_cons, firstNonDecode, hx, Res.valid]
    cases he : x.2.1.errs with
    | nil => simp [ih', headDecode]
    | cons e es => cases e <;> simp [ih', headDecode]

theorem unionResS_nil (E : Env) (s : Str) (rs : List Tried) (h : ∀ x ∈ rs, x.2.2 = headDecode x.2.1.errs) :
    unionResS E [] s rs = unionRes (rs.map (·.2.1)) := by
  unfold unionResS unionRes
  rw [← firstValidM_map, ← firstNonDecodeM_map rs h]
  cases firstValidM rs with
  | some x => simp [slotErrs_nil]
  | none => cases firstNonDecodeM rs <;> simp [slotErrs_nil]

theorem decodeAllS_unionFree (E : Env) (C : Conv) (chain : Bool) : (ms : STypes) → (s : Str) →
    unionFreeAll ms = true →
    (decodeAllS E C chain ms [] s).1.map (·.2.1) = decodeAll E C ms s ∧
    (∀ x ∈ (decodeAllS E C chain ms [] s).1, x.2.2 = headDecode x.2.1.errs)
  | .nil, s, _ => by simp [decodeAllS, decodeAll]
  | .cons t ts, s, h => by
    simp only [unionFreeAll, Bool.and_eq_true] at h
    have h1 := decodeS_unionFree E C chain t s h.1
    have h2 := decodeAllS_unionFree E C chain ts s h.2
    simp only [decodeAllS, decodeAll, h1, List.map_cons, h2.1, List.mem_cons, true_and]
    rintro x (rfl | hx)
    · rfl
    · exact h2.2 x hx

theorem decodeS_flat (E : Env) (C : Conv) (chain : Bool) : (t : SType) → (s : Str) → flat t = true →
    (decodeS E C chain t [] s).1 = decode E C t s
  | .builtin b, s, _ => by simp [decodeS, decode]
  | .restr base ws pat facets, s, h => by
    simp only [flat, Bool.and_eq_true, Bool.or_eq_true, Option.isNone_iff_eq_none, Bool.not_eq_true'] at h
    have ih := decodeS_flat E C chain base (normalize E.W ws s) h.1
    simp only [decodeS, decode]
    cases hU : primIsUnion base with
    | true =>
      obtain rfl : pat = Option.none := h.2.resolve_right (by simp [hU])
      simp only [push, if_true, ih, patErrs, List.nil_append]
      rfl
    | false =>
      simp only [Bool.false_eq_true, if_false, ih]
      rfl
  | .list item, s, h => by
    simp only [flat] at h
    have ih := fun w => decodeS_flat E C chain item w h
    simp only [decodeS, decode]
    rw [foldItems_empty _ (fun w => slot_empty E C chain item w), List.map_map]
    exact congrArg listRes (List.map_congr_left fun w _ => ih w)
  | .union ms, s, h => by
    simp only [flat] at h
    have hm := decodeAllS_unionFree E C chain ms s h
    simp only [decodeS, decode]
    rw [unionResS_nil E s _ hm.2, hm.1]

end XsVerif.Datatypes
