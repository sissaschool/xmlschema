/-
  C12 — byte-string lemmas for Model/Access.lean: `split`, `startsWith`, `rstripSlash`, and percent
  coding (`unquote` inverts `quote`, and `quote` acts component-wise).  Core Lean only.
-/
import XsVerif.Model.Access

namespace XsVerif.Access

/-- The nested conditionals of `fromUri`,
    `normalizeUrl` and `getUri` are taken apart with this lemma, one level at a time: `split` simplifies
    the whole remaining term at every level, which is slow on terms of that size. -/
theorem ite_eq_cases {α : Type} {c : Prop} [Decidable c] {a b r : α} (h : (if c then a else b) = r) :
    c ∧ a = r ∨ ¬c ∧ b = r := by
  by_cases hc : c
  · exact .inl ⟨hc, by rwa [if_pos hc] at h⟩
  · exact .inr ⟨hc, by rwa [if_neg hc] at h⟩

theorem split_ne_nil (s : Bytes) : split s ≠ [] := by
  induction s with
  | nil => simp [split]
  | cons c t ih =>
    unfold split
    split
    · simp
    · cases h : split t <;> simp_all

theorem split_cons_sep (t : Bytes) : split (47 :: t) = [] :: split t := by
  simp [split]

theorem split_cons_ne {c : Nat} (hc : c ≠ 47) (t : Bytes) :
    ∃ h r, split t = h :: r ∧ split (c :: t) = (c :: h) :: r := by
  cases h : split t with
  | nil => exact absurd h (split_ne_nil t)
  | cons a r => exact ⟨a, r, rfl, by simp [split, hc, h]⟩

theorem split_append_noSep {w s h : Bytes} {r : List Bytes} (hw : 47 ∉ w) (hs : split s = h :: r) :
    split (w ++ s) = (w ++ h) :: r := by
  induction w with
  | nil => exact hs
  | cons x w ih =>
    rw [List.mem_cons, not_or] at hw
    obtain ⟨h', r', ht, hct⟩ := split_cons_ne (Ne.symm hw.1) (w ++ s)
    rw [ih hw.2] at ht
    cases ht
    exact hct

theorem split_noSep {a : Bytes} (h : 47 ∉ a) : split a = [a] := by
  simpa using split_append_noSep (s := []) h rfl

theorem split_append_sep (a r : Bytes) : split (a ++ 47 :: r) = split a ++ split r := by
  induction a with
  | nil => simp [split]
  | cons c t ih =>
    by_cases hc : c = 47
    · subst hc; simp [split, ih]
    · obtain ⟨h, s, ht, hct⟩ := split_cons_ne hc t
      obtain ⟨h', s', ht', hct'⟩ := split_cons_ne hc (t ++ 47 :: r)
      rw [ih, ht] at ht'
      cases ht'
      rw [List.cons_append, hct', hct]
      rfl

theorem split_mem_noSep (s : Bytes) : ∀ c ∈ split s, 47 ∉ c := by
  induction s with
  | nil => simp [split]
  | cons c t ih =>
    by_cases hc : c = 47
    · subst hc; rw [split_cons_sep]; simpa using ih
    · obtain ⟨h, r, ht, hct⟩ := split_cons_ne hc t
      rw [ht] at ih
      rw [hct]
      rw [List.forall_mem_cons] at ih ⊢
      exact ⟨fun hm => (List.mem_cons.mp hm).elim (Ne.symm hc) ih.1, ih.2⟩

/-- non-empty components of a '/'-separated string -/
def comps (s : Bytes) : List Bytes := (split s).filter (fun c => !(c == []))

theorem comps_nil : comps [] = [] := by simp [comps, split]

theorem comps_append_sep (a r : Bytes) : comps (a ++ 47 :: r) = comps a ++ comps r := by
  simp [comps, split_append_sep]

theorem comps_cons_sep (r : Bytes) : comps (47 :: r) = comps r := by
  simpa [comps_nil] using comps_append_sep [] r

theorem comps_replicate_append (n : Nat) (s : Bytes) : comps (List.replicate n 47 ++ s) = comps s := by
  induction n with
  | zero => simp
  | succ k ih => simp [List.replicate_succ, comps_cons_sep, ih]

theorem comps_noSep {a : Bytes} (h : 47 ∉ a) (hne : a ≠ []) : comps a = [a] := by
  simp [comps, split_noSep h, hne]

/-- a path component that is a real name -/
def CleanComp (c : Bytes) : Prop := c ≠ [] ∧ c ≠ dot ∧ c ≠ dotdot ∧ 47 ∉ c

theorem startsWith_iff (s p : Bytes) : startsWith s p = true ↔ ∃ r, s = p ++ r := by
  induction p generalizing s with
  | nil => simp [startsWith]
  | cons b p ih =>
    cases s with
    | nil => simp [startsWith]
    | cons a s =>
      simp only [startsWith, Bool.and_eq_true, beq_iff_eq, ih, List.cons_append, List.cons.injEq]
      constructor
      · rintro ⟨rfl, r, rfl⟩; exact ⟨r, rfl, rfl⟩
      · rintro ⟨r, rfl, rfl⟩; exact ⟨rfl, r, rfl⟩

theorem comps_rstripSlash (s : Bytes) : comps (rstripSlash s) = comps s := by
  have key : ∀ r : Bytes, comps ((r.dropWhile (· == 47)).reverse) = comps r.reverse := by
    intro r
    induction r with
    | nil => rfl
    | cons c t ih =>
      by_cases hc : c = 47
      · subst hc
        rw [List.dropWhile_cons_of_pos (by simp), ih, List.reverse_cons, comps_append_sep, comps_nil,
          List.append_nil]
      · rw [List.dropWhile_cons_of_neg (by simpa using hc)]
  simpa [rstripSlash] using key s.reverse

theorem isSafe_37 : isSafe 37 = false := by decide
theorem isSafe_47 : isSafe 47 = true := by decide

theorem qc_47 : qc 47 = [47] := by simp [qc, isSafe_47]

theorem quote_cons (c : Nat) (p : Bytes) : quote (c :: p) = qc c ++ quote p := by
  simp [quote]

theorem quote_append (a b : Bytes) : quote (a ++ b) = quote a ++ quote b := by
  simp [quote]

theorem qc_head_47 {c : Nat} {t : Bytes} (h : qc c = 47 :: t) : c = 47 ∧ t = [] := by
  unfold qc at h; split at h
  · simp at h; exact ⟨h.1, h.2⟩
  · simp at h

theorem hex_safe (n : Nat) (h : n < 16) : isSafe (hex n) = true := by
  revert n; decide

/-- only bytes are escaped -/
theorem lt_256_of_not_safe {c : Nat} (h : ¬ isSafe c = true) : c < 256 := by
  unfold isSafe at h
  simp only [Bool.or_eq_true, decide_eq_true_eq, not_or] at h
  omega

theorem hexVal_hex : ∀ x, x < 16 → hexVal (hex x) = some x := by decide

theorem unquote_cons_ne (c : Nat) (t : Bytes) (h : c ≠ 37) : unquote (c :: t) = c :: unquote t := by
  rw [unquote.eq_def]
  split
  · rename_i heq; simp at heq; exact absurd heq.1 h
  · rename_i heq; simp at heq; obtain ⟨rfl, rfl⟩ := heq; rfl
  · simp at *

theorem unquote_pct (x y : Nat) (hx : x < 16) (hy : y < 16) (t : Bytes) :
    unquote (37 :: hex x :: hex y :: t) = (16 * x + y) :: unquote t := by
  rw [unquote.eq_def]
  simp [hexVal_hex x hx, hexVal_hex y hy]

theorem unquote_quote_append (p x : Bytes) : unquote (quote p ++ x) = p ++ unquote x := by
  induction p with
  | nil => simp [quote]
  | cons c t ih =>
    rw [quote_cons, List.append_assoc]
    unfold qc
    by_cases hs : isSafe c = true
    · have : c ≠ 37 := by intro e; subst e; simp [isSafe_37] at hs
      rw [if_pos hs, List.singleton_append, unquote_cons_ne c _ this, ih, List.cons_append]
    · have hc := lt_256_of_not_safe hs
      rw [if_neg hs]
      simp only [List.cons_append, List.nil_append]
      rw [unquote_pct (c / 16) (c % 16) (by omega) (by omega), ih]
      congr 1; omega

/-- `unquote_to_bytes(quote_from_bytes(p)) == p` for every byte string (values that are not bytes
    are passed through by the model's `quote`, so no range hypothesis is needed) -/
theorem unquote_quote (p : Bytes) : unquote (quote p) = p := by
  simpa [unquote] using unquote_quote_append p []

theorem quote_inj {a p : Bytes} (h : quote a = quote p) : a = p := by
  rw [← unquote_quote a, h, unquote_quote]

theorem quote_eq_nil {a : Bytes} (h : quote a = []) : a = [] :=
  quote_inj (p := []) h

theorem quote_cancel_sep (a p t : Bytes) (h : quote a ++ 47 :: t = quote p) :
    ∃ r, p = a ++ 47 :: r ∧ t = quote r := by
  have hp : p = a ++ 47 :: unquote t := by
    rw [← unquote_quote p, ← h, unquote_quote_append, unquote_cons_ne 47 _ (by decide)]
  refine ⟨unquote t, hp, ?_⟩
  rw [hp, quote_append, quote_cons, qc_47] at h
  exact (List.cons.inj (List.append_cancel_left h)).2

theorem map_quote_prefix {a b : List Bytes} (h : a.map quote <+: b.map quote) : a <+: b := by
  obtain ⟨l, hl, e⟩ := List.prefix_map_iff.mp h
  rwa [(List.map_inj_right fun _ _ => quote_inj).mp e]

theorem hex_digit {n : Nat} (h : n < 16) : (48 ≤ hex n ∧ hex n ≤ 57) ∨ (65 ≤ hex n ∧ hex n ≤ 70) := by
  unfold hex; split <;> omega

theorem mem_quote {c : Nat} {p : Bytes} (h : c ∈ quote p) :
    (c ∈ p ∧ isSafe c = true) ∨ c = 37 ∨ (48 ≤ c ∧ c ≤ 57) ∨ (65 ≤ c ∧ c ≤ 70) := by
  obtain ⟨a, ha, hc⟩ := List.mem_flatMap.mp h
  unfold qc at hc
  split at hc
  · rename_i hs
    obtain rfl : c = a := by simpa using hc
    exact .inl ⟨ha, hs⟩
  · rename_i hs
    have := lt_256_of_not_safe hs
    simp only [List.mem_cons, List.not_mem_nil, or_false] at hc
    rcases hc with rfl | rfl | rfl
    · exact .inr (.inl rfl)
    · exact .inr (.inr (hex_digit (by omega)))
    · exact .inr (.inr (hex_digit (by omega)))

theorem not_mem_quote {c : Nat} (hs : isSafe c = false)
    (hc : c ≠ 37 ∧ ¬(48 ≤ c ∧ c ≤ 57) ∧ ¬(65 ≤ c ∧ c ≤ 70)) (p : Bytes) : c ∉ quote p := by
  intro h
  rcases mem_quote h with ⟨-, h⟩ | h
  · rw [hs] at h; cases h
  · omega

theorem quote_noSep {a : Bytes} (h : 47 ∉ a) : 47 ∉ quote a := by
  intro hq
  rcases mem_quote hq with ⟨ha, -⟩ | hq
  · exact h ha
  · omega

theorem split_quote (p : Bytes) : split (quote p) = (split p).map quote := by
  induction p with
  | nil => rfl
  | cons c t ih =>
    rw [quote_cons]
    by_cases hc : c = 47
    · subst hc
      rw [qc_47, List.singleton_append, split_cons_sep, split_cons_sep, ih]
      rfl
    · obtain ⟨h, r, ht, hct⟩ := split_cons_ne hc t
      have hq : 47 ∉ qc c := by
        have := quote_noSep (a := [c]) (by simpa using Ne.symm hc)
        simpa [quote] using this
      rw [hct, split_append_noSep hq (by rw [ih, ht]; rfl), List.map_cons, quote_cons]

theorem comps_quote (p : Bytes) : comps (quote p) = (comps p).map quote := by
  unfold comps
  rw [split_quote, List.filter_map]
  congr 1
  apply List.filter_congr
  intro x _
  by_cases hx : x = []
  · subst hx; rfl
  · have : quote x ≠ [] := fun e => hx (quote_eq_nil e)
    simp only [Function.comp, beq_eq_false_iff_ne.mpr hx, beq_eq_false_iff_ne.mpr this]

end XsVerif.Access
