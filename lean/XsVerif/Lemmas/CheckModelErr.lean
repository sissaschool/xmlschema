/-
  C15: where an error of the port of `check_model` comes from.  Every error is the verdict `pairErr` of
  one visited particle against one earlier visited particle (`outerErr_split`).
-/
import XsVerif.Lemmas.CheckModel

namespace XsVerif.CM
open XsVerif.Wildcard

variable (M : Ctx)

theorem stage2Err_some {e : Nat} {cp : List Nat} {pe : Nat} {pp : List Nat} {err : CMErr}
    (h : M.stage2Err e cp pe pp = some err) : err = .upa pe e ∧ (M.v11 = true → M.isAny pe = M.isAny e) := by
  unfold Ctx.stage2Err at h
  cases hd : M.distinguishable (pp ++ [pe]) (cp ++ [e])
  · cases h1 : (M.v11 && M.isAny pe && !M.isAny e)
    · cases h2 : (M.v11 && M.isAny e && !M.isAny pe)
      · simp only [hd, h1, h2, Bool.false_eq_true, if_false] at h
        exact ⟨(Option.some.inj h).symm, sameKind_of_no_precedence h1 h2⟩
      · simp [hd, h1, h2] at h
    · simp [hd, h1] at h
  · simp [hd] at h

theorem upaStep_err {e : Nat} {cp : List Nat} {pe : Nat} {pp : List Nat} {acc : Acc} {err : CMErr}
    (h : (M.upaStep e cp pe pp acc).2 = some err) :
    (err = .sameGroup pe e ∨ err = .upa pe e) ∧ (M.v11 = true → M.isAny pe = M.isAny e) := by
  unfold Ctx.upaStep at h
  rcases stage1_cases M e cp pe pp with ⟨h1, hk⟩ | h1 | h1
  · rw [h1 acc] at h
    exact ⟨.inl (Option.some.inj h).symm, hk⟩
  · rw [h1 acc] at h
    cases h
  · obtain ⟨a, ha⟩ := h1 acc
    rw [ha] at h
    obtain ⟨he, hk⟩ := stage2Err_some M ((stage2_snd M e cp pe pp a).symm.trans h)
    exact ⟨.inr he, hk⟩

/-- a UPA error: two different objects unless the
    shared-group repair is in the tree, where one object can sit at two places -/
theorem pairErr_some {e : Nat} {cp : List Nat} {pe : Nat} {pp : List Nat} {err : CMErr}
    (h : M.pairErr e cp pe pp = some err) :
    (err = .edc e pe ∧ M.consistent e pe = false) ∨
    ((err = .sameGroup pe e ∨ err = .upa pe e) ∧ M.consistent e pe = true ∧
      (M.fx.shared = false → pe ≠ e) ∧ M.overlap pe e = true ∧ (M.v11 = true → M.isAny pe = M.isAny e)) := by
  unfold Ctx.pairErr at h
  cases hc : M.consistent e pe
  · simp only [hc, Bool.not_false, if_true] at h
    exact .inl ⟨(Option.some.inj h).symm, rfl⟩
  · cases hs : ((!M.fx.shared && pe == e) || !M.overlap pe e)
    · simp only [hc, hs, Bool.not_true, Bool.false_eq_true, if_false] at h
      obtain ⟨hp, hk⟩ := upaStep_err M h
      simp only [Bool.or_eq_false_iff, Bool.and_eq_false_iff, Bool.not_eq_false', beq_eq_false_iff_ne] at hs
      refine .inr ⟨hp, rfl, fun hsh => ?_, hs.2, hk⟩
      rcases hs.1 with h1 | h1
      · rw [hsh] at h1; cases h1
      · exact h1
    · simp [hc, hs] at h

theorem outerErr_split : ∀ (l : List (Nat × List Nat)) (d : List Entry) (seen : List (Nat × List Nat)) (err : CMErr),
    (∀ en ∈ d, (en.leaf, en.path) ∈ seen) → M.outerErr l d = some err →
    ∃ l1 e cp l2 pe pp, l = l1 ++ (e, cp) :: l2 ∧ (pe, pp) ∈ seen ++ l1 ∧ M.pairErr e cp pe pp = some err := by
  intro l
  induction l with
  | nil => intro d seen err _ h; cases h
  | cons hd rest ih =>
    obtain ⟨e, cp⟩ := hd
    intro d seen err hd h
    rcases Option.or_eq_some_iff.mp h with hs | ⟨_, hr⟩
    · obtain ⟨en, hen, hp⟩ := againstErr_eq_some M hs
      exact ⟨[], e, cp, rest, en.leaf, en.path, rfl, by simpa using hd en hen, hp⟩
    · obtain ⟨l1, e2, cp2, l2, pe, pp, hl, hm, hp⟩ := ih _ (seen ++ [(e, cp)]) err (by
        intro en hen
        rcases (mem_dictSet _ _ _).mp hen with rfl | ⟨hen, _⟩
        · simp
        · simp [hd en hen]) hr
      exact ⟨(e, cp) :: l1, e2, cp2, l2, pe, pp, by simp [hl], by simpa [List.append_assoc] using hm, hp⟩

theorem checkModel_err_split (p : Particle) {err : CMErr} (h : (M.checkModel p).err = some err) :
    ∃ l1 e cp l2 pe pp, M.visited p = l1 ++ (e, cp) :: l2 ∧ (pe, pp) ∈ l1 ∧ M.pairErr e cp pe pp = some err := by
  rw [checkModel_err] at h
  obtain ⟨l1, e, cp, l2, pe, pp, hl, hm, hp⟩ := outerErr_split M _ [] [] err (fun en hen => nomatch hen) h
  exact ⟨l1, e, cp, l2, pe, pp, hl, hm, hp⟩

theorem checkModel_err_pair (p : Particle) {err : CMErr} (h : (M.checkModel p).err = some err) :
    ∃ e cp pe pp, e ∈ (M.visited p).map (·.1) ∧ pe ∈ (M.visited p).map (·.1) ∧ M.pairErr e cp pe pp = some err := by
  obtain ⟨l1, e, cp, l2, pe, pp, hl, hm, hp⟩ := checkModel_err_split M p h
  refine ⟨e, cp, pe, pp, ?_, ?_, hp⟩
  · rw [hl]; simp
  · rw [hl]
    exact List.mem_map.mpr ⟨_, List.mem_append_left _ hm, rfl⟩

theorem checkModel_edc_pair (p : Particle) (e pe : Nat) (h : (M.checkModel p).err = some (.edc e pe)) :
    e ∈ (M.visited p).map (·.1) ∧ pe ∈ (M.visited p).map (·.1) ∧ M.consistent e pe = false := by
  obtain ⟨e', cp, pe', pp, he, hpe, hp⟩ := checkModel_err_pair M p h
  rcases pairErr_some M hp with ⟨heq, hc⟩ | ⟨heq | heq, _⟩
  · cases heq; exact ⟨he, hpe, hc⟩
  · cases heq
  · cases heq

theorem checkModel_upa_pair (p : Particle) (pe e : Nat)
    (h : (M.checkModel p).err = some (.upa pe e) ∨ (M.checkModel p).err = some (.sameGroup pe e)) :
    pe ∈ (M.visited p).map (·.1) ∧ e ∈ (M.visited p).map (·.1) ∧ (M.fx.shared = false → pe ≠ e) ∧
      M.overlap pe e = true ∧ M.consistent e pe = true ∧ (M.v11 = true → M.isAny pe = M.isAny e) := by
  obtain ⟨err, herr, hk⟩ : ∃ err, (M.checkModel p).err = some err ∧ (err = .upa pe e ∨ err = .sameGroup pe e) :=
    h.elim (fun h => ⟨_, h, .inl rfl⟩) fun h => ⟨_, h, .inr rfl⟩
  obtain ⟨e', cp, pe', pp, he, hpe, hp⟩ := checkModel_err_pair M p herr
  rcases pairErr_some M hp with ⟨heq, _⟩ | ⟨heq, hc, hne, hov, hkind⟩
  · rcases hk with rfl | rfl <;> cases heq
  · have hids : pe' = pe ∧ e' = e := by
      rcases hk with rfl | rfl <;> rcases heq with heq | heq <;> cases heq <;> exact ⟨rfl, rfl⟩
    obtain ⟨rfl, rfl⟩ := hids
    exact ⟨hpe, he, hne, hov, hc, hkind⟩

end XsVerif.CM
