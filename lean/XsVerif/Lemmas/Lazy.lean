/-
  Helper lemmas for C06 / C20 (Model/Lazy.lean).  Plain Lean core.
-/
import XsVerif.Model.Lazy

namespace XsVerif.Lazy

def isNs : Ev → Bool
  | .startNs _ _ => true
  | .endNs => true
  | _ => false

theorem foldl_startNs {σ : Type} (f : σ → Ev → σ) (g : List (String × String) → σ)
    (hs : ∀ pend p u, f (g pend) (.startNs p u) = g (pend ++ [(p, u)])) :
    ∀ (ds pend : List (String × String)), (ds.map fun d => Ev.startNs d.1 d.2).foldl f (g pend) = g (pend ++ ds)
  | [], pend => by rw [List.append_nil]; rfl
  | d :: ds, pend => by
    rw [List.map_cons, List.foldl_cons, hs, foldl_startNs f g hs ds, List.append_assoc]; rfl

theorem foldl_endNs {σ : Type} (f : σ → Ev → σ) (he : ∀ s, f s .endNs = s) (s : σ) :
    ∀ ds : List (String × String), (ds.map fun _ => Ev.endNs).foldl f s = s
  | [] => rfl
  | _ :: ds => by rw [List.map_cons, List.foldl_cons, he, foldl_endNs f he s ds]

theorem foldl_events_node' {σ : Type} (f : σ → Ev → σ) (g : List (String × String) → σ)
    (hs : ∀ pend p u, f (g pend) (.startNs p u) = g (pend ++ [(p, u)])) (he : ∀ s, f s .endNs = s)
    (pend : List (String × String)) (i : Nat) (tg : String) (ds : List (String × String)) (cs : List Tree) :
    (events (.node i tg ds cs)).foldl f (g pend)
      = f ((eventsF cs).foldl f (f (g (pend ++ ds)) (.start i tg))) (.stop i tg) := by
  simp only [events, List.foldl_append, List.foldl_cons, List.foldl_nil]
  rw [foldl_startNs f g hs, foldl_endNs f he]

theorem foldl_events_node {σ : Type} (f : σ → Ev → σ) (hf : ∀ s e, isNs e = true → f s e = s) (s : σ)
    (i : Nat) (tg : String) (ds : List (String × String)) (cs : List Tree) :
    (events (.node i tg ds cs)).foldl f s
      = f ((eventsF cs).foldl f (f s (.start i tg))) (.stop i tg) :=
  foldl_events_node' f (fun _ => s) (fun _ _ _ => hf s _ rfl) (fun s => hf s _ rfl) [] i tg ds cs

theorem nsRun_append (b : Bool) (s : NsSt) (xs ys : List Ev) :
    nsRun b s (xs ++ ys) = nsRun b (nsRun b s xs) ys := List.foldl_append

theorem nsRun_cons (b : Bool) (s : NsSt) (x : Ev) (ys : List Ev) :
    nsRun b s (x :: ys) = nsRun b (nsStep b s x) ys := rfl

theorem nsRun_nil (b : Bool) (s : NsSt) : nsRun b s [] = s := rfl

theorem nsRun_startNs (b : Bool) (ds : List (String × String)) (s : NsSt) :
    nsRun b s (ds.map (fun d => Ev.startNs d.1 d.2)) = { s with pending := s.pending ++ ds } :=
  foldl_startNs (nsStep b) (fun pend => { s with pending := pend }) (fun _ _ _ => rfl) ds s.pending

theorem nsRun_endNs (b : Bool) (ds : List (String × String)) (s : NsSt) :
    nsRun b s (ds.map (fun _ => Ev.endNs)) = { s with endNs := s.endNs || !ds.isEmpty } := by
  induction ds generalizing s with
  | nil => rw [List.isEmpty_nil, Bool.not_true, Bool.or_false]; rfl
  | cons d ds ih =>
    rw [List.map_cons, nsRun_cons, ih, List.isEmpty_cons, Bool.not_false, Bool.or_true]
    rfl

/-- the stack as it will be after the pending pop -/
def eff (s : NsSt) : List NsMap := if s.endNs then s.stack.tail else s.stack

theorem popIf_spec (s : NsSt) (m : NsMap) (rest : List NsMap) (he : eff s = m :: rest) :
    popIf s = { s with stack := m :: rest, endNs := false } := by
  obtain ⟨stack, pending, endNs, out, fail⟩ := s
  cases endNs
  · cases (he : stack = m :: rest)
    rfl
  · cases stack with
    | nil => cases he
    | cons x xs =>
      cases (he : xs = m :: rest)
      rfl

/-- `rest'`: the stack from which the parent's is recovered once the 'end-ns' events (one per declaration) are seen -/
theorem pushRecord_spec (s : NsSt) (m : NsMap) (rest : List NsMap) (ds : List (String × String)) (i : Nat) :
    ∃ rest', pushRecord { s with stack := m :: rest, pending := ds, endNs := false } i
        = { s with stack := updAll m ds :: rest', pending := [], endNs := false,
                   out := s.out ++ [(i, updAll m ds)] }
      ∧ (if !ds.isEmpty then rest' else updAll m ds :: rest') = m :: rest := by
  cases ds
  · exact ⟨rest, rfl, rfl⟩
  · exact ⟨m :: rest, rfl, rfl⟩

/-- post-condition of running the events of a subtree from `s` -/
def NsPost (s s' : NsSt) (m : NsMap) (rest : List NsMap) (recs : List (Nat × NsMap)) : Prop :=
  s'.fail = false ∧ s'.pending = [] ∧ eff s' = m :: rest ∧ s'.out = s.out ++ recs

/- Invariant of the lazy loader's loop over the events of a subtree: the effective stack is restored
   and the recorded maps are the in-scope maps. -/
mutual
theorem ns_inv : ∀ (t : Tree) (s : NsSt) (m : NsMap) (rest : List NsMap),
    s.fail = false → s.pending = [] → eff s = m :: rest →
    NsPost s (nsRun true s (events t)) m rest (inScope m t)
  | .node i tg ds cs => fun s m rest hf hp he => by
    obtain ⟨rest', hpush, hrest⟩ := pushRecord_spec s m rest ds i
    obtain ⟨h1, h2, h3, h4⟩ := ns_invF cs
      { s with stack := updAll m ds :: rest', pending := [], endNs := false, out := s.out ++ [(i, updAll m ds)] }
      (updAll m ds) rest' hf rfl rfl
    simp only [events, nsRun_append, nsRun_startNs, nsRun_cons, nsRun_nil, nsStep, if_true, nsRun_endNs, inScope]
    rw [popIf_spec { s with pending := s.pending ++ ds } m rest he, hp]
    simp only [List.nil_append, hpush]
    rw [popIf_spec _ _ rest' h3]
    exact ⟨h1, h2, hrest, by rw [h4, List.append_assoc]; rfl⟩
theorem ns_invF : ∀ (ts : List Tree) (s : NsSt) (m : NsMap) (rest : List NsMap),
    s.fail = false → s.pending = [] → eff s = m :: rest →
    NsPost s (nsRun true s (eventsF ts)) m rest (inScopeF m ts)
  | [] => fun s m rest hf hp he => ⟨hf, hp, he, (List.append_nil _).symm⟩
  | t :: ts => fun s m rest hf hp he => by
    obtain ⟨h1, h2, h3, h4⟩ := ns_inv t s m rest hf hp he
    obtain ⟨g1, g2, g3, g4⟩ := ns_invF ts _ m rest h1 h2 h3
    rw [eventsF, nsRun_append, inScopeF]
    exact ⟨g1, g2, g3, by rw [g4, h4, List.append_assoc]⟩
end

theorem parseStep_eq (s : NsSt) (e : Ev) : parseStep s e = nsStep true s e := by
  cases e <;> rfl

theorem parseRun_eq (evs : List Ev) (s : NsSt) : evs.foldl parseStep s = nsRun true s evs := by
  induction evs generalizing s with
  | nil => rfl
  | cons e evs ih => simp only [List.foldl_cons, nsRun_cons, parseStep_eq]; exact ih _

theorem iterStep_ns (d : Nat) (sel : String → Bool) (s : ItSt) (e : Ev) (h : isNs e = true) :
    iterStep d sel s e = s := by
  cases e <;> first | rfl | cases h

def allTags : String → Bool := fun _ => true

theorem iterStep_start (d : Nat) (sel : String → Bool) (l : Nat) (deq : List Nat) (out : List (Nat × Kind))
    (i : Nat) (t : String) :
    iterStep d sel ⟨l, deq, out⟩ (.start i t)
      = ⟨l + 1, deq, if l < d && sel t then out ++ [(i, Kind.incomplete)] else out⟩ := rfl

theorem iterStep_stop (d : Nat) (sel : String → Bool) (l : Nat) (deq : List Nat) (out : List (Nat × Kind))
    (i : Nat) (t : String) :
    iterStep d sel ⟨l + 1, deq, out⟩ (.stop i t)
      = if l < d then ⟨l, deq, out⟩
        else if d < l then ⟨l, if sel t then i :: deq else deq, out⟩
        else ⟨l, [], out ++ (if sel t then [(i, Kind.full)] else []) ++ deq.map fun j => (j, Kind.sub)⟩ := rfl

mutual
theorem iter_deep (d : Nat) : ∀ (t : Tree) (l : Nat) (deq : List Nat) (out : List (Nat × Kind)), d < l →
    (events t).foldl (iterStep d allTags) ⟨l, deq, out⟩ = ⟨l, (postorder t).reverse ++ deq, out⟩
  | .node i tg ds cs => fun l deq out h => by
    rw [foldl_events_node _ (iterStep_ns d allTags), iterStep_start, decide_eq_false (Nat.lt_asymm h),
      Bool.false_and, if_neg Bool.false_ne_true, iter_deepF d cs (l + 1) deq out (Nat.lt_succ_of_lt h),
      iterStep_stop, if_neg (Nat.lt_asymm h), if_pos h]
    simp only [allTags, if_true, postorder, List.reverse_append, List.reverse_cons, List.reverse_nil,
      List.nil_append, List.cons_append]
theorem iter_deepF (d : Nat) : ∀ (ts : List Tree) (l : Nat) (deq : List Nat) (out : List (Nat × Kind)), d < l →
    (eventsF ts).foldl (iterStep d allTags) ⟨l, deq, out⟩ = ⟨l, (postorderF ts).reverse ++ deq, out⟩
  | [] => fun l deq out _ => rfl
  | t :: ts => fun l deq out h => by
    rw [eventsF, List.foldl_append, iter_deep d t l deq out h, iter_deepF d ts l _ out h, postorderF,
      List.reverse_append, List.append_assoc]
end

mutual
theorem iter_top (d : Nat) : ∀ (t : Tree) (l : Nat) (out : List (Nat × Kind)), l ≤ d →
    (events t).foldl (iterStep d allTags) ⟨l, [], out⟩ = ⟨l, [], out ++ lazyOrder d l t⟩
  | .node i tg ds cs => fun l out h => by
    rw [foldl_events_node _ (iterStep_ns d allTags), lazyOrder]
    rcases Nat.lt_or_eq_of_le h with hl | rfl
    · rw [iterStep_start, decide_eq_true hl, if_pos (show (true && allTags tg) = true from rfl),
        iter_topF d cs (l + 1) _ hl, iterStep_stop, if_pos hl, if_pos hl, List.append_assoc]
      rfl
    · rw [iterStep_start, decide_eq_false (Nat.lt_irrefl l), Bool.false_and, if_neg Bool.false_ne_true,
        iter_deepF l cs (l + 1) [] out (Nat.lt_succ_self l), iterStep_stop, if_neg (Nat.lt_irrefl l),
        if_neg (Nat.lt_irrefl l), if_neg (Nat.lt_irrefl l), List.append_nil, List.append_assoc]
      rfl
theorem iter_topF (d : Nat) : ∀ (ts : List Tree) (l : Nat) (out : List (Nat × Kind)), l ≤ d →
    (eventsF ts).foldl (iterStep d allTags) ⟨l, [], out⟩ = ⟨l, [], out ++ lazyOrderF d l ts⟩
  | [] => fun l out _ => by rw [lazyOrderF, List.append_nil]; rfl
  | t :: ts => fun l out h => by
    rw [eventsF, List.foldl_append, iter_top d t l out h, iter_topF d ts l _ h, lazyOrderF, List.append_assoc]
end

mutual
theorem post_perm_pre : ∀ t : Tree, (postorder t).Perm (preorder t)
  | .node i _ _ cs => by
    simp only [postorder, preorder]
    exact (List.perm_append_comm).trans (List.Perm.cons i (post_perm_preF cs))
theorem post_perm_preF : ∀ ts : List Tree, (postorderF ts).Perm (preorderF ts)
  | [] => by simp [postorderF, preorderF]
  | t :: ts => by
    simp only [postorderF, preorderF]
    exact List.Perm.append (post_perm_pre t) (post_perm_preF ts)
end

mutual
theorem lazyOrder_perm (d : Nat) : ∀ (t : Tree) (l : Nat), ((lazyOrder d l t).map Prod.fst).Perm (preorder t)
  | .node i _ _ cs => fun l => by
    simp only [lazyOrder, preorder]
    split
    · simp only [List.map_cons]
      exact List.Perm.cons i (lazyOrderF_perm d cs (l + 1))
    · simp only [List.map_cons, List.map_map, Function.comp_def, List.map_id']
      exact List.Perm.cons i ((List.reverse_perm _).trans (post_perm_preF cs))
theorem lazyOrderF_perm (d : Nat) : ∀ (ts : List Tree) (l : Nat),
    ((lazyOrderF d l ts).map Prod.fst).Perm (preorderF ts)
  | [] => fun _ => by simp [lazyOrderF, preorderF]
  | t :: ts => fun l => by
    simp only [lazyOrderF, preorderF, List.map_append]
    exact List.Perm.append (lazyOrder_perm d t l) (lazyOrderF_perm d ts l)
end

theorem idStep_ns (mode d : Nat) (s : IdSt) (e : Ev) (h : isNs e = true) : idStep mode d s e = s := by
  cases e <;> first | rfl | cases h

theorem idStep_stop_root (mode d : Nat) (anc : List Nat) (out : List (Nat × List Nat)) (i : Nat) (tg : String) :
    idStep mode d ⟨1, anc, out⟩ (.stop i tg) = ⟨0, anc, out ++ if 2 < mode then [(i, anc)] else []⟩ := by
  rw [apply_ite (out ++ ·), List.append_nil]
  rfl

theorem ifStep_ns (pd : Nat) (s : IdSt) (e : Ev) (h : isNs e = true) : ifStep pd s e = s := by
  cases e <;> first | rfl | cases h

theorem sub_eq_succ_of_lt {l d : Nat} (h : l < d) : d - l = d - (l + 1) + 1 :=
  (Nat.succ_pred_eq_of_pos (Nat.sub_pos_of_lt h)).symm

/-- A loop that tracks the level (from level `l0` on), keeps the chain of the open elements down to depth `d` and,
    when `emit`, records the elements of depth `d` with that chain.  `iter_depth` (from level 1 on) and `iterfind`
    are such loops. -/
structure ChunkLoop (f : IdSt → Ev → IdSt) (d l0 : Nat) (emit : Prop) [Decidable emit] : Prop where
  ns : ∀ s e, isNs e = true → f s e = s
  start : ∀ l anc out i tg, l0 ≤ l →
    f ⟨l, anc, out⟩ (.start i tg) = ⟨l + 1, if l < d then anc ++ [i] else anc, out⟩
  stop : ∀ l anc out i tg, l0 ≤ l →
    f ⟨l + 1, anc, out⟩ (.stop i tg)
      = if l < d then ⟨l, anc.dropLast, out⟩
        else if l = d then ⟨l, anc, if emit then out ++ [(i, anc)] else out⟩ else ⟨l, anc, out⟩

/- such a loop yields `chunksAt` -/
mutual
theorem chunk_fold {f : IdSt → Ev → IdSt} {d l0 : Nat} {emit : Prop} [Decidable emit] (hf : ChunkLoop f d l0 emit) :
    ∀ (t : Tree) (l : Nat) (anc : List Nat) (out : List (Nat × List Nat)), l0 ≤ l →
    (events t).foldl f ⟨l, anc, out⟩
      = ⟨l, anc, out ++ (if l ≤ d ∧ emit then chunksAt (d - l) anc t else [])⟩
  | .node i tg ds cs => fun l anc out h => by
    rw [foldl_events_node _ hf.ns, hf.start _ _ _ _ _ h, chunk_foldF hf cs (l + 1) _ out (Nat.le_succ_of_le h),
      hf.stop _ _ _ _ _ h]
    rcases Nat.lt_trichotomy l d with hlt | rfl | hgt
    · rw [if_pos hlt, if_pos hlt, sub_eq_succ_of_lt hlt]
      simp only [List.dropLast_concat, Nat.succ_le_of_lt hlt, Nat.le_of_lt hlt, true_and, chunksAt]
    · rw [if_neg (Nat.lt_irrefl l), if_neg (Nat.lt_irrefl l), if_pos rfl]
      simp only [Nat.not_succ_le_self, false_and, if_false, List.append_nil, Nat.le_refl, true_and, Nat.sub_self,
        chunksAt, apply_ite (out ++ ·)]
    · rw [if_neg (Nat.lt_asymm hgt), if_neg (Nat.lt_asymm hgt), if_neg (Nat.ne_of_gt hgt)]
      simp only [Nat.not_le_of_gt hgt, Nat.not_le_of_gt (Nat.lt_succ_of_lt hgt), false_and, if_false,
        List.append_nil]
theorem chunk_foldF {f : IdSt → Ev → IdSt} {d l0 : Nat} {emit : Prop} [Decidable emit] (hf : ChunkLoop f d l0 emit) :
    ∀ (ts : List Tree) (l : Nat) (anc : List Nat) (out : List (Nat × List Nat)), l0 ≤ l →
    (eventsF ts).foldl f ⟨l, anc, out⟩
      = ⟨l, anc, out ++ (if l ≤ d ∧ emit then chunksAtF (d - l) anc ts else [])⟩
  | [] => fun l anc out _ => by rw [chunksAtF, ite_self, List.append_nil]; rfl
  | t :: ts => fun l anc out h => by
    rw [eventsF, List.foldl_append, chunk_fold hf t l anc out h, chunk_foldF hf ts l anc _ h, chunksAtF,
      List.append_assoc]
    by_cases hc : l ≤ d ∧ emit
    · rw [if_pos hc, if_pos hc, if_pos hc]
    · rw [if_neg hc, if_neg hc, if_neg hc]; rfl
end

theorem idStep_chunkLoop (mode d : Nat) : ChunkLoop (idStep mode d) d 1 (mode ≠ 3) := by
  refine ⟨idStep_ns mode d, fun l anc out i tg h => ?_, fun l anc out i tg h => ?_⟩
  · simp only [idStep, beq_eq_false_iff_ne.mpr (Nat.ne_of_gt h), Bool.false_and, Bool.false_eq_true, if_false]
  · simp only [idStep, Nat.add_sub_cancel, beq_eq_false_iff_ne.mpr (Nat.ne_of_gt h), Bool.false_eq_true, if_false,
      bne_iff_ne, ne_eq, ite_not]
    by_cases hlt : l < d
    · rw [if_pos hlt, if_neg (Nat.ne_of_lt hlt), if_pos hlt]
    · rw [if_neg hlt, if_neg hlt]

theorem ifStep_chunkLoop (pd : Nat) : ChunkLoop (ifStep pd) pd 0 True :=
  ⟨ifStep_ns pd, fun _ _ _ _ _ _ => rfl, fun l anc out i tg _ => by
    simp only [ifStep, Nat.add_sub_cancel, beq_iff_eq, if_true]⟩

theorem idepth_sub (mode d : Nat) : ∀ (t : Tree) (l : Nat) (anc : List Nat) (out : List (Nat × List Nat)),
    1 ≤ l →
    (events t).foldl (idStep mode d) ⟨l, anc, out⟩
      = ⟨l, anc, out ++ (if l ≤ d ∧ mode ≠ 3 then chunksAt (d - l) anc t else [])⟩ :=
  chunk_fold (idStep_chunkLoop mode d)

theorem ifind_sub (pd : Nat) (t : Tree) (l : Nat) (anc : List Nat) (out : List (Nat × List Nat)) :
    (events t).foldl (ifStep pd) ⟨l, anc, out⟩
      = ⟨l, anc, out ++ (if l ≤ pd then chunksAt (pd - l) anc t else [])⟩ :=
  (chunk_fold (ifStep_chunkLoop pd) t l anc out (Nat.zero_le l)).trans (by simp only [and_true])

theorem ifind_subF (pd : Nat) : ∀ (ts : List Tree) (l : Nat) (anc : List Nat)
    (out : List (Nat × List Nat)),
    (eventsF ts).foldl (ifStep pd) ⟨l, anc, out⟩
      = ⟨l, anc, out ++ (if l ≤ pd then chunksAtF (pd - l) anc ts else [])⟩ :=
  fun ts l anc out =>
    (chunk_foldF (ifStep_chunkLoop pd) ts l anc out (Nat.zero_le l)).trans (by simp only [and_true])

section val
variable {D E : Type}

mutual
theorem tags_ge (v : Val D E) : ∀ (t : Tree) (pos : List Nat) (d : D),
    ∀ e ∈ eagerT v pos d t, pos.length ≤ e.1.length
  | .node _ _ _ cs => fun pos d => tags_geK v cs pos d _ 0
theorem tags_geK (v : Val D E) : ∀ (cs : List Tree) (pos : List Nat) (d : D) (parent : Tree) (j : Nat),
    ∀ e ∈ eagerKids v pos d parent j cs, pos.length ≤ e.1.length
  | [] => fun pos d parent j => by
    intro e he
    obtain ⟨_, _, rfl⟩ := List.mem_map.mp he
    exact Nat.le_refl _
  | c :: cs => fun pos d parent j => by
    intro e he
    rw [eagerKids, List.mem_append, List.mem_append] at he
    rcases he with (he | he) | he
    · obtain ⟨_, _, rfl⟩ := List.mem_map.mp he
      exact Nat.le_refl _
    · cases hg : v.gov d parent j with
      | none => rw [hg] at he; cases he
      | some d' =>
        rw [hg] at he
        have := tags_ge v c (pos ++ [j]) d' e he
        rw [List.length_append] at this
        exact Nat.le_of_add_right_le this
    · exact tags_geK v cs pos d parent (j + 1) e he
end

theorem filter_own (pos : List Nat) (p : List Nat × E → Bool) (b : Bool) (l : List E) (h : ∀ e, p (pos, e) = b) :
    (l.map fun e => (pos, e)).filter p = if b then l.map fun e => (pos, e) else [] := by
  cases b
  · exact List.filter_eq_nil_iff.mpr fun e he => by
      obtain ⟨_, _, rfl⟩ := List.mem_map.mp he
      simp only [h, Bool.false_eq_true, not_false_eq_true]
  · exact List.filter_eq_self.mpr fun e he => by
      obtain ⟨_, _, rfl⟩ := List.mem_map.mp he
      exact h _

/- the errors owned by elements above the cut are exactly the errors of the depth-limited run -/
mutual
theorem cut_eq_filter (v : Val D E) : ∀ (t : Tree) (k : Nat) (pos : List Nat) (d : D), 1 ≤ k →
    (eagerT v pos d t).filter (fun e => decide (e.1.length < pos.length + k)) = cutT v k pos d t
  | .node _ _ _ cs => fun k pos d hk => cut_eq_filterK v cs k pos d _ 0 hk
theorem cut_eq_filterK (v : Val D E) : ∀ (cs : List Tree) (k : Nat) (pos : List Nat) (d : D)
    (parent : Tree) (j : Nat), 1 ≤ k →
    (eagerKids v pos d parent j cs).filter (fun e => decide (e.1.length < pos.length + k))
      = cutKids v k pos d parent j cs
  | [] => fun k pos d parent j hk =>
    filter_own pos _ true _ fun _ => decide_eq_true (Nat.lt_add_of_pos_right hk)
  | c :: cs => fun k pos d parent j hk => by
    rw [eagerKids, cutKids, List.filter_append, List.filter_append, cut_eq_filterK v cs k pos d parent (j + 1) hk,
      filter_own pos _ true _ fun _ => decide_eq_true (Nat.lt_add_of_pos_right hk)]
    congr 2
    cases v.gov d parent j with
    | none => rw [ite_self]; rfl
    | some d' =>
      dsimp only
      by_cases h1 : 1 < k
      · rw [if_pos h1, ← cut_eq_filter v c (k - 1) (pos ++ [j]) d' (Nat.le_sub_one_of_lt h1), List.length_append,
          List.length_singleton, Nat.add_assoc, Nat.add_sub_of_le hk]
      · rw [if_neg h1]
        refine List.filter_eq_nil_iff.mpr fun e he => ?_
        have hle := tags_ge v c (pos ++ [j]) d' e he
        rw [List.length_append] at hle
        simp only [decide_eq_true_eq, Nat.not_lt]
        exact Nat.le_trans (Nat.add_le_add_left (Nat.le_of_not_lt h1) _) hle
end

mutual
theorem chunkPairs_none (v : Val D E) : ∀ (t : Tree) (k : Nat) (pos : List Nat),
    ∀ p ∈ chunkPairs v k pos none t, p.2.1 = none
  | .node i tg ds cs => fun k pos => match k with
    | 0 => fun p hp => by rw [List.mem_singleton.mp hp]
    | k + 1 => chunkPairsF_none v cs k pos _ 0
theorem chunkPairsF_none (v : Val D E) : ∀ (cs : List Tree) (k : Nat) (pos : List Nat) (parent : Tree)
    (j : Nat), ∀ p ∈ chunkPairsF v k pos none parent j cs, p.2.1 = none
  | [] => fun k pos parent j p hp => nomatch hp
  | c :: cs => fun k pos parent j p hp => by
    rw [chunkPairsF, List.mem_append] at hp
    rcases hp with hp | hp
    · exact chunkPairs_none v c k (pos ++ [j]) p hp
    · exact chunkPairsF_none v cs k pos parent (j + 1) p hp
end

def chunkF (v : Val D E) (pick : Option D → Tree → Option D) (p : List Nat × Option D × Tree) :
    List (List Nat × E) :=
  match pick p.2.1 p.2.2 with
  | some d' => eagerT v p.1 d' p.2.2
  | none => []

theorem chunkErrs_def (v : Val D E) (pick : Option D → Tree → Option D) (k : Nat) (pos : List Nat)
    (d : Option D) (t : Tree) :
    chunkErrs v pick k pos d t = (chunkPairs v k pos d t).flatMap (chunkF v pick) := rfl

theorem chunkErrs_congr (v : Val D E) {pick pick' : Option D → Tree → Option D} {k : Nat} {pos : List Nat}
    {d : Option D} {t : Tree} (h : ∀ p ∈ chunkPairs v k pos d t, chunkF v pick p = chunkF v pick' p) :
    chunkErrs v pick k pos d t = chunkErrs v pick' k pos d t := by
  rw [chunkErrs_def, chunkErrs_def, List.flatMap_def, List.flatMap_def, List.map_congr_left h]

theorem chunkErrs_none (v : Val D E) (t : Tree) (k : Nat) (pos : List Nat) :
    chunkErrs v govPick k pos none t = [] :=
  List.flatMap_eq_nil_iff.mpr fun p hp => by
    show chunkF v govPick p = []
    rw [chunkF, govPick, chunkPairs_none v t k pos p hp]

/- the errors owned by elements at or below the cut are the errors of the chunks, in document order,
   each chunk validated against its governing declaration -/
mutual
theorem deep_eq_chunks (v : Val D E) : ∀ (t : Tree) (k : Nat) (pos : List Nat) (d : D),
    (eagerT v pos d t).filter (fun e => !decide (e.1.length < pos.length + k))
      = chunkErrs v govPick k pos (some d) t
  | .node i tg ds cs => fun k pos d => match k with
    | 0 => by
      rw [chunkErrs_def, chunkPairs, List.flatMap_singleton]
      exact List.filter_eq_self.mpr fun e he => by
        simp only [Nat.add_zero, Bool.not_eq_eq_eq_not, Bool.not_true, decide_eq_false_iff_not, Nat.not_lt]
        exact tags_ge v _ pos d e he
    | k + 1 => deep_eq_chunksK v cs k pos d _ 0
theorem deep_eq_chunksK (v : Val D E) : ∀ (cs : List Tree) (k : Nat) (pos : List Nat) (d : D)
    (parent : Tree) (j : Nat),
    (eagerKids v pos d parent j cs).filter (fun e => !decide (e.1.length < pos.length + (k + 1)))
      = (chunkPairsF v k pos (some d) parent j cs).flatMap (chunkF v govPick)
  | [] => fun k pos d parent j =>
    filter_own pos _ false _ fun _ => by
      rw [decide_eq_true (Nat.lt_add_of_pos_right (Nat.succ_pos k))]; rfl
  | c :: cs => fun k pos d parent j => by
    rw [eagerKids, chunkPairsF, List.filter_append, List.filter_append, List.flatMap_append,
      deep_eq_chunksK v cs k pos d parent (j + 1), filter_own pos _ false _ fun _ => by
        rw [decide_eq_true (Nat.lt_add_of_pos_right (Nat.succ_pos k))]; rfl]
    congr 1
    rw [Option.bind_some, ← chunkErrs_def]
    cases v.gov d parent j with
    | none => rw [chunkErrs_none]; rfl
    | some d' =>
      rw [← deep_eq_chunks v c k (pos ++ [j]) d', List.length_append, List.length_singleton, Nat.add_assoc,
        Nat.add_comm 1 k]
      rfl
end

theorem cut_root (v : Val D E) (d : D) (t : Tree) (k : Nat) (hk : 1 ≤ k) :
    cutT v k [] d t = (eagerT v [] d t).filter (fun e => decide (e.1.length < k)) := by
  have := cut_eq_filter v t k [] d hk
  rw [List.length_nil, Nat.zero_add] at this
  exact this.symm

theorem deep_root (v : Val D E) (d : D) (t : Tree) (k : Nat) :
    (eagerT v [] d t).filter (fun e => !decide (e.1.length < k)) = chunkErrs v govPick k [] (some d) t := by
  have := deep_eq_chunks v t k [] d
  rwa [List.length_nil, Nat.zero_add] at this

end val

section dec
variable {D A : Type}
mutual
theorem decode_cut_prune_aux (v : Dec D A) : ∀ (t : Tree) (k : Nat) (d : D),
    decodeCut v k d t = prune k (decode v d t)
  | .node i tg ds cs => fun k d => by rw [decodeCut, decode, prune, decode_cut_prune_auxK v cs k d _ 0]
theorem decode_cut_prune_auxK (v : Dec D A) : ∀ (cs : List Tree) (k : Nat) (d : D) (parent : Tree) (j : Nat),
    decodeCutKids v k d parent j cs = pruneKids k (decodeKids v d parent j cs)
  | [] => fun k d parent j => rfl
  | c :: cs => fun k d parent j => by
    rw [decodeCutKids, decodeKids, decode_cut_prune_auxK v cs k d parent (j + 1)]
    cases v.gov d parent j with
    | none => rfl
    | some d' =>
      by_cases h1 : 1 < k
      · simp only [List.singleton_append, pruneKids, if_pos h1, decode_cut_prune_aux v c (k - 1) d']
      · simp only [List.singleton_append, pruneKids, if_neg h1]
end

end dec

end XsVerif.Lazy
