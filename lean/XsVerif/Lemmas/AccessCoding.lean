/-
  C12 — `posixpath.normpath`: the loop keeps its list of components in a normal form (a block of `..`,
  then real names), normal forms are fixed points, hence the shape of every result, idempotence, and
  what the result of an absolute path looks like.  Core Lean only.
-/
import XsVerif.Lemmas.Access

namespace XsVerif.Access

/-- a component that can occur in a '/'-joined path -/
def Seg (c : Bytes) : Prop := c ≠ [] ∧ 47 ∉ c

theorem CleanComp.seg {c : Bytes} (h : CleanComp c) : Seg c := ⟨h.1, h.2.2.2⟩
theorem seg_dotdot : Seg dotdot := by unfold Seg dotdot; decide

/-- normal component lists: a block of `..` (relative paths only) followed by real names -/
def Normal (isAbs : Bool) (cs : List Bytes) : Prop :=
  ∃ k cl, cs = List.replicate k dotdot ++ cl ∧ (∀ c ∈ cl, CleanComp c) ∧ (isAbs = true → k = 0)

theorem Normal.seg {isAbs : Bool} {cs : List Bytes} (h : Normal isAbs cs) : ∀ c ∈ cs, Seg c := by
  obtain ⟨k, cl, rfl, hcl, -⟩ := h
  intro c hc
  rcases List.mem_append.mp hc with hc | hc
  · rw [(List.mem_replicate.mp hc).2]; exact seg_dotdot
  · exact (hcl c hc).seg

/-- `acc` (the reversed `new_comps`) is normal -/
def NormalRev (isAbs : Bool) (acc : List Bytes) : Prop :=
  ∃ k cl, acc = cl ++ List.replicate k dotdot ∧ (∀ c ∈ cl, CleanComp c) ∧ (isAbs = true → k = 0)

theorem normStep_clean_push (isAbs : Bool) (acc : List Bytes) {c : Bytes} (hc : CleanComp c) :
    normStep isAbs acc c = c :: acc := by
  unfold normStep
  have h1 : ¬ (c = [] ∨ c = dot) := fun h => h.elim hc.1 hc.2.1
  simp [h1, hc.2.2.1]

theorem normStep_dotdot (isAbs : Bool) (acc : List Bytes) :
    normStep isAbs acc dotdot =
      if (isAbs = false ∧ acc = []) ∨ acc.head? = some dotdot then dotdot :: acc else acc.tail := by
  unfold normStep
  rw [if_neg (by decide : ¬(dotdot = [] ∨ dotdot = dot))]
  simp only [ne_eq, not_true_eq_false, false_or]

theorem normStep_normalRev (isAbs : Bool) (acc : List Bytes) (comp : Bytes)
    (hacc : NormalRev isAbs acc) (hcomp : 47 ∉ comp) : NormalRev isAbs (normStep isAbs acc comp) := by
  obtain ⟨k, cl, rfl, hcl, hk⟩ := hacc
  by_cases h1 : comp = [] ∨ comp = dot
  · rw [normStep, if_pos h1]; exact ⟨k, cl, rfl, hcl, hk⟩
  by_cases hdd : comp = dotdot
  · subst hdd
    rw [normStep_dotdot]
    cases cl with
    | cons a t =>
      have : a ≠ dotdot := (hcl a (by simp)).2.2.1
      rw [if_neg (by simp [this])]
      exact ⟨k, t, rfl, fun c hc => hcl c (by simp [hc]), hk⟩
    | nil =>
      cases k with
      | zero =>
        cases isAbs
        · exact ⟨1, [], by simp, by simp, by simp⟩
        · exact ⟨0, [], by simp, by simp, by simp⟩
      | succ j =>
        rw [if_pos (.inr (by simp [List.replicate_succ]))]
        exact ⟨j + 2, [], by simp [List.replicate_succ], by simp, fun hab => by have := hk hab; omega⟩
  · have hclean : CleanComp comp := ⟨fun e => h1 (.inl e), fun e => h1 (.inr e), hdd, hcomp⟩
    rw [normStep_clean_push isAbs _ hclean]
    exact ⟨k, comp :: cl, rfl, fun c hc => (List.mem_cons.mp hc).elim (· ▸ hclean) (hcl c), hk⟩

theorem foldl_normStep_normalRev (isAbs : Bool) (cs acc : List Bytes) (hacc : NormalRev isAbs acc)
    (hcs : ∀ c ∈ cs, 47 ∉ c) : NormalRev isAbs (cs.foldl (normStep isAbs) acc) := by
  induction cs generalizing acc with
  | nil => simpa using hacc
  | cons a t ih =>
    simp only [List.foldl_cons]
    exact ih _ (normStep_normalRev isAbs acc a hacc (hcs a (by simp))) (fun c hc => hcs c (by simp [hc]))

theorem normComps_normal (isAbs : Bool) (p : Bytes) : Normal isAbs (normComps isAbs (split p)) := by
  have := foldl_normStep_normalRev isAbs (split p) [] ⟨0, [], by simp, by simp, by simp⟩ (split_mem_noSep p)
  obtain ⟨k, cl, h, hcl, hk⟩ := this
  refine ⟨k, cl.reverse, ?_, fun c hc => hcl c (List.mem_reverse.mp hc), hk⟩
  unfold normComps
  rw [h]; simp

theorem foldl_normStep_cleans (isAbs : Bool) (cl acc : List Bytes) (hcl : ∀ c ∈ cl, CleanComp c) :
    cl.foldl (normStep isAbs) acc = cl.reverse ++ acc := by
  induction cl generalizing acc with
  | nil => simp
  | cons a t ih =>
    simp only [List.foldl_cons, normStep_clean_push isAbs acc (hcl a (by simp))]
    rw [ih _ (fun c hc => hcl c (by simp [hc]))]; simp

theorem foldl_normStep_dotdots (k j : Nat) :
    (List.replicate k dotdot).foldl (normStep false) (List.replicate j dotdot) = List.replicate (j + k) dotdot := by
  induction k generalizing j with
  | zero => simp
  | succ n ih =>
    have hstep : normStep false (List.replicate j dotdot) dotdot = List.replicate (j + 1) dotdot := by
      rw [normStep_dotdot, if_pos (by cases j <;> simp [List.replicate_succ])]; rfl
    simp only [List.replicate_succ, List.foldl_cons]
    rw [hstep, ih (j + 1)]
    congr 1; omega

theorem foldl_normStep_skip_empty (isAbs : Bool) (n : Nat) (xs acc : List Bytes) :
    (List.replicate n [] ++ xs).foldl (normStep isAbs) acc = xs.foldl (normStep isAbs) acc := by
  induction n with
  | zero => simp
  | succ k ih => simp [List.replicate_succ, normStep, ih]

theorem normComps_normal_id {isAbs : Bool} {cs : List Bytes} (h : Normal isAbs cs) (n : Nat) :
    normComps isAbs (List.replicate n [] ++ cs) = cs := by
  obtain ⟨k, cl, rfl, hcl, hk⟩ := h
  unfold normComps
  rw [foldl_normStep_skip_empty, List.foldl_append]
  cases isAbs with
  | true =>
    have := hk rfl; subst this
    simp [foldl_normStep_cleans true cl [] hcl]
  | false =>
    have := foldl_normStep_dotdots k 0
    simp only [List.replicate_zero, Nat.zero_add] at this
    rw [this, foldl_normStep_cleans false cl _ hcl]
    simp

theorem split_join_seg (cs : List Bytes) (hne : cs ≠ []) (h : ∀ c ∈ cs, 47 ∉ c) : split (join cs) = cs := by
  induction cs with
  | nil => exact absurd rfl hne
  | cons a t ih =>
    cases t with
    | nil => simp [join, split_noSep (h a (by simp))]
    | cons b r =>
      simp only [join]
      rw [split_append_sep, split_noSep (h a (by simp)), ih (by simp) (fun c hc => h c (by simp [hc]))]
      rfl

theorem split_replicate_append (n : Nat) (s : Bytes) :
    split (List.replicate n 47 ++ s) = List.replicate n [] ++ split s := by
  induction n with
  | zero => simp
  | succ k ih => simp [List.replicate_succ, split_cons_sep, ih]

theorem comps_join_seg (cs : List Bytes) (h : ∀ c ∈ cs, Seg c) : comps (join cs) = cs := by
  cases cs with
  | nil => exact comps_nil
  | cons a t =>
    rw [comps, split_join_seg _ (by simp) fun c hc => (h c hc).2]
    exact List.filter_eq_self.mpr fun c hc => by simpa using (h c hc).1

theorem initialSlashes_le (p : Bytes) : initialSlashes p ≤ 2 := by
  unfold initialSlashes; split <;> omega

theorem initialSlashes_pos {p : Bytes} (h : isAbsPath p = true) : 0 < initialSlashes p := by
  obtain ⟨r, rfl⟩ := (startsWith_iff _ _).mp h
  simp only [List.singleton_append]
  unfold initialSlashes
  split
  · omega
  · omega
  · omega
  · rename_i h; exact absurd rfl (h r)

theorem join_head_ne_sep {a : Bytes} {t : List Bytes} (ha : Seg a) :
    ∃ x r, join (a :: t) = x :: r ∧ x ≠ 47 := by
  cases a with
  | nil => exact absurd rfl ha.1
  | cons x xs =>
    have hx : x ≠ 47 := fun e => ha.2 (by simp [e])
    cases t with
    | nil => exact ⟨x, xs, by simp [join], hx⟩
    | cons b r => exact ⟨x, xs ++ 47 :: join (b :: r), by simp [join], hx⟩

theorem initialSlashes_replicate (n : Nat) (hn : n ≤ 2) {x : Nat} (hx : x ≠ 47) (r : Bytes) :
    initialSlashes (List.replicate n 47 ++ x :: r) = n := by
  match n, hn with
  | 0, _ | 1, _ | 2, _ => simp [List.replicate_succ, initialSlashes, hx]

theorem normpath_shape (p : Bytes) :
    (normpath p = dot ∧ initialSlashes p = 0) ∨
      ∃ N, normpath p = List.replicate (initialSlashes p) 47 ++ join N ∧
        Normal (initialSlashes p != 0) N ∧ (N = [] → 0 < initialSlashes p) := by
  by_cases hp : p = []
  · subst hp; exact .inl ⟨rfl, rfl⟩
  · unfold normpath
    simp only [hp, if_false]
    by_cases hr : List.replicate (initialSlashes p) 47 ++ join (normComps (initialSlashes p != 0) (split p)) = []
    · simp only [hr, if_true, true_and]
      exact .inl (by simpa using (List.append_eq_nil_iff.mp hr).1)
    · refine .inr ⟨normComps (initialSlashes p != 0) (split p), by simp [hr], normComps_normal _ p, ?_⟩
      intro hN
      rw [hN] at hr
      cases h : initialSlashes p with
      | zero => simp [h, join] at hr
      | succ k => omega

theorem normpath_of_normal (n : Nat) (N : List Bytes) (hn : n ≤ 2) (hN : Normal (n != 0) N)
    (hpos : N = [] → 0 < n) : normpath (List.replicate n 47 ++ join N) = List.replicate n 47 ++ join N := by
  cases N with
  | nil =>
    have := hpos rfl
    match n, hn, this with
    | 1, _, _ => rfl
    | 2, _, _ => rfl
  | cons a t =>
    have hseg := hN.seg
    obtain ⟨x, r, hj, hx⟩ := join_head_ne_sep (t := t) (hseg a (by simp))
    have hi : initialSlashes (List.replicate n 47 ++ join (a :: t)) = n := by
      rw [hj]; exact initialSlashes_replicate n hn hx r
    have hne : List.replicate n 47 ++ join (a :: t) ≠ [] := by rw [hj]; simp
    unfold normpath
    simp only [hne, if_false, hi]
    rw [split_replicate_append, split_join_seg _ (by simp) (fun c hc => (hseg c hc).2),
      normComps_normal_id hN]
    simp [hne]

/-- `posixpath.normpath` is idempotent — for every byte string -/
theorem normpath_idempotent (p : Bytes) : normpath (normpath p) = normpath p := by
  rcases normpath_shape p with ⟨h, -⟩ | ⟨N, h, hN, hpos⟩
  · rw [h]; decide
  · rw [h]; exact normpath_of_normal _ N (initialSlashes_le p) hN hpos

/-- no `.` and no empty segment survives `normpath`, and `..` survives only as a leading block of a
    relative path: the result is "." or its components are `..`* followed by real names. -/
theorem normpath_no_dot_segments (p : Bytes) :
    normpath p = dot ∨ ∃ k cl, comps (normpath p) = List.replicate k dotdot ++ cl ∧
      (∀ c ∈ cl, CleanComp c) ∧ (isAbsPath p = true → k = 0) := by
  rcases normpath_shape p with ⟨h, -⟩ | ⟨N, h, hN, -⟩
  · exact Or.inl h
  · right
    obtain ⟨k, cl, hN', hcl, hk⟩ := hN
    refine ⟨k, cl, ?_, hcl, ?_⟩
    · rw [h, comps_replicate_append, comps_join_seg N (Normal.seg ⟨k, cl, hN', hcl, hk⟩), hN']
    · intro habs
      apply hk
      have := initialSlashes_pos habs
      simp; omega

theorem normpath_abs_shape (p : Bytes) (h : isAbsPath p = true) :
    ∃ n N, (n = 1 ∨ n = 2) ∧ normpath p = List.replicate n 47 ++ join N ∧ (∀ c ∈ N, CleanComp c) ∧
      comps (normpath p) = N := by
  have hpos := initialSlashes_pos h
  have hle := initialSlashes_le p
  rcases normpath_shape p with ⟨-, h0⟩ | ⟨N, hp, hN, -⟩
  · omega
  · obtain ⟨k, cl, rfl, hcl, hk⟩ := hN
    obtain rfl : k = 0 := hk (by simp; omega)
    refine ⟨_, _, by omega, hp, by simpa using hcl, ?_⟩
    rw [hp, comps_replicate_append, comps_join_seg _ (fun c hc => (hcl c (by simpa using hc)).seg)]

theorem isAbsPath_replicate {n : Nat} (hn : n = 1 ∨ n = 2) (s : Bytes) :
    isAbsPath (List.replicate n 47 ++ s) = true := by
  rcases hn with rfl | rfl <;> simp [isAbsPath, startsWith, List.replicate_succ]

theorem normpath_isAbs (p : Bytes) (h : isAbsPath p = true) : isAbsPath (normpath p) = true := by
  obtain ⟨n, N, hn, hp, -, -⟩ := normpath_abs_shape p h
  rw [hp]
  exact isAbsPath_replicate hn _

theorem normpath_abs_clean (p : Bytes) (h : isAbsPath p = true) :
    ∀ c ∈ comps (normpath p), CleanComp c := by
  obtain ⟨n, N, -, -, hcl, hc⟩ := normpath_abs_shape p h
  rw [hc]; exact hcl

example : normpath [47, 97, 47, 46, 46, 47, 46, 47, 98] = [47, 98] := by decide
example : normpath [46, 46, 47, 97, 47, 46, 46, 47, 46, 46] = [46, 46, 47, 46, 46] := by decide

end XsVerif.Access
