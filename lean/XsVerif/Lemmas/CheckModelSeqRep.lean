/-
  C15: flat sequences with any root occurrence range other than `maxOccurs = 0`, every variant of the
  algorithm (`Ctx.fx`): a model the port refuses has a bad pair (M side, `SeqCtxR.refused_bad`), and a bad
  pair gives two words of the model that share a prefix and continue with one name attributed to two
  particles (S side, `flatSeq_conflict`).
-/
import XsVerif.Lemmas.CheckModelSeq
import XsVerif.Lemmas.CheckModelErr

set_option linter.unusedSectionVars false

namespace XsVerif.CM
open XsVerif.Wildcard XsVerif.Rx

variable {M : Ctx} {r : Nat} {rhi : Option Nat} {items : List FItem}

theorem any_nz_false {l : List FItem} (h : (l.any fun m => m.lo != 0) = false) : ∀ m ∈ l, m.lo = 0 := by
  intro m hm
  have := List.any_eq_false.mp h m hm
  simpa using this

theorem SeqCtxR.pairErr_some (h : SeqCtxR M r rhi items) {p1 midl p2 : List FItem}
    {it jt : FItem} (hsplit : items = (p1 ++ it :: midl) ++ jt :: p2) {err : CMErr}
    (hp : M.pairErr jt.id [r] it.id [r] = some err) :
    it.name = jt.name ∧ (Bad1 it midl ∨ Bad2 rhi p1 jt p2) := by
  rw [h.pairErr_eq hsplit, h.distinguishable_eq hsplit] at hp
  split at hp
  · rename_i hc
    simp only [Bool.and_eq_true, beq_iff_eq, Bool.not_eq_true', Bool.or_eq_false_iff, Bool.and_eq_false_iff,
      beq_eq_false_iff_ne] at hc
    obtain ⟨⟨hn, _⟩, _, hd⟩ := hc
    refine ⟨hn, ?_⟩
    rcases hd with ⟨k1, k2⟩ | ⟨⟨⟨k1, k2⟩, k3⟩, k4⟩
    · exact .inl ⟨k2, any_nz_false k1⟩
    · exact .inr ⟨k1, k3, any_nz_false k2, any_nz_false k4⟩
  · cases hp

theorem filter_split {p : FItem → Bool} {items L1 L2 : List FItem} {it jt : FItem}
    (h : items.filter p = L1 ++ jt :: L2) (hit : it ∈ L1) :
    ∃ p1 midl p2, items = (p1 ++ it :: midl) ++ jt :: p2 ∧ p it = true ∧ p jt = true := by
  obtain ⟨A, B, rfl, hA, hB⟩ := List.filter_eq_append_iff.mp h
  obtain ⟨B1, B2, rfl, _, hj, _⟩ := List.filter_eq_cons_iff.mp hB
  have : it ∈ A.filter p := by rw [hA]; exact hit
  obtain ⟨hitA, hi⟩ := List.mem_filter.mp this
  obtain ⟨p1, q, rfl⟩ := List.append_of_mem hitA
  exact ⟨p1, q ++ B1, B2, by simp, hi, hj⟩

theorem SeqCtxR.refused_bad (h : SeqCtxR M r rhi items) (hr0 : rhi ≠ some 0) (lo : Nat)
    (hacc : M.accepts (flatSeq r lo rhi items) = false) : BadR rhi items := by
  cases herr : (M.checkModel (flatSeq r lo rhi items)).err with
  | none => simp [Ctx.accepts, herr] at hacc
  | some err =>
    obtain ⟨l1, e, cp, l2, pe, pp, hl, hm, hp⟩ := checkModel_err_split M _ herr
    rw [flatSeq, visited_group M r .seq lo hr0] at hl
    obtain ⟨L1, L', hL, rfl, hl'⟩ := List.map_eq_append_iff.mp hl
    obtain ⟨jt, L2, rfl, hj, _⟩ := List.map_eq_cons_iff.mp hl'
    obtain ⟨it, hit, hite⟩ := List.mem_map.mp hm
    obtain ⟨p1, midl, p2, hsplit, hitl, hjtl⟩ := filter_split hL hit
    cases hj
    cases hite
    obtain ⟨hn, hb⟩ := h.pairErr_some hsplit hp
    exact ⟨p1, it, midl, jt, p2, hsplit, by simpa using hitl, by simpa using hjtl, hn, hb⟩

theorem SeqCtx.accepts_seq (h : SeqCtx M r items) (lo : Nat) :
    M.accepts (flatSeq r lo (some 1) items) = true ↔ ¬ BadS items := by
  constructor
  · rintro hacc ⟨p1, it, midl, jt, p2, hs, hl, hj, hn, hb⟩
    rw [accepts_iff, flatSeq, visited_group M r .seq lo (hi := some 1) (by simp)] at hacc
    have hcov : Covers M r [] [] := by
      intro p1 kt p2 hs
      simp at hs
    exact h.outer_bad items [] [] rfl hcov ⟨p1, it, midl, jt, _, p2, hs, rfl, hl, hj, hn, hb⟩ hacc
  · intro hnb
    cases hacc : M.accepts (flatSeq r lo (some 1) items) with
    | true => rfl
    | false => exact absurd (h.refused_bad (by simp) lo hacc).badS hnb

theorem lang_flatSeq_pad {r lo : Nat} {rhi : Option Nat} {items : List FItem}
    (hocc : ∀ it ∈ items, loLeHi it.lo it.hi = true) (ws : List (List ASym)) (hall : ∀ x ∈ ws, SeqW items x)
    (hhi : leHi (ws.length + (lo - ws.length)) rhi) :
    Lang mm (flatSeq r lo rhi items).toRx (ws.flatten ++ (List.replicate (lo - ws.length) (minW items)).flatten) := by
  simp only [flatSeq, Particle.toRx, Lang]
  refine ⟨ws ++ List.replicate (lo - ws.length) (minW items), by simp, by simp; omega, by simpa using hhi, ?_⟩
  intro x hx
  rw [lang_toSeq_iff]
  rcases List.mem_append.mp hx with hx | hx
  · exact hall x hx
  · rw [(List.mem_replicate.mp hx).2]; exact seqW_minW items hocc

theorem seqW_of_lang_flatSeq {r lo : Nat} {items : List FItem} {w : List ASym} (hw : w ≠ [])
    (h : Lang mm (flatSeq r lo (some 1) items).toRx w) : SeqW items w := by
  rw [← lang_toSeq_iff]
  obtain ⟨ws, rfl, _, hhi, hall⟩ := h
  match ws, hhi, hall, hw with
  | [], _, _, hw => simp at hw
  | [x], _, hall, _ => simpa using hall x (by simp)
  | _ :: _ :: _, hhi, _, _ => simp [leHi] at hhi

/-- **bad pair ⇒ conflict**, any root occurrence range other than `maxOccurs = 0`.  In-iteration: after every
    particle up to `it` was taken `lo` times, the next child of that name belongs to `it` (once more) or to `jt`
    (the particles in between are skipped).  Wrap-around: after `jt` was taken `lo` times it belongs to `jt` (once
    more) or to `it` in a new iteration. -/
theorem flatSeq_conflict {r lo : Nat} {rhi : Option Nat} {items : List FItem}
    (hocc : ∀ it ∈ items, loLeHi it.lo it.hi = true) (hids : items.Pairwise (fun a b => a.id ≠ b.id))
    (hr0 : rhi ≠ some 0) (hro : loLeHi lo rhi = true) (hb : BadR rhi items) :
    ∃ (u v1 v2 : List ASym) (a : QN) (x y : Nat), x ≠ y ∧
      Lang mm (flatSeq r lo rhi items).toRx (u ++ (a, x) :: v1) ∧
      Lang mm (flatSeq r lo rhi items).toRx (u ++ (a, y) :: v2) := by
  obtain ⟨p1, it, midl, jt, p2, hsplit, hil, hjl, hn, hb⟩ := hb
  have hiocc := hocc it (by rw [hsplit]; simp)
  have hjocc := hocc jt (by rw [hsplit]; simp)
  have hne : it.id ≠ jt.id := by
    rw [hsplit] at hids
    exact hids.rel_of_mem_append (by simp) (by simp)
  have hsplit' : items = p1 ++ it :: (midl ++ jt :: p2) := by rw [hsplit, List.append_assoc]; rfl
  -- one iteration, followed by the minimal iterations the root still needs
  have pad1 : ∀ {w : List ASym}, SeqW items w →
      Lang mm (flatSeq r lo rhi items).toRx (w ++ (List.replicate (lo - 1) (minW items)).flatten) := fun hw => by
    simpa using lang_flatSeq_pad (r := r) hocc [_] (List.forall_mem_singleton.mpr hw)
      (by simpa [Nat.add_comm] using leHi_max_one hro hr0)
  rcases hb with ⟨hu, hm⟩ | ⟨h1, hu, hbef, haft⟩
  · have W1 := seqW_mid hsplit' hocc (Nat.le_succ it.lo) (leHi_succ_of_ne hiocc hu)
    have W2 := seqW_mid hsplit hocc (by omega : jt.lo ≤ jt.lo - 1 + 1) (leHi_max_one hjocc hjl)
    rw [minW_append, minW_cons, minW_emptiable midl hm] at W2
    refine ⟨minW p1 ++ List.replicate it.lo it.sym,
      minW (midl ++ jt :: p2) ++ (List.replicate (lo - 1) (minW items)).flatten,
      (List.replicate (jt.lo - 1) jt.sym ++ minW p2) ++ (List.replicate (lo - 1) (minW items)).flatten,
      it.name, it.id, jt.id, hne, ?_, ?_⟩
    · simpa [List.replicate_succ', FItem.sym, List.append_assoc] using pad1 W1
    · simpa [List.replicate_succ, FItem.sym, hn, List.append_assoc] using pad1 W2
  · have X := seqW_mid hsplit hocc (Nat.le_succ jt.lo) (leHi_succ_of_ne hjocc hu)
    have Y1 := seqW_mid hsplit hocc (Nat.le_refl jt.lo) (loLeHi_iff.mp hjocc)
    have Y2 := seqW_mid hsplit' hocc (by omega : it.lo ≤ it.lo - 1 + 1) (leHi_max_one hiocc hil)
    rw [minW_emptiable p2 haft, List.append_nil] at Y1
    rw [minW_emptiable p1 hbef, List.nil_append] at Y2
    refine ⟨minW (p1 ++ it :: midl) ++ List.replicate jt.lo jt.sym,
      minW p2 ++ (List.replicate (lo - 1) (minW items)).flatten,
      (List.replicate (it.lo - 1) it.sym ++ minW (midl ++ jt :: p2)) ++ (List.replicate (lo - 2) (minW items)).flatten,
      jt.name, jt.id, it.id, hne.symm, ?_, ?_⟩
    · simpa [List.replicate_succ', FItem.sym, List.append_assoc] using pad1 X
    · have := lang_flatSeq_pad (r := r) (lo := lo) (rhi := rhi) hocc [_, _]
        (List.forall_mem_cons.mpr ⟨Y1, List.forall_mem_singleton.mpr Y2⟩) (leHi_two hro hr0 h1)
      simpa [List.replicate_succ, FItem.sym, hn, List.append_assoc] using this

end XsVerif.CM
