/-
  The ports `iterUnordered` / `iterCollapsed` of iter_unordered_content / iter_collapsed_content
  (Model/ContentOrder.lean), for any visitor: a run that ends in `.ok` emits a permutation of its input.
  Nothing is stated about runs that end in an error.
-/
import XsVerif.Model.ContentOrder

namespace XsVerif.Conv.Order
open XsVerif.Conv List

theorem flat_append (a b : Buckets) : flat (a ++ b) = flat a ++ flat b := by
  induction a with
  | nil => rfl
  | cons x a ih => obtain ⟨k, vs⟩ := x; simp [flat, ih]

theorem findB_eq {p : String → Bool} {b : Buckets} {k vs pre post}
    (h : findB p b = some (k, vs, pre, post)) : b = pre ++ (k, vs) :: post := by
  induction b generalizing pre with
  | nil => cases h
  | cons x b ih =>
    obtain ⟨k', vs'⟩ := x
    rw [findB] at h
    split at h
    · cases h; rfl
    · cases hf : findB p b with
      | none => rw [hf] at h; cases h
      | some y =>
        obtain ⟨k2, vs2, pre2, post2⟩ := y
        rw [hf] at h
        cases h
        exact congrArg _ (ih hf)

theorem popC_perm (c : List (Nat × J)) : (popC c).1 ++ cdataItems (popC c).2 = cdataItems c := by
  cases c <;> rfl

theorem perm_emit {c : List (Nat × J)} {x : Item J} {out X : List (Item J)}
    (h : out.Perm (cdataItems (popC c).2 ++ X)) : (x :: ((popC c).1 ++ out)).Perm (cdataItems c ++ x :: X) := by
  refine .trans (.cons _ ?_) List.perm_middle.symm
  rw [← popC_perm c, List.append_assoc]
  exact h.append_left _

theorem flat_pop (pre post : Buckets) (k : String) (v : J) (vs : List J) :
    (flat (pre ++ (k, v :: vs) :: post)).Perm (.child k false v :: flat (pre ++ (k, vs) :: post)) := by
  simp only [flat_append, flat, List.map_cons, List.cons_append]
  exact List.perm_middle

/-- an empty bucket may be dropped (`del consumable_content[name]`) -/
theorem flat_drop_empty (pre post : Buckets) (k : String) : flat (pre ++ (k, []) :: post) = flat (pre ++ post) := by
  simp only [flat_append, flat, List.map_nil, List.nil_append]

theorem drain_perm (c : List (Nat × J)) (b : Buckets) : (drain c b).Perm (cdataItems c ++ flat b) := by
  fun_induction drain c b with
  | case1 c => simp [flat]
  | case2 c k r ih => exact ih
  | case3 c k v vs r ih => exact perm_emit ih

theorem unorderedLoop_perm {σ} (V : Visitor σ) (fuel : Nat) (s : σ) (c : List (Nat × J)) (b : Buckets)
    (out : List (Item J)) (h : unorderedLoop V fuel s c b = .ok out) :
    out.Perm (cdataItems c ++ flat b) := by
  induction fuel generalizing s c b out with
  | zero => cases h
  | succ fuel ih =>
    unfold unorderedLoop at h
    split at h
    · cases h; exact drain_perm _ _
    · split at h
      · cases h; exact drain_perm _ _
      · split at h
        · exact ih _ _ _ _ h
        · cases h
        · rename_i k v vs pre post hf
          dsimp only at h
          split at h
          · rename_i out' ho
            cases h
            have hflat : flat (if vs.isEmpty = true then pre ++ post else pre ++ (k, vs) :: post) =
                flat (pre ++ (k, vs) :: post) := by
              cases vs
              · exact (flat_drop_empty pre post k).symm
              · rfl
            rw [findB_eq hf]
            exact (perm_emit (hflat ▸ ih _ _ _ _ ho)).trans ((flat_pop pre post k v vs).symm.append_left _)
          · cases h

/-- `.fuel`/`.leak` are the only other outcomes. -/
theorem iterUnordered_perm {σ} (V : Visitor σ) (fuel : Nat) (s : σ) (c : List (Nat × J)) (b : Buckets)
    (out : List (Item J)) (h : iterUnordered V fuel s c b = .ok out) :
    out.Perm (cdataItems c ++ flat b) := by
  unfold iterUnordered at h
  split at h
  · rename_i o ho
    cases h
    rw [← popC_perm c, List.append_assoc]
    exact (unorderedLoop_perm V fuel s _ b o ho).append_left _
  · cases h

theorem bAppend_perm (u : Buckets) (k : String) (v : J) :
    (flat (bAppend u k v)).Perm (Item.child k false v :: flat u) := by
  induction u with
  | nil => exact .refl _
  | cons x u ih =>
    obtain ⟨k', vs⟩ := x
    rw [bAppend]
    split
    · rename_i hk
      cases beq_iff_eq.mp hk
      simp only [flat, List.map_append, List.map_cons, List.map_nil, List.append_assoc, List.cons_append,
        List.nil_append]
      exact List.perm_middle
    · exact (ih.append_left _).trans List.perm_middle

/-- one entry: what is emitted plus what stays buffered = the entry plus what was buffered -/
theorem collapsedStep_perm {σ} (V : Visitor σ) (fuel : Nat) (st : CState σ) (name : String) (value : J)
    (o : List (Item J)) (st' : CState σ) (h : collapsedStep V fuel st name value = .ok (o, st')) :
    (o ++ flat st'.u).Perm (Item.child name false value :: flat st.u) := by
  induction fuel generalizing st o st' with
  | zero => cases h
  | succ fuel ih =>
    unfold collapsedStep at h
    split at h
    · cases h; exact .refl _
    · split at h
      · cases h; exact .refl _
      · split at h
        · split at h
          · cases h; exact bAppend_perm st.u name value
          · exact ih { st with s := V.advance st.s false } _ _ h
        · rename_i k pre post hf
          rw [findB_eq hf, flat_drop_empty]
          exact ih _ _ _ h
        · rename_i k v vs pre post hf
          split at h
          · rename_i out st2 ho
            cases h
            rw [findB_eq hf]
            exact ((ih _ _ _ ho).cons _).trans ((List.Perm.swap _ _ _).trans ((flat_pop pre post k v vs).symm.cons _))
          · cases h

/-- emitted children carry no `single` flag -/
def clear : Item J → Item J
  | .cdata i v => .cdata i v
  | .child nm _ v => .child nm false v

theorem collapsedLoop_perm {σ} (V : Visitor σ) (fuel : Nat) (st : CState σ) (content out : List (Item J))
    (h : collapsedLoop V fuel st content = .ok out) :
    out.Perm (content.map clear ++ flat st.u) := by
  induction content generalizing st out with
  | nil => cases h; exact .refl _
  | cons a content ih =>
    cases a with
    | cdata i v =>
      simp only [collapsedLoop] at h
      split at h
      · cases h; exact (ih _ _ ‹_›).cons _
      · cases h
    | child name sg value =>
      simp only [collapsedLoop] at h
      split at h
      · split at h
        · cases h; exact (ih _ _ ‹_›).cons _
        · cases h
      · split at h
        · cases h
        · rename_i o st' hs
          split at h
          · rename_i out' ho
            cases h
            -- o ++ out' ~ o ++ (content' ++ flat st'.u) ~ content' ++ (o ++ flat st'.u) ~ content' ++ child :: flat st.u
            exact ((ih _ _ ho).append_left o).trans <| (List.perm_append_comm_assoc ..).trans <|
              ((collapsedStep_perm V fuel st name value o st' hs).append_left _).trans List.perm_middle
          · cases h

theorem iterCollapsed_perm {σ} (V : Visitor σ) (fuel : Nat) (s : σ) (content out : List (Item J))
    (h : iterCollapsed V fuel s content = .ok out) : out.Perm (content.map clear) := by
  simpa [flat] using collapsedLoop_perm V fuel _ content out h

end XsVerif.Conv.Order
