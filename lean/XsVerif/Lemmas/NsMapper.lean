/-
  Lemmas about the association-list maps and the NamespaceMapper model (C17).
-/
import XsVerif.Model.NsMapper

namespace XsVerif.NsMapper
namespace Map

@[simp] theorem get_nil (x : String) : get [] x = none := rfl

theorem get_cons (k v : String) (t : Map) (x : String) :
    get ((k, v) :: t) x = if k = x then some v else get t x := rfl

theorem get_set (m : Map) (k v x : String) :
    (m.set k v).get x = if k = x then some v else m.get x := by
  induction m with
  | nil => rfl
  | cons h t ih =>
    obtain ⟨k', v'⟩ := h
    unfold set
    by_cases hk : k' = k
    · subst hk
      rw [if_pos rfl, get_cons, get_cons]
      split <;> rfl
    · rw [if_neg hk, get_cons, get_cons, ih]
      by_cases hx : k' = x
      · subst hx; rw [if_pos rfl, if_neg (Ne.symm hk), if_pos rfl]
      · rw [if_neg hx, if_neg hx]

theorem get_set_self (m : Map) (k v : String) : (m.set k v).get k = some v := by
  simp [get_set]

theorem get_set_ne (m : Map) {k x : String} (v : String) (h : k ≠ x) :
    (m.set k v).get x = m.get x := by
  simp [get_set, h]

theorem get_erase (m : Map) (k x : String) :
    (m.erase k).get x = if k = x then none else m.get x := by
  induction m with
  | nil => exact (ite_self none).symm
  | cons h t ih =>
    obtain ⟨k', v'⟩ := h
    unfold erase
    by_cases hk : k' = k
    · subst hk
      rw [if_pos rfl, ih, get_cons]
      split <;> rfl
    · rw [if_neg hk, get_cons, get_cons, ih]
      by_cases hx : k' = x
      · subst hx; rw [if_pos rfl, if_neg (Ne.symm hk), if_pos rfl]
      · rw [if_neg hx, if_neg hx]

theorem has_iff (m : Map) (x : String) : m.has x = true ↔ ∃ v, m.get x = some v := by
  unfold has; cases m.get x <;> simp

theorem has_eq_false (m : Map) (x : String) : m.has x = false ↔ m.get x = none := by
  unfold has; cases m.get x <;> simp

/-- keys are pairwise distinct (a Python dict) -/
def Nodup (m : Map) : Prop := (m.map (·.1)).Nodup

theorem get_eq_none_iff (m : Map) (k : String) : m.get k = none ↔ k ∉ m.map (·.1) := by
  induction m with
  | nil => exact ⟨fun _ => List.not_mem_nil, fun _ => rfl⟩
  | cons hd t ih =>
    obtain ⟨k', v'⟩ := hd
    rw [get_cons, List.map_cons, List.mem_cons, not_or, ← ih]
    by_cases e : k' = k
    · rw [if_pos e]; exact ⟨nofun, fun h => absurd e.symm h.1⟩
    · rw [if_neg e]; exact ⟨fun h => ⟨fun e' => e e'.symm, h⟩, fun h => h.2⟩

theorem mem_of_get {m : Map} {k v : String} (h : m.get k = some v) : (k, v) ∈ m := by
  induction m with
  | nil => cases h
  | cons hd t ih =>
    obtain ⟨k', v'⟩ := hd
    rw [get_cons] at h
    split at h
    · rename_i hk; cases h; cases hk; exact List.mem_cons_self
    · exact List.mem_cons_of_mem _ (ih h)

theorem get_of_mem {m : Map} (hn : Nodup m) {k v : String} (h : (k, v) ∈ m) : m.get k = some v := by
  induction m with
  | nil => cases h
  | cons hd t ih =>
    obtain ⟨k', v'⟩ := hd
    obtain ⟨h1, h2⟩ := List.nodup_cons.mp hn
    rw [get_cons]
    rcases List.mem_cons.mp h with e | e
    · cases e; exact if_pos rfl
    · rw [if_neg fun e' => h1 (List.mem_map.mpr ⟨(k, v), e, e'.symm⟩)]
      exact ih h2 e

theorem lastKey_mem {m : Map} {p : String → String → Bool} {k : String} (h : m.lastKey p = some k) :
    ∃ v, (k, v) ∈ m ∧ p k v = true := by
  induction m with
  | nil => simp [lastKey] at h
  | cons hd t ih =>
    obtain ⟨k', v'⟩ := hd
    simp only [lastKey] at h
    cases ht : lastKey t p with
    | some k2 =>
      rw [ht] at h; simp only [Option.some.injEq] at h; subst h
      obtain ⟨v, hv, hp⟩ := ih ht
      exact ⟨v, List.mem_cons_of_mem _ hv, hp⟩
    | none =>
      rw [ht] at h
      by_cases hp : p k' v' = true
      · simp [hp] at h; subst h; exact ⟨v', List.mem_cons_self, hp⟩
      · simp [hp] at h

theorem lastKey_get {m : Map} (hn : Nodup m) {p : String → String → Bool} {k : String}
    (h : m.lastKey p = some k) : ∃ v, m.get k = some v ∧ p k v = true :=
  let ⟨v, hv, hp⟩ := lastKey_mem h
  ⟨v, get_of_mem hn hv, hp⟩

/-- `for k in reversed(d): if c(k) and d[k] == old`: the key found is bound to `old` and passes the filter -/
theorem lastKey_filter_get {m : Map} (hn : Nodup m) {c : String → Bool} {old k : String}
    (h : m.lastKey (fun k u => c k && u = old) = some k) : m.get k = some old ∧ c k = true :=
  let ⟨_, hg, hp⟩ := lastKey_get hn h
  let ⟨h1, h2⟩ := Bool.and_eq_true_iff.mp hp
  ⟨of_decide_eq_true h2 ▸ hg, h1⟩

theorem keys_set (m : Map) (k v : String) :
    (m.set k v).map (·.1) = if m.has k then m.map (·.1) else m.map (·.1) ++ [k] := by
  induction m with
  | nil => rfl
  | cons hd t ih =>
    obtain ⟨k', v'⟩ := hd
    unfold set has
    rw [get_cons]
    by_cases hk : k' = k
    · rw [if_pos hk, if_pos hk, hk]; rfl
    · rw [if_neg hk, if_neg hk, List.map_cons, ih]
      unfold has
      split <;> rfl

theorem keys_erase_sublist (m : Map) (k : String) : ((m.erase k).map (·.1)).Sublist (m.map (·.1)) := by
  induction m with
  | nil => exact .slnil
  | cons hd t ih =>
    unfold erase
    split
    · exact ih.cons _
    · exact ih.cons_cons _

theorem nodup_set {m : Map} (hn : Nodup m) (k v : String) : Nodup (m.set k v) := by
  unfold Nodup
  rw [keys_set]
  split
  · exact hn
  · rename_i h
    have hk := (get_eq_none_iff m k).mp ((has_eq_false m k).mp (Bool.eq_false_iff.mpr h))
    exact List.nodup_append.mpr ⟨hn, List.pairwise_singleton _ _,
      fun a ha b hb e => hk (List.mem_singleton.mp hb ▸ e ▸ ha)⟩

theorem nodup_update {m : Map} (hn : Nodup m) (l : List (String × String)) : Nodup (m.update l) := by
  unfold update
  induction l generalizing m with
  | nil => exact hn
  | cons d t ih => exact ih (nodup_set hn _ _)

theorem nodup_erase {m : Map} (hn : Nodup m) (k : String) : Nodup (m.erase k) :=
  (keys_erase_sublist m k).nodup hn

end Map
open Map

/-- every recorded prefix of a URI is bound to that URI -/
def ReverseOk (ns rev : Map) : Prop := ∀ u p, rev.get u = some p → ns.get p = some u

/-- prefixes declared on one element are distinct (XML well-formedness) -/
def NodupKeys (l : Xmlns) : Prop := (l.map (·.1)).Nodup

instance (l : Xmlns) : Decidable (NodupKeys l) := by unfold NodupKeys; infer_instance
instance (m : Map) : Decidable (Map.Nodup m) := by unfold Map.Nodup; infer_instance

theorem reverseOk_of_all {ns rev : Map} (h : rev.all (fun e => ns.get e.2 = some e.1) = true) :
    ReverseOk ns rev := by
  intro u p hg
  have := List.all_eq_true.mp h (u, p) (mem_of_get hg)
  simpa using this

theorem reverseOk_set {ns rev : Map} {p u : String}
    (h : ∀ u' p', u' ≠ u → rev.get u' = some p' → (ns.set p u).get p' = some u') :
    ReverseOk (ns.set p u) (rev.set u p) := by
  intro u' p' hg
  rw [get_set] at hg
  by_cases e : u = u'
  · rw [if_pos e] at hg
    cases hg; cases e
    exact get_set_self _ _ _
  · rw [if_neg e] at hg
    exact h u' p' (Ne.symm e) hg

theorem get_rerecord {rev : Map} {old u p : String} {c : Option String}
    (h : (match c with
      | some k => (rev.erase old).set old k
      | none => rev.erase old).get u = some p) :
    u = old ∧ c = some p ∨ u ≠ old ∧ rev.get u = some p := by
  by_cases hu : old = u
  · subst hu
    left
    cases c with
    | some k => rw [get_set_self] at h; exact ⟨rfl, h⟩
    | none => rw [get_erase, if_pos rfl] at h; cases h
  · right
    cases c with
    | some k => rw [get_set_ne _ _ hu, get_erase, if_neg hu] at h; exact ⟨Ne.symm hu, h⟩
    | none => rw [get_erase, if_neg hu] at h; exact ⟨Ne.symm hu, h⟩

/-- `__setitem__` and the repointing loop, binding `p` to `new` when it is bound to `old` -/
theorem get_rerecord_if {ns rev : Map} (hr : ReverseOk ns rev) {p new old u q : String} {c : Option String}
    (hg : ns.get p = some old)
    (h : (if old ≠ new ∧ rev.get old = some p then
        match c with
        | some k => (rev.erase old).set old k
        | none => rev.erase old
      else rev).get u = some q) :
    u = old ∧ old ≠ new ∧ c = some q ∨ rev.get u = some q ∧ (q = p → u = new) := by
  by_cases hc : old ≠ new ∧ rev.get old = some p
  · rw [if_pos hc] at h
    rcases get_rerecord h with ⟨e, hk⟩ | ⟨e, h'⟩
    · exact .inl ⟨e, hc.1, hk⟩
    · exact .inr ⟨h', fun e' => absurd (Option.some.inj ((hr u q h').symm.trans (e' ▸ hg))) e⟩
  · rw [if_neg hc] at h
    refine .inr ⟨h, fun e' => ?_⟩
    subst e'
    cases Option.some.inj ((hr u q h).symm.trans hg)
    exact Decidable.byContradiction fun hne => hc ⟨hne, h⟩

theorem nodupKeys_inj {l : Xmlns} (hl : NodupKeys l) {a b : String × String} (ha : a ∈ l) (hb : b ∈ l)
    (e : a.1 = b.1) : a = b := by
  obtain ⟨k, v⟩ := a
  obtain ⟨k', w⟩ := b
  cases e
  exact congrArg _ (Option.some.inj ((get_of_mem hl ha).symm.trans (get_of_mem hl hb)))

theorem get_update_cases (m : Map) (l : Xmlns) (x : String) :
    (∀ d ∈ l, d.1 ≠ x) ∧ (m.update l).get x = m.get x ∨ ∃ v, (x, v) ∈ l ∧ (m.update l).get x = some v := by
  induction l generalizing m with
  | nil => exact .inl ⟨nofun, rfl⟩
  | cons d t ih =>
    obtain ⟨a, b⟩ := d
    rcases ih (m.set a b) with ⟨h1, h2⟩ | ⟨v, h1, h2⟩
    · rw [get_set] at h2
      by_cases e : a = x
      · exact .inr ⟨b, e ▸ List.mem_cons_self, h2.trans (if_pos e)⟩
      · exact .inl ⟨List.forall_mem_cons.mpr ⟨e, h1⟩, h2.trans (if_neg e)⟩
    · exact .inr ⟨v, List.mem_cons_of_mem _ h1, h2⟩

theorem get_update_keep {m : Map} {l : Xmlns} {x v : String}
    (hl : ∀ d ∈ l, d.1 = x → d.2 = v) (hm : m.get x = some v) : (m.update l).get x = some v := by
  rcases get_update_cases m l x with ⟨_, h2⟩ | ⟨w, h1, h2⟩
  · exact h2.trans hm
  · exact hl _ h1 rfl ▸ h2

theorem get_update_mem {m : Map} {l : Xmlns} (hn : NodupKeys l) {k v : String} (h : (k, v) ∈ l) :
    (m.update l).get k = some v := by
  rcases get_update_cases m l k with ⟨h1, _⟩ | ⟨w, h1, h2⟩
  · exact absurd rfl (h1 _ h)
  · cases nodupKeys_inj hn h1 h rfl
    exact h2

theorem get_foldl_record {f : Map → String × String → Map} (hf : ∀ r d, f r d = r ∨ f r d = r.set d.2 d.1)
    {l : Xmlns} {r : Map} {u p : String} (h : (l.foldl f r).get u = some p) :
    (p, u) ∈ l ∨ r.get u = some p := by
  induction l generalizing r with
  | nil => exact Or.inr h
  | cons d t ih =>
    rcases ih h with h1 | h1
    · exact Or.inl (List.mem_cons_of_mem _ h1)
    · rcases hf r d with e | e
      · exact Or.inr (e ▸ h1)
      · rw [e, get_set] at h1
        split at h1
        · rename_i e'
          exact Or.inl (e' ▸ Option.some.inj h1 ▸ List.mem_cons_self)
        · exact Or.inr h1

theorem get_revUpdate {level : Nat} {l : Xmlns} {r : Map} {u p : String}
    (h : (revUpdate level r l).get u = some p) : (p, u) ∈ l ∨ r.get u = some p := by
  unfold revUpdate at h
  split at h
  · exact get_foldl_record (fun _ _ => .inr rfl) h
  · refine (get_foldl_record (fun r d => ?_) h).imp_left List.mem_reverse.mp
    split
    · exact .inl rfl
    · exact .inr rfl

theorem mkReverse_ok (ns : Map) (hn : Map.Nodup ns) : ReverseOk ns (mkReverse ns) := by
  intro u p h
  rcases get_foldl_record (fun _ _ => .inr rfl) h with h1 | h1
  · exact get_of_mem hn (List.mem_reverse.mp h1)
  · cases h1

theorem mem_rebound {ns : Map} {l : Xmlns} {p : String} :
    p ∈ rebound ns l ↔ ∃ d ∈ l, d.1 = p ∧ ∃ old, ns.get p = some old ∧ old ≠ d.2 := by
  unfold rebound
  simp only [List.mem_map, List.mem_filter]
  constructor
  · rintro ⟨d, ⟨hd, hc⟩, rfl⟩
    refine ⟨d, hd, rfl, ?_⟩
    cases hg : ns.get d.1 with
    | none => simp [hg] at hc
    | some old => simp [hg] at hc; exact ⟨old, rfl, hc⟩
  · rintro ⟨d, hd, rfl, old, hg, hne⟩
    exact ⟨d, ⟨hd, by simp [hg, hne]⟩, rfl⟩

/-- no two prefixes of one URI are rebound by the same element.  The replacement prefix chosen by the repointing
    loop as it was before fix b20c29d (`Variant.pinned`) is still bound to the old URI after the element's
    declarations are applied only under this condition; the loop as it is (`Variant.repaired`) needs none. -/
def SingleRebind (ns : Map) (l : Xmlns) : Prop :=
  ∀ p1 p2, p1 ∈ rebound ns l → p2 ∈ rebound ns l → ns.get p1 = ns.get p2 → p1 = p2

/-- loop invariant of namespaces.py:236-244: every record is valid, and a recorded prefix that the element rebinds
    belongs to a declaration the loop has yet to reach -/
def RepInv (ns : Map) (rb : List String) (todo : Xmlns) (rev : Map) : Prop :=
  ∀ u p, rev.get u = some p → ns.get p = some u ∧ (p ∈ rb → p ∈ todo.map (·.1))

theorem repointOne_inv {v : Variant} {ns : Map} {l : Xmlns} (hnn : Map.Nodup ns) (hl : NodupKeys l)
    (hv : v = .repaired ∨ SingleRebind ns l)
    {d : String × String} {todo : Xmlns} (hd : d ∈ l) {rev : Map}
    (hi : RepInv ns (rebound ns l) (d :: todo) rev) :
    RepInv ns (rebound ns l) todo (repointOne v ns (rebound ns l) rev d) := by
  intro u p h
  -- a record of before: were its prefix `d.1` and rebound, `d` would bind it to another URI than `u`
  have old_rec : ∀ {u p}, rev.get u = some p → (p = d.1 → u = d.2) →
      ns.get p = some u ∧ (p ∈ rebound ns l → p ∈ todo.map (·.1)) := fun {u p} h' hq =>
    ⟨(hi u p h').1, fun hp => (List.mem_cons.mp ((hi u p h').2 hp)).resolve_left fun e => by
      obtain ⟨d', hd', e1, old, ho, hne⟩ := mem_rebound.mp hp
      cases nodupKeys_inj hl hd' hd (e1.trans e)
      exact hne (Option.some.inj (ho.symm.trans (hi u p h').1) ▸ hq e)⟩
  unfold repointOne at h
  cases hg : ns.get d.1 with
  | none =>
    rw [hg] at h
    exact old_rec h fun e => by rw [← e, (hi u p h).1] at hg; cases hg
  | some old =>
    rw [hg] at h
    rcases get_rerecord_if (fun u p h => (hi u p h).1) hg h with ⟨e, hne, hk⟩ | ⟨h', hq⟩
    · -- the candidate is bound to `old` and is not rebound by the element
      cases e
      cases v with
      | repaired =>
        obtain ⟨hgp, hp⟩ := lastKey_filter_get hnn hk
        exact ⟨hgp, fun hm => by rw [List.contains_iff_mem.mpr hm] at hp; cases hp⟩
      | pinned =>
        obtain ⟨hgp, hp⟩ := lastKey_filter_get hnn hk
        refine ⟨hgp, fun hm => absurd ?_ (of_decide_eq_true hp)⟩
        exact (hv.resolve_left nofun) p d.1 hm (mem_rebound.mpr ⟨d, hd, rfl, u, hg, hne⟩) (hgp.trans hg.symm)
    · exact old_rec h' hq

theorem repoint_fold_inv {v : Variant} {ns : Map} {l : Xmlns} (hnn : Map.Nodup ns) (hl : NodupKeys l)
    (hv : v = .repaired ∨ SingleRebind ns l) :
    ∀ (todo : Xmlns) (rev : Map), (∀ d ∈ todo, d ∈ l) → RepInv ns (rebound ns l) todo rev →
      RepInv ns (rebound ns l) [] (todo.foldl (repointOne v ns (rebound ns l)) rev) := by
  intro todo
  induction todo with
  | nil => intro rev _ h; exact h
  | cons d t ih =>
    intro rev hsub hi
    simp only [List.foldl_cons]
    exact ih _ (fun d' hd' => hsub d' (List.mem_cons_of_mem _ hd'))
      (repointOne_inv hnn hl hv (hsub d List.mem_cons_self) hi)

theorem repoint_spec {v : Variant} {ns rev : Map} {l : Xmlns} (hnn : Map.Nodup ns) (hl : NodupKeys l)
    (hv : v = .repaired ∨ SingleRebind ns l) (hr : ReverseOk ns rev) :
    ∀ u p, (repoint v ns rev l).get u = some p → ns.get p = some u ∧ p ∉ rebound ns l := by
  have h0 : RepInv ns (rebound ns l) l rev := by
    intro u p h
    refine ⟨hr u p h, fun hp => ?_⟩
    obtain ⟨d, hd, e, _⟩ := mem_rebound.mp hp
    exact List.mem_map.mpr ⟨d, hd, e⟩
  have := repoint_fold_inv hnn hl hv l rev (fun _ h => h) h0
  intro u p h
  obtain ⟨h1, h2⟩ := this u p h
  exact ⟨h1, fun hp => by simpa using h2 hp⟩

theorem stacked_step_reverseOk {v : Variant} {ns rev : Map} {l : Xmlns} (level : Nat)
    (hnn : Map.Nodup ns) (hl : NodupKeys l) (hv : v = .repaired ∨ SingleRebind ns l)
    (hr : ReverseOk ns rev) :
    ReverseOk (Map.update ns l) (revUpdate level (repoint v ns rev l) l) := by
  intro u p h
  rcases get_revUpdate h with h1 | h1
  · exact get_update_mem hl h1
  · obtain ⟨h2, h3⟩ := repoint_spec hnn hl hv hr u p h1
    apply get_update_keep _ h2
    intro d hd e
    by_cases hne : d.2 = u
    · exact hne
    · exact absurd (mem_rebound.mpr ⟨d, hd, e, u, h2, fun x => hne x.symm⟩) h3

theorem delItem_stack {m m' : Mapper} {p : String} (h : delItem m p = some m') : m'.stack = m.stack := by
  unfold delItem at h
  split at h
  · cases h
  · split at h
    · cases h; rfl
    · cases h

end XsVerif.NsMapper
