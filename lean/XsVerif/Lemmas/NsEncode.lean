/-
  C17 — the ENCODER call pattern of `set_xmlns_context` (`encVisit`: pre-order calls only, one call may pop
  several contexts).  `unmap_qname` agrees with the XML-Namespaces reader on a key that denotes a name; then, in
  stacked mode, for data whose sibling items are distinct objects (`encVisitList_spec`): stack discipline; if every
  item is a mapping, the scope recorded for each item is the one a reader accumulates on the path to it; if the data
  is `Readable`, the names the encoder restores are those the reader reads.
-/
import XsVerif.Model.NsMapper
import XsVerif.Lemmas.NsMapper
import XsVerif.Lemmas.NsStack
import XsVerif.Lemmas.NsSpec
namespace XsVerif.Props.C17
open XsVerif.NsMapper XsVerif.NsMapper.Map XsVerif.NsMapper.Stack

theorem get_update_bind (m : Map) (l : Xmlns) : (Map.update m l).get = Scope.bind m.get l := by
  induction l generalizing m with
  | nil => rfl
  | cons d t ih =>
    have h1 : Map.update m (d :: t) = Map.update (m.set d.1 d.2) t := rfl
    have h2 : (m.set d.1 d.2).get = fun k => if d.1 = k then some d.2 else m.get k := by
      funext x; exact get_set m d.1 d.2 x
    rw [h1, ih, h2]; rfl

theorem unmap_override (ns : Map) (X : Xmlns) (tab : Bool) (n : PName) :
    unmapQName ns X tab n = unmapQName (Map.update ns X) [] tab n := by
  cases X <;> rfl

theorem get_of_isEmpty {ns : Map} (h : ns.isEmpty = true) (x : String) : ns.get x = none := by
  cases ns with
  | nil => rfl
  | cons _ _ => simp at h

/-- the emptiness test of `unmap_qname` decides nothing: an empty map binds no prefix -/
theorem unmapQName_pre (ns : Map) (tab : Bool) (p l : String) :
    unmapQName ns [] tab (.pre p l) = match ns.get p with
      | some u => .name ⟨u, l⟩
      | none => .unknownPrefix p l := by
  cases ns <;> rfl

theorem unmapQName_loc (ns : Map) (tab : Bool) (l : String) :
    unmapQName ns [] tab (.loc l) = match ns.get "" with
      | none => .name ⟨"", l⟩
      | some d => if d = "" then .name ⟨"", l⟩ else if tab then .name ⟨"", l⟩ else .name ⟨d, l⟩ := by
  cases ns <;> rfl

/-- the ways in which a key denotes the name `⟨u, l⟩`: in extended form, through a prefix bound to `u`, or bare with
    `u` the default namespace (none when there is no default declaration) -/
theorem readElem_some_cases {s : Scope} {n : PName} {u l : String} (h : readElem s n = some ⟨u, l⟩) :
    n = .braced u l ∨ (∃ p, n = .pre p l ∧ s p = some u ∧ u ≠ "") ∨
    n = .loc l ∧ (s "" = some u ∨ s "" = none ∧ u = "") := by
  cases n with
  | braced u' l' => cases h; exact .inl rfl
  | pre p l' =>
    simp only [readElem] at h
    cases hg : s p with
    | none => rw [hg] at h; cases h
    | some w =>
      rw [hg] at h
      dsimp only at h
      by_cases hw : w = ""
      · rw [if_pos hw] at h; cases h
      · rw [if_neg hw] at h; cases h; exact .inr (.inl ⟨p, rfl, hg, hw⟩)
  | loc l' =>
    simp only [readElem] at h
    cases hg : s "" with
    | none => rw [hg] at h; cases h; exact .inr (.inr ⟨rfl, .inr ⟨rfl, rfl⟩⟩)
    | some d => rw [hg] at h; cases h; exact .inr (.inr ⟨rfl, .inl rfl⟩)

theorem unmap_eq_read {ns : Map} {n : PName} {q : QN} (h : readElem ns.get n = some q) :
    unmapQName ns [] false n = .name q := by
  obtain ⟨u, l⟩ := q
  rcases readElem_some_cases h with rfl | ⟨p, rfl, hp, _⟩ | ⟨rfl, hd | ⟨hd, rfl⟩⟩
  · rfl
  · rw [unmapQName_pre, hp]
  · rw [unmapQName_loc, hd]
    dsimp only
    by_cases hu : u = ""
    · rw [if_pos hu, hu]
    · rw [if_neg hu]; rfl
  · rw [unmapQName_loc, hd]

theorem unmap_attr_eq_read {ns : Map} {tab : Bool} {k : PName} {q : QN} (h : readAttr ns.get k = some q)
    (hl : ∀ l, k = .loc l → tab = true ∨ ns.get "" = none ∨ ns.get "" = some "") :
    unmapQName ns [] tab k = .name q := by
  cases k with
  | braced u l => exact unmap_eq_read (ns := ns) (n := .braced u l) h
  | pre p l => exact unmap_eq_read (n := .pre p l) h
  | loc l =>
    cases h
    rw [unmapQName_loc]
    cases hg : ns.get "" with
    | none => rfl
    | some d =>
      dsimp only
      by_cases hd : d = ""
      · rw [if_pos hd]
      · rw [if_neg hd]
        rcases hl l rfl with ht | ht | ht
        · rw [if_pos ht]
        · rw [hg] at ht; cases ht
        · rw [hg] at ht; exact absurd (Option.some.inj ht) hd

theorem child_tag_name {ns0 : Map} {xmlns : Xmlns} {key : PName} {q : QN}
    (hq : readElem (Scope.bind ns0.get xmlns) key = some q) :
    unmapQName ns0 xmlns false key = .name q := by
  rw [unmap_override, unmap_eq_read (by rw [get_update_bind]; exact hq)]

theorem child_tag {ns0 : Map} {xmlns : Xmlns} {key : PName}
    (h : readElem (Scope.bind ns0.get xmlns) key ≠ none) :
    Unmapped.toOpt (unmapQName ns0 xmlns false key) = readElem (Scope.bind ns0.get xmlns) key := by
  obtain ⟨q, hq⟩ := Option.ne_none_iff_exists'.mp h
  rw [child_tag_name hq, hq]
  rfl

theorem attrs_read {T : PName → Bool} {ns : Map} (attrs : List PName)
    (h : ∀ k ∈ attrs, readAttr ns.get k ≠ none ∧
      ∀ l, k = .loc l → T k = true ∨ ns.get "" = none ∨ ns.get "" = some "") :
    (attrs.map fun k => unmapQName ns [] (T k) k).map Unmapped.toOpt = attrs.map (readAttr ns.get) := by
  rw [List.map_map]
  refine List.map_congr_left fun k hk => ?_
  obtain ⟨hk1, hk2⟩ := h k hk
  cases hq : readAttr ns.get k with
  | none => exact absurd hq hk1
  | some q => exact congrArg Unmapped.toOpt (unmap_attr_eq_read hq hk2)

/-- the maps the pop loop leaves when it pops `extra` (top first) starting from the current maps `r`:
    those saved in the bottom-most popped context -/
def lastMaps : List Ctx → Map × Map → Map × Map
  | [], r => r
  | c :: rest, _ => lastMaps rest (c.ns, c.rev)

theorem lastMaps_snoc (xs : List Ctx) (c : Ctx) (r : Map × Map) : lastMaps (xs ++ [c]) r = (c.ns, c.rev) := by
  induction xs generalizing r with
  | nil => rfl
  | cons x xs ih => simp only [List.cons_append, lastMaps]; exact ih _

/-- one call pops every context above `base` and goes on through `base` with the maps of the bottom-most of them
    as the ones to restore: all of them are at least as deep as the caller and those of the caller's level belong
    to other objects -/
theorem popLoop_extra {id L : Nat} {base : List Ctx} (extra : List Ctx) (r : Option (Map × Map))
    (h : ∀ c ∈ extra, L ≤ c.level ∧ (c.level = L → c.obj ≠ id)) (d : Map × Map) :
    ∃ r', popLoop id L (extra ++ base) r = popLoop id L base r' ∧ r'.getD d = lastMaps extra (r.getD d) := by
  induction extra generalizing r with
  | nil => exact ⟨r, rfl, rfl⟩
  | cons c rest ih =>
    have hc := h c List.mem_cons_self
    obtain ⟨r', h1, h2⟩ := ih (some (c.ns, c.rev)) fun c' hc' => h c' (List.mem_cons_of_mem _ hc')
    refine ⟨r', ?_, h2⟩
    rw [List.cons_append, popLoop, if_neg (Nat.not_lt.mpr hc.1), if_neg fun ⟨e1, e2⟩ => hc.2 e1.symm e2]
    exact h1

/-- the mapper is "at level L over `base`" with logical maps `(ns0, rev0)`: above `base` there are only contexts
    of already encoded items (deeper ones, or siblings in `seen`), and the maps the next call's pop loop restores
    — those of the bottom-most such context, or the current ones when there is none — are `(ns0, rev0)`. -/
def At (L : Nat) (base : List Ctx) (ns0 rev0 : Map) (seen : List Nat) (m : Mapper) : Prop :=
  ∃ extra, m.stack = extra ++ base ∧ (∀ c ∈ extra, L ≤ c.level ∧ (c.level = L → c.obj ∈ seen)) ∧
    lastMaps extra (m.ns, m.rev) = (ns0, rev0)

theorem At_mono {L : Nat} {base : List Ctx} {ns0 rev0 : Map} {seen seen' : List Nat} {m : Mapper}
    (h : At L base ns0 rev0 seen m) (hs : ∀ x ∈ seen, x ∈ seen') : At L base ns0 rev0 seen' m := by
  obtain ⟨extra, h1, h2, h3⟩ := h
  exact ⟨extra, h1, fun c hc => ⟨(h2 c hc).1, fun e => hs _ ((h2 c hc).2 e)⟩, h3⟩

theorem At_init (L : Nat) (m : Mapper) : At L m.stack m.ns m.rev [] m :=
  ⟨[], rfl, (fun _ h => nomatch h), rfl⟩

theorem At_start {e0 : Mapper} (h0 : e0.stack = []) : At 0 [] e0.ns e0.rev [] e0 :=
  ⟨[], h0, (fun _ h => nomatch h), rfl⟩

/-- the (only) call of a mapping item: whatever the earlier siblings' subtrees left on the stack is popped, the
    logical maps are restored and the item's declarations applied on top of them -/
theorem enc_enter (v : Variant) {L : Nat} {base : List Ctx} {ns0 rev0 : Map} {seen : List Nat} {m : Mapper}
    (id : Nat) (decl : Xmlns) (hb : Below L base) (hr : At L base ns0 rev0 seen m) (hid : id ∉ seen) :
    (setContext v .stacked m id L decl).m = entered v ns0 rev0 base id L decl := by
  obtain ⟨extra, hs, hall, hl⟩ := hr
  obtain ⟨r, hp, hc⟩ := popLoop_extra (id := id) (base := base) extra none
    (fun c hc => ⟨(hall c hc).1, fun e1 e2 => hid (e2 ▸ (hall c hc).2 e1)⟩) (m.ns, m.rev)
  rw [← hs, popLoop_below hb] at hp
  rw [setContext_stacked_of_pop hp, hc, Option.getD_none, hl]

/-- after the children (no purge call): back at level L over `base` with the item itself among the seen ones -/
theorem enc_after (v : Variant) {L : Nat} {base : List Ctx} (ns0 rev0 : Map) (seen : List Nat) {m2 : Mapper}
    (id : Nat) (decl : Xmlns) (seen' : List Nat)
    (hr : At (L + 1) (entered v ns0 rev0 base id L decl).stack (entered v ns0 rev0 base id L decl).ns
      (entered v ns0 rev0 base id L decl).rev seen' m2) :
    At L base ns0 rev0 (id :: seen) m2 := by
  obtain ⟨extra, hs, hall, hl⟩ := hr
  -- what the children left is deeper than `L`
  have hdeep : ∀ c ∈ extra, L ≤ c.level ∧ (c.level = L → c.obj ∈ id :: seen) := fun c hc =>
    ⟨Nat.le_of_succ_le (hall c hc).1, fun e => absurd (e ▸ (hall c hc).1) (Nat.not_succ_le_self L)⟩
  cases decl with
  | nil => exact ⟨extra, hs, hdeep, hl⟩
  | cons d t =>
    -- the item's own context is the bottom-most one above `base`
    refine ⟨extra ++ [{ obj := id, level := L, xmlns := d :: t, ns := ns0, rev := rev0 }],
      by rw [hs, List.append_assoc]; rfl, fun c hc => ?_, lastMaps_snoc _ _ _⟩
    rcases List.mem_append.mp hc with h | h
    · exact hdeep c h
    · rw [List.mem_singleton.mp h]
      exact ⟨Nat.le_refl _, fun _ => List.mem_cons_self⟩

/-- the namespaces with which the key of the root of the data is resolved: its context is set when it is a mapping,
    and an item that is not a mapping reports no declarations -/
theorem enc_root_ns (v : Variant) {e0 : Mapper} (h0 : e0.stack = []) (id : Nat) {isMap : Bool} {xmlns : Xmlns}
    (hx : isMap = false → xmlns = []) :
    (if isMap = true then (setContext v .stacked e0 id 0 xmlns).m.ns else e0.ns) = Map.update e0.ns xmlns := by
  cases isMap with
  | true =>
    rw [if_pos rfl, enc_enter (base := []) v id xmlns (fun _ h => nomatch h) (At_start h0) (fun h => nomatch h),
      entered_ns]
  | false => rw [hx rfl]; rfl

mutual
def AllMaps : Item → Prop
  | .node _ _ isMap _ _ ch => isMap = true ∧ AllMapsList ch
def AllMapsList : List Item → Prop
  | [] => True
  | i :: is => AllMaps i ∧ AllMapsList is
end

mutual
/-- S: the declarations in scope of each item, as a reader accumulates them on the path root → item -/
def encScopes (s : Scope) : Item → List (Nat × Scope)
  | .node id _ _ xmlns _ ch => (id, s.bind xmlns) :: encScopesList (s.bind xmlns) ch
def encScopesList (s : Scope) : List Item → List (Nat × Scope)
  | [] => []
  | i :: is => encScopes s i ++ encScopesList s is
end

theorem bind_nil (s : Scope) : Scope.bind s [] = s := rfl

theorem encVisit_map_eq (v : Variant) (mode : Mode) (tab : Nat → String → Bool) (L : Nat) (tag : Unmapped)
    (id : Nat) (key : PName) (xmlns : Xmlns) (attrs : List PName) (ch : List Item) (m : Mapper) :
    encVisit v mode tab L tag (.node id key true xmlns attrs ch) m =
      ((encVisitList v mode tab (L + 1) (setContext v mode m id L xmlns).m.ns ch
          (setContext v mode m id L xmlns).m).1,
       { id := id, level := L, ns := (setContext v mode m id L xmlns).m.ns,
         rev := (setContext v mode m id L xmlns).m.rev, tag := tag,
         attrs := attrs.map fun k =>
           unmapQName (setContext v mode m id L xmlns).m.ns [] (attrInTable tab id k) k } ::
        (encVisitList v mode tab (L + 1) (setContext v mode m id L xmlns).m.ns ch
          (setContext v mode m id L xmlns).m).2) := rfl

theorem encVisitList_cons_eq (v : Variant) (mode : Mode) (tab : Nat → String → Bool) (L : Nat) (pns : Map)
    (c : Item) (cs : List Item) (m : Mapper) :
    encVisitList v mode tab L pns (c :: cs) m =
      ((encVisitList v mode tab L pns cs
          (encVisit v mode tab L (unmapQName pns (Item.xmlns c) false (Item.key c)) c m).1).1,
       (encVisit v mode tab L (unmapQName pns (Item.xmlns c) false (Item.key c)) c m).2 ++
       (encVisitList v mode tab L pns cs
          (encVisit v mode tab L (unmapQName pns (Item.xmlns c) false (Item.key c)) c m).1).2) := rfl

/-- what `encVisitList_spec` says of a list of children, for one item encoded under any tag -/
def ItemSpec (v : Variant) (tab : Nat → String → Bool) (item : Item) : Prop :=
  ItemDistinct item →
  ∀ (L : Nat) (tag : Unmapped) (m : Mapper) (base : List Ctx) (ns0 rev0 : Map) (seen : List Nat),
  Below L base → At L base ns0 rev0 seen m → Item.id item ∉ seen →
  At L base ns0 rev0 (Item.id item :: seen) (encVisit v .stacked tab L tag item m).1 ∧
  (AllMaps item → (encVisit v .stacked tab L tag item m).2.map (fun e => (e.id, e.ns.get)) =
    encScopes ns0.get item) ∧
  (Readable tab ns0.get item →
    Unmapped.toOpt tag = readElem (Scope.bind ns0.get (Item.xmlns item)) (Item.key item) →
    (encVisit v .stacked tab L tag item m).2.map encProj = readItem ns0.get item)

theorem encVisitList_spec (v : Variant) (tab : Nat → String → Bool) : ∀ (cs : List Item), ItemDistinctList cs →
    (cs.map Item.id).Nodup →
    ∀ (L : Nat) (m : Mapper) (base : List Ctx) (ns0 rev0 : Map) (seen : List Nat), Below L base →
    At L base ns0 rev0 seen m → (∀ c ∈ cs, Item.id c ∉ seen) →
    At L base ns0 rev0 ((cs.map Item.id).reverse ++ seen) (encVisitList v .stacked tab L ns0 cs m).1 ∧
    (AllMapsList cs → (encVisitList v .stacked tab L ns0 cs m).2.map (fun e => (e.id, e.ns.get)) =
      encScopesList ns0.get cs) ∧
    (ReadableList tab ns0.get cs → (encVisitList v .stacked tab L ns0 cs m).2.map encProj = readItems ns0.get cs) := by
  intro cs
  induction cs using Item.rec_1 (motive_1 := ItemSpec v tab) with
  | node id key isMap xmlns attrs ch ih =>
    intro hd L tag m base ns0 rev0 seen hb hr hid
    cases isMap with
    | false =>
      refine ⟨At_mono hr fun x hx => List.mem_cons_of_mem _ hx, fun ha => absurd ha.1 Bool.false_ne_true,
        fun hR ht => ?_⟩
      obtain ⟨rfl, rfl, rfl⟩ := hR.1 rfl
      show [(id, Unmapped.toOpt tag, [])] = _
      rw [ht]; rfl
    | true =>
      have hget : (entered v ns0 rev0 base id L xmlns).ns.get = Scope.bind ns0.get xmlns := by
        rw [entered_ns, get_update_bind]
      rw [encVisit_map_eq, enc_enter v id xmlns hb hr hid]
      obtain ⟨hA, hS, hN⟩ := ih hd.2 hd.1 (L + 1) (entered v ns0 rev0 base id L xmlns)
        _ _ _ [] (entered_stack_below v hb ns0 rev0 id xmlns) (At_init _ _) (fun _ _ h => nomatch h)
      refine ⟨enc_after v ns0 rev0 seen id xmlns _ hA, fun ha => ?_, fun hR ht => ?_⟩
      · rw [List.map_cons, hS ha.2, hget]; rfl
      · obtain ⟨_, _, hattrs, hch⟩ := hR
        rw [← hget] at hch hattrs
        rw [List.map_cons, hN hch]
        show (id, Unmapped.toOpt tag, List.map Unmapped.toOpt (attrs.map fun k => unmapQName _ [] (attrInTable tab id k) k)) :: _ = _
        rw [attrs_read attrs fun k hk => ⟨(hattrs k hk).1, fun l e => by subst e; exact (hattrs _ hk).2 l rfl⟩, ht,
          hget]
        rfl
  | nil => exact fun _ _ _ _ _ _ _ _ _ hr _ => ⟨hr, fun _ => rfl, fun _ => rfl⟩
  | cons c cs ihc ihcs =>
    intro hd hn L m base ns0 rev0 seen hb hr hs
    obtain ⟨hn1, hn2⟩ := List.nodup_cons.mp hn
    rw [encVisitList_cons_eq]
    obtain ⟨hA1, hS1, hN1⟩ := ihc hd.1 L (unmapQName ns0 (Item.xmlns c) false (Item.key c)) m
      base ns0 rev0 seen hb hr (hs c List.mem_cons_self)
    obtain ⟨hA2, hS2, hN2⟩ := ihcs hd.2 hn2 L _ base ns0 rev0 (Item.id c :: seen) hb hA1
      (unseen_tail hn1 hs)
    refine ⟨?_, fun ha => ?_, fun hR => ?_⟩
    · rw [List.map_cons, List.reverse_cons, List.append_assoc]; exact hA2
    · rw [List.map_append, hS1 ha.1, hS2 ha.2]; rfl
    · have hkey : readElem (Scope.bind ns0.get (Item.xmlns c)) (Item.key c) ≠ none := by
        cases c; exact hR.1.2.1
      rw [List.map_append, hN1 hR.1 (child_tag hkey), hN2 hR.2]; rfl

theorem encVisitList_singleton (v : Variant) (mode : Mode) (tab : Nat → String → Bool) (L : Nat) (pns : Map)
    (c : Item) (m : Mapper) :
    (encVisitList v mode tab L pns [c] m).2 =
      (encVisit v mode tab L (unmapQName pns (Item.xmlns c) false (Item.key c)) c m).2 :=
  List.append_nil _

theorem encVisit_scopes_tag (v : Variant) (mode : Mode) (tab : Nat → String → Bool) (L : Nat) (tag tag' : Unmapped)
    (item : Item) (m : Mapper) :
    (encVisit v mode tab L tag item m).2.map (fun e => (e.id, e.ns.get)) =
      (encVisit v mode tab L tag' item m).2.map (fun e => (e.id, e.ns.get)) := by
  cases item with
  | node id key isMap xmlns attrs ch => cases isMap <;> rfl

theorem encodeDoc_eq_list (v : Variant) (tab : Nat → String → Bool) (item : Item) (e0 : Mapper)
    (h0 : e0.stack = []) (hr : Readable tab e0.ns.get item) :
    (encVisitList v .stacked tab 0 e0.ns [item] e0).2 = (encodeDoc v .stacked tab item e0).2 := by
  rw [encVisitList_singleton]
  cases item with
  | node id key isMap xmlns attrs ch =>
    dsimp only [encodeDoc, Item.xmlns, Item.key]
    rw [enc_root_ns v h0 id fun h => (hr.1 h).1, unmap_override]

end XsVerif.Props.C17
