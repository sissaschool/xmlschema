/-
  Helper lemmas for C13: the DefusableReader model refines a plain byte list with a cursor (invariant
  `Inv`, kept by every history of operations that raised no OS error); the scan of `defuse_xml` as
  block reads, and when the rewind after it succeeds.
-/
import XsVerif.Model.Defuse
namespace XsVerif.Defuse

/-- abstraction invariant: the stream `s` is the buffer, then what was read beyond the buffer and not
    kept (`gap`), then what the underlying stream still holds.  Only a reader that does not grow can
    have a gap, and its cursor is then at the end of it; otherwise the cursor is within the buffer. -/
def Inv (s : List Nat) (r : Reader) : Prop :=
  ∃ gap, s = r.buf ++ (gap ++ r.rest) ∧
    ((gap = [] ∧ r.pos ≤ r.buf.length) ∨ (r.grow = false ∧ r.pos = r.buf.length + gap.length))

theorem Inv.pos_le_buf {s : List Nat} {r : Reader} (h : Inv s r) (hg : r.grow = true) :
    r.pos ≤ r.buf.length := by
  obtain ⟨gap, -, ⟨-, hp⟩ | ⟨hf, -⟩⟩ := h
  · exact hp
  · rw [hg] at hf; cases hf

theorem Inv.pos_le {s : List Nat} {r : Reader} (h : Inv s r) : r.pos ≤ s.length := by
  obtain ⟨gap, rfl, ⟨-, hp⟩ | ⟨-, hp⟩⟩ := h <;> simp only [List.length_append] <;> omega

theorem init_inv (g : Bool) (size : Nat) (s : List Nat) : Inv s (Reader.init g size s) :=
  ⟨[], (List.take_append_drop _ s).symm, .inl ⟨rfl, Nat.zero_le _⟩⟩

theorem Inv.tail {s : List Nat} {r : Reader} (h : Inv s r) :
    r.buf.drop r.pos ++ r.rest = s.drop r.pos := by
  obtain ⟨gap, rfl, ⟨rfl, hp⟩ | ⟨-, hp⟩⟩ := h
  · rw [List.nil_append, List.drop_append_of_le_length hp]
  · rw [List.drop_eq_nil_of_le (by omega), ← List.append_assoc, List.drop_left' (by simp [hp])]
    rfl

theorem Inv.within {s : List Nat} {r : Reader} (h : Inv s r) (hp : r.pos ≤ r.buf.length) {p : Nat}
    (hp' : p ≤ r.buf.length) (g : Bool) : Inv s { r with pos := p, grow := g } := by
  obtain ⟨gap, hs, ⟨rfl, -⟩ | ⟨-, hq⟩⟩ := h
  · exact ⟨[], hs, .inl ⟨rfl, hp'⟩⟩
  · have : gap = [] := List.eq_nil_of_length_eq_zero (by omega)
    exact ⟨[], this ▸ hs, .inl ⟨rfl, hp'⟩⟩

/-- reads have taken the reader over `s` from `r` to `r'` and delivered `d` in all: the cursor has
    advanced by `d`, and a growing reader has kept everything up to the cursor -/
structure Reads (s : List Nat) (r : Reader) (d : List Nat) (r' : Reader) : Prop where
  inv : Inv s r'
  pos : r'.pos = r.pos + d.length
  grow : r'.grow = r.grow
  buf : r'.buf.length = if r.grow then max r.buf.length r'.pos else r.buf.length

theorem Reads.refl {s : List Nat} {r : Reader} (h : Inv s r) : Reads s r [] r := by
  refine ⟨h, rfl, rfl, ?_⟩
  cases hg : r.grow
  · rfl
  · exact (Nat.max_eq_left (h.pos_le_buf hg)).symm

theorem Reads.trans {s d d' : List Nat} {r r' r'' : Reader} (h : Reads s r d r') (h' : Reads s r' d' r'') :
    Reads s r (d ++ d') r'' := by
  refine ⟨h'.inv, by rw [h'.pos, h.pos, List.length_append, Nat.add_assoc], h'.grow.trans h.grow, ?_⟩
  rw [h'.buf, h.grow, h.buf]
  cases r.grow
  · rfl
  · exact (Nat.max_assoc ..).trans (congrArg _ (Nat.max_eq_right (h'.pos ▸ Nat.le_add_right ..)))

theorem Inv.pull {s : List Nat} {r : Reader} (h : Inv s r) {c rest' d : List Nat} (hc : r.rest = c ++ rest')
    (hd : d = r.buf.drop r.pos ++ c) :
    Reads s r d { r with buf := if r.grow then r.buf ++ c else r.buf, rest := rest', pos := r.pos + d.length } := by
  obtain ⟨gap, hs, hcase⟩ := h
  have hp : r.pos + d.length = max r.buf.length r.pos + c.length := by
    rw [hd, List.length_append, List.length_drop, ← Nat.add_assoc, Nat.add_comm r.pos, Nat.sub_add_eq_max]
  rw [hc] at hs
  cases hg : r.grow with
  | false =>
    refine ⟨⟨gap ++ c, by rw [hs, List.append_assoc]; rfl, .inr ⟨rfl, ?_⟩⟩, rfl, hg.symm, by rw [hg]; rfl⟩
    rw [hp]
    rcases hcase with ⟨rfl, hq⟩ | ⟨-, hq⟩
    · rw [Nat.max_eq_left hq]; rfl
    · rw [Nat.max_eq_right (hq ▸ Nat.le_add_right _ _), hq, List.length_append, Nat.add_assoc]; rfl
  | true =>
    obtain ⟨rfl, hq⟩ | ⟨hf, -⟩ := hcase
    · refine ⟨⟨[], by rw [hs]; exact (List.append_assoc r.buf c rest').symm, .inl ⟨rfl, ?_⟩⟩, rfl, hg.symm, ?_⟩ <;>
        rw [hp, Nat.max_eq_left hq]
      · exact Nat.le_of_eq List.length_append.symm
      · rw [hg]
        exact List.length_append.trans (Nat.max_eq_right (Nat.le_add_right _ _)).symm
    · rw [hg] at hf; cases hf

theorem read_refines {s : List Nat} {r : Reader} (h : Inv s r) (n : Option Nat) :
    (r.read n).1 = (match n with | some k => (s.drop r.pos).take k | none => s.drop r.pos) ∧
    Reads s r (r.read n).1 (r.read n).2 := by
  have ht := h.tail
  have hnil : r.buf.length ≤ r.pos → ∀ c, c = r.buf.drop r.pos ++ c := fun hp c => by
    rw [List.drop_eq_nil_of_le hp]; rfl
  cases n with
  | some n =>
    rw [Reader.read]
    by_cases hp : r.buf.length ≤ r.pos
    · rw [if_pos hp]
      refine ⟨?_, h.pull (List.take_append_drop n r.rest).symm (hnil hp _)⟩
      rw [← ht, List.drop_eq_nil_of_le hp]; rfl
    · rw [if_neg hp]
      by_cases hn : n ≤ (r.buf.drop r.pos).length
      · rw [if_pos hn]
        have hp := Nat.le_of_not_le hp
        have hpos : r.pos + ((r.buf.drop r.pos).take n).length ≤ r.buf.length := by
          rw [List.length_take, List.length_drop, ← Nat.add_min_add_left, Nat.add_sub_of_le hp]
          exact Nat.min_le_right _ _
        refine ⟨by rw [← ht]; exact (List.take_append_of_le_length hn).symm,
          h.within hp hpos r.grow, rfl, rfl, ?_⟩
        simp only [Nat.max_eq_left hpos, ite_self]
      · rw [if_neg hn]
        refine ⟨?_, h.pull (List.take_append_drop _ r.rest).symm rfl⟩
        rw [← ht]
        show _ = List.take n _
        rw [List.take_append, List.take_of_length_le (Nat.le_of_not_le hn)]
  | none =>
    rw [Reader.read]
    by_cases hp : r.buf.length ≤ r.pos
    · rw [if_pos hp]
      refine ⟨?_, h.pull (List.append_nil r.rest).symm (hnil hp _)⟩
      rw [← ht, List.drop_eq_nil_of_le hp]; rfl
    · rw [if_neg hp]
      exact ⟨ht, h.pull (List.append_nil r.rest).symm rfl⟩

theorem absRun_read {s : List Nat} {r : Reader} (h : Inv s r) (n : Option Nat) (ops : List Op) :
    absRun s (.read n :: ops) r.pos = .data (r.read n).1 :: absRun s ops (r.read n).2.pos := by
  obtain ⟨h1, hr⟩ := read_refines h n
  rw [hr.pos, h1]
  cases n <;> rfl

theorem seek_refines {s : List Nat} {r r' : Reader} {p : Nat} (h : Inv s r)
    (hs : r.seek p = some r') : Inv s r' ∧ r'.pos = p ∧ r'.buf = r.buf ∧ r'.grow = false := by
  unfold Reader.seek at hs
  split at hs
  · cases hs
  · split at hs
    · cases hs
    · cases hs
      exact ⟨h.within (Nat.le_of_not_lt ‹_›) (Nat.le_of_not_lt ‹_›) false, rfl, rfl, rfl⟩

theorem exec_inv {s : List Nat} (ops : List Op) :
    ∀ {r r' : Reader}, Inv s r → Reader.exec ops r = some r' → Inv s r' := by
  induction ops with
  | nil => intro r r' h he; cases he; exact h
  | cons op ops ih =>
    intro r r' h he
    cases op with
    | read n => exact ih (read_refines h n).2.inv he
    | tell => exact ih h he
    | seek p =>
      rw [Reader.exec] at he
      split at he
      · cases he
      · next r1 hs => exact ih (seek_refines h hs).1 he

theorem drop_length_take (l : List Nat) (n : Nat) : l.drop (l.take n).length = l.drop n :=
  List.drop_eq_drop_iff.mpr (by rw [List.length_take, Nat.min_assoc, Nat.min_self])

theorem readMany_refines {s : List Nat} (ns : List Nat) :
    ∀ {r : Reader}, Inv s r →
      (r.readMany ns).1 = (s.drop r.pos).take ns.sum ∧ Reads s r (r.readMany ns).1 (r.readMany ns).2 := by
  induction ns with
  | nil => intro r h; exact ⟨rfl, .refl h⟩
  | cons n ns ih =>
    intro r h
    obtain ⟨h1, hr⟩ := read_refines h (some n)
    obtain ⟨i1, ir⟩ := ih hr.inv
    refine ⟨?_, hr.trans ir⟩
    simp only [Reader.readMany, List.sum_cons]
    rw [i1, hr.pos, h1, List.take_add, ← List.drop_drop, drop_length_take]

theorem readBlocks_eq_readMany (k : Nat) :
    ∀ r : Reader, r.readBlocks k = (r.readMany (List.replicate k blockSize)).2 := by
  induction k with
  | zero => intro r; rfl
  | succ k ih => intro r; exact ih _

theorem readBlocks_refines {s : List Nat} {r : Reader} (h : Inv s r) (k : Nat) :
    (r.readBlocks k).pos = min s.length (r.pos + k * blockSize) ∧
    (r.readBlocks k).buf.length =
      if r.grow then max r.buf.length (r.readBlocks k).pos else r.buf.length := by
  have hp := h.pos_le
  obtain ⟨h1, hr⟩ := readMany_refines (List.replicate k blockSize) h
  rw [readBlocks_eq_readMany]
  refine ⟨?_, hr.buf⟩
  rw [hr.pos, h1, List.sum_replicate_nat, List.length_take, List.length_drop, ← Nat.add_min_add_left,
    Nat.add_sub_of_le hp, Nat.min_comm]

/-! ### the scan of `defuse_xml`: 64 KiB buffer, blocks of 16364 -/

theorem buf_lt_pos_iff (g : Bool) (total K : Nat) :
    (if g then max (bufLenOf total) (min total K) else bufLenOf total) < min total K ↔
      g = false ∧ bufferSize < total ∧ bufferSize < K := by
  cases g with
  | false => simp only [bufLenOf, Bool.false_eq_true, if_false, true_and]; omega
  | true => simp only [if_true, Bool.true_eq_false, false_and, iff_false]; omega

theorem init_buf_length (g : Bool) (s : List Nat) :
    (Reader.init g bufferSize s).buf.length = bufLenOf s.length := by
  simp [Reader.init, bufLenOf, bufferSize, Nat.min_comm]

theorem scan_init (g : Bool) (s : List Nat) (k : Nat) :
    ((Reader.init g bufferSize s).readBlocks k).pos = min s.length (k * blockSize) ∧
    ((Reader.init g bufferSize s).readBlocks k).buf.length =
      if g then max (bufLenOf s.length) (min s.length (k * blockSize)) else bufLenOf s.length := by
  have h := readBlocks_refines (init_inv g bufferSize s) k
  rw [init_buf_length, show (Reader.init g bufferSize s).pos = 0 from rfl, Nat.zero_add] at h
  rw [h.2, h.1]
  exact ⟨rfl, rfl⟩

theorem blocks_pass_buffer (tagEnd : Nat) :
    bufferSize < blocksFor tagEnd * blockSize ↔ 4 * blockSize < tagEnd := by
  simp only [blocksFor, bufferSize, blockSize]
  omega

theorem rewind_fails_iff (g : Bool) (total tagEnd : Nat) :
    bufLenAfter g total tagEnd < scanEndOf total tagEnd ↔
      g = false ∧ bufferSize < total ∧ 4 * blockSize < tagEnd := by
  rw [← blocks_pass_buffer]
  exact buf_lt_pos_iff g total _

theorem rewind_ok_iff (g : Bool) (total tagEnd : Nat) :
    ¬ bufLenAfter g total tagEnd < scanEndOf total tagEnd ↔
      g = true ∨ total ≤ bufferSize ∨ tagEnd ≤ 4 * blockSize := by
  rw [rewind_fails_iff]
  cases g
  · simp only [true_and, Bool.false_eq_true, false_or, Decidable.not_and_iff_not_or_not, Nat.not_lt]
  · simp only [Bool.true_eq_false, false_and, not_false_eq_true, true_or]

theorem ite_ne {α : Type} {c : Prop} [Decidable c] {a b x : α} (ha : a ≠ x) (hb : b ≠ x) :
    (if c then a else b) ≠ x := by
  split <;> assumption

theorem wrap_ne (io : IoKind) {x : Plan} (h : x = .noDefuse ∨ x = .secondOpen ∨ x = .refuse) :
    (if io == .raw then Plan.wrapRaw else if io == .buffered then .wrapBuffered else .wrapText) ≠ x := by
  rcases h with rfl | rfl | rfl <;> exact ite_ne nofun (ite_ne nofun nofun)

theorem plan_ne_noDefuse (v : Variant) (m : Mode) (b : BaseClass) (ch : Chan) (hd : isDefused m b = true) :
    plan v m b ch ≠ .noDefuse := by
  unfold plan
  simp only [hd, Bool.not_true, Bool.false_eq_true, if_false]
  exact ite_ne (ite_ne nofun (wrap_ne _ (.inl rfl))) (ite_ne nofun nofun)

theorem plan_secondOpen_hasUrl {v : Variant} {m : Mode} {b : BaseClass} {ch : Chan}
    (h : plan v m b ch = .secondOpen) : ch.hasUrl = true := by
  revert h
  unfold plan
  cases ch.hasUrl
  · simp only [Bool.false_eq_true, if_false]
    exact fun h => absurd h (ite_ne nofun (ite_ne (ite_ne nofun (wrap_ne _ (.inr (.inl rfl)))) nofun))
  · exact fun _ => rfl

theorem outcome_parsed {pl : Plan} {mr : Bool} {scanEnd bufLen : Nat}
    (h : outcome pl mr scanEnd bufLen = .parsed) : pl ≠ .refuse ∧ (pl ≠ .noDefuse → mr = false) := by
  cases mr with
  | false => exact ⟨fun e => (by rw [e] at h; cases h), fun _ => rfl⟩
  | true =>
    cases pl with
    | noDefuse => exact ⟨nofun, fun hn => absurd rfl hn⟩
    | _ => cases h

theorem build_failed (v : Variant) (m : Mode) {r : Res} (k : Kind) (c s : Forest)
    (h : resOutcome v m r ≠ .parsed) :
    build v m (.cons r k c s) =
      if swallowed k (resOutcome v m r) then (resEvents v m r ++ (build v m s).1, (build v m s).2)
      else (resEvents v m r, .raised (resOutcome v m r)) := by
  rw [build, if_neg h]

/-- a `parsed` event of a resource for which defusing applies directly follows the `scanned`
    event of the same resource, and the resource is not one that must be refused -/
def parseOk (m : Mode) (prev : Option Ev) : Ev → Prop
  | .parsed r => isDefused m r.base = true → prev = some (.scanned r) ∧ r.mustRefuse = false
  | _ => True

def okFrom (m : Mode) : Option Ev → List Ev → Prop
  | _, [] => True
  | prev, e :: t => parseOk m prev e ∧ okFrom m (some e) t

theorem okFrom_append {m : Mode} {a b : List Ev} (hb : ∀ prev, okFrom m prev b) :
    ∀ {prev}, okFrom m prev a → okFrom m prev (a ++ b) := by
  induction a with
  | nil => intro prev _; exact hb prev
  | cons e t ih => intro prev h; exact ⟨h.1, ih h.2⟩

theorem okFrom_spec (m : Mode) (r : Res) (post : List Ev) (hd : isDefused m r.base = true) :
    ∀ (pre : List Ev) (prev : Option Ev), okFrom m prev (pre ++ .parsed r :: post) →
      r.mustRefuse = false ∧
        ((pre = [] ∧ prev = some (.scanned r)) ∨ ∃ pre', pre = pre' ++ [.scanned r]) := by
  intro pre
  induction pre with
  | nil => intro prev h; exact ⟨(h.1 hd).2, .inl ⟨rfl, (h.1 hd).1⟩⟩
  | cons e t ih =>
    intro prev h
    obtain ⟨hm, ⟨rfl, he⟩ | ⟨t', rfl⟩⟩ := ih (some e) h.2
    · cases he; exact ⟨hm, .inr ⟨[], rfl⟩⟩
    · exact ⟨hm, .inr ⟨e :: t', rfl⟩⟩

theorem resEvents_ok (v : Variant) (m : Mode) (r : Res) : ∀ prev, okFrom m prev (resEvents v m r) := by
  intro prev
  refine ⟨trivial, ?_⟩
  by_cases ho : resOutcome v m r = .parsed
  · obtain ⟨hr, hm⟩ := outcome_parsed ho
    rw [if_pos ho]
    cases hpl : plan v m r.base r.ch with
    | noDefuse => exact ⟨fun hd => absurd hpl (plan_ne_noDefuse v m r.base r.ch hd), trivial⟩
    | refuse => exact absurd hpl hr
    | _ => exact ⟨trivial, fun _ => ⟨rfl, hm (by rw [hpl]; nofun)⟩, trivial⟩
  · rw [if_neg ho]
    cases plan v m r.base r.ch <;> simp [okFrom, parseOk]

theorem build_ok (v : Variant) (m : Mode) (f : Forest) : ∀ prev, okFrom m prev (build v m f).1 := by
  induction f with
  | nil => intro prev; trivial
  | cons r k c s ihc ihs =>
    have hself : ∀ prev, okFrom m prev
        (if resOutcome v m r = .parsed then (resEvents v m r ++ (build v m c).1, (build v m c).2)
         else (resEvents v m r, Status.raised (resOutcome v m r))).1 := by
      intro prev
      split
      · exact okFrom_append ihc (resEvents_ok v m r prev)
      · exact resEvents_ok v m r prev
    intro prev
    rw [build]
    split
    · exact okFrom_append ihs (hself prev)
    · split
      · exact okFrom_append ihs (hself prev)
      · exact hself prev

end XsVerif.Defuse
