/-
  JsonML converter: one-level round trip `element_encode (element_decode data) = norm1 data` and the level
  contract `LevelOK` (Lemmas/Tree.lean).  Proved for `encK`: a child's name is un-mapped by an arbitrary
  `umK child name` (jsonml.py:126-131); `enc` is the instance `umK := fun _ => m.um`.
-/
import XsVerif.Lemmas.Tree

namespace XsVerif.Conv.JsonML
open XsVerif.Conv

/-- what `element_decode` may be given for a valid element (one level) -/
structure WF1 {α : Type} (m : Mapper) (useNs : Bool) (f : Facts) (hd : Hd) (its : List (Item α)) : Prop where
  tag : m.um (m.mp hd.tag) = hd.tag
  attrsUm : ∀ kv ∈ hd.attrs, m.umA (m.mpA kv.1) = kv.1
  attrsNodup : ((attrPairs m hd).map (·.1)).Nodup
  attrsNodup' : (hd.attrs.map (·.1)).Nodup
  attrsNotXmlns : ∀ kv ∈ hd.attrs, isXmlnsKey (m.mpA kv.1) = false
  xmlnsNodup : ((xmlnsEntries "" hd.xmlns).map (·.1)).Nodup
  textOk : ∀ t, hd.text = some t → t.isMap = false ∧ t.isNull = false
  textStr : ∀ t, hd.text = some t → f.simple = false → t.isSeq = false
  textAlone : hd.text.isSome = true → its = []
  groupIff : f.hasGroup = !f.simple
  simpleNoItems : f.simple = true → its = []
  emptyNoItems : f.emptyContent = true → its = []
  cdataStr : ∀ i v, Item.cdata i v ∈ its → v.isSeq = false ∧ v.isMap = false
  kidsUm : ∀ nm s v, Item.child nm s v ∈ its → m.um (m.mp nm) = nm

def Inv (m : Mapper) (nm : String) (v : J) : Prop := ∃ rest, v = .list (.atom "s" (m.mp nm) :: rest)

def Kids (m : Mapper) (its : List (Item J)) : Prop := ∀ nm s v, Item.child nm s v ∈ its → Inv m nm v

/-- the text of a mixed element with a non-empty content model comes back as the first cdata part
    (same thing for `XsdGroup.raw_encode`, groups.py:1108, 1147-1150) -/
def shift (f : Facts) (hd : Hd) : Bool :=
  hd.text.isSome && !(f.simple || (f.emptyContent && f.mixed))

/-- documented normalisations of one level: cdata renumbered from 1, `single` flags cleared, xmlns kept
    only when the converter uses namespaces, text shifted into the content for mixed models -/
def norm1 (useNs : Bool) {α : Type} (f : Facts) (hd : Hd) (its : List (Item α)) : Hd × List (Item α) :=
  let x := if useNs then hd.xmlns else []
  if shift f hd then
    ({ hd with text := none, xmlns := x },
     match hd.text with | some t => [.cdata 1 t] | none => [])
  else ({ hd with xmlns := x }, renum 1 its)

/-- `WF1` without `kidsUm` (the children are not un-mapped with this element's mapper) -/
structure WF1K {α : Type} (m : Mapper) (f : Facts) (hd : Hd) (its : List (Item α)) : Prop where
  tag : m.um (m.mp hd.tag) = hd.tag
  attrsUm : ∀ kv ∈ hd.attrs, m.umA (m.mpA kv.1) = kv.1
  attrsNodup : ((attrPairs m hd).map (·.1)).Nodup
  attrsNodup' : (hd.attrs.map (·.1)).Nodup
  attrsNotXmlns : ∀ kv ∈ hd.attrs, isXmlnsKey (m.mpA kv.1) = false
  xmlnsNodup : ((xmlnsEntries "" hd.xmlns).map (·.1)).Nodup
  textOk : ∀ t, hd.text = some t → t.isMap = false ∧ t.isNull = false
  textStr : ∀ t, hd.text = some t → f.simple = false → t.isSeq = false
  textAlone : hd.text.isSome = true → its = []
  groupIff : f.hasGroup = !f.simple
  simpleNoItems : f.simple = true → its = []
  emptyNoItems : f.emptyContent = true → its = []
  cdataStr : ∀ i v, Item.cdata i v ∈ its → v.isSeq = false ∧ v.isMap = false

theorem WF1.toK {α : Type} {m : Mapper} {useNs f hd} {its : List (Item α)} (w : WF1 m useNs f hd its) :
    WF1K m f hd its := { w with }

theorem WF1K.of_shape {m : Mapper} {f hd} {its : List (Item J)} (w : WF1K m f hd (shape its)) : WF1K m f hd its :=
  { w with
    textAlone := fun h => shape_nil (w.textAlone h)
    simpleNoItems := fun h => shape_nil (w.simpleNoItems h)
    emptyNoItems := fun h => shape_nil (w.emptyNoItems h)
    cdataStr := fun i v h => w.cdataStr i v (mem_shape_cdata h) }

theorem WF1.of_shape {m : Mapper} {useNs f hd} {its : List (Item J)} (w : WF1 m useNs f hd (shape its)) :
    WF1 m useNs f hd its :=
  { w.toK.of_shape with kidsUm := fun nm s _ h => w.kidsUm nm s () (mem_shape_child h) }

def KidsK (umK : J → String → String) (its : List (Item J)) : Prop :=
  ∀ nm s v, Item.child nm s v ∈ its → ∃ h rest, v = .list (.atom "s" h :: rest) ∧ umK v h = nm

theorem numberK_eq (m : Mapper) (useNs : Bool) : ∀ (l : List J) (k : Nat),
    numberK (fun _ => m.um) useNs k l = number m useNs k l := by
  intro l
  induction l with
  | nil => intro k; rfl
  | cons e r ih =>
    intro k
    unfold numberK number
    split <;> simp only [ih]

theorem encBodyK_eq (m : Mapper) (useNs : Bool) (f : Facts) (tag : String) (a : List (String × J))
    (x : List (String × String)) (body : List J) :
    encBodyK (fun _ => m.um) useNs f tag a x body = encBody m useNs f tag a x body := by
  unfold encBodyK encBody
  split <;> simp only [numberK_eq]

theorem encK_eq (m : Mapper) (useNs : Bool) (f : Facts) (name : String) (obj : J) :
    encK m (fun _ => m.um) useNs f name obj = enc m useNs f name obj := by
  cases obj with
  | list xs =>
    cases xs with
    | nil => rfl
    | cons h rest =>
      cases h with
      | atom kd s => simp only [encK, enc, encBodyK_eq]
      | _ => rfl
  | _ => rfl

section
variable {α : Type} {m : Mapper} {f : Facts} {hd : Hd} {its : List (Item α)} (w : WF1K m f hd its)
include w

/-- jsonml.py:73-77 without key collisions -/
theorem decAttrs_eq (useNs : Bool) :
    decAttrs m useNs hd = attrPairs m hd ++ xmlnsEntries "" (if useNs then hd.xmlns else []) := by
  have h : decAttrs m useNs hd =
      dictUpdate (dictUpdate [] (attrPairs m hd)) (xmlnsEntries "" (if useNs then hd.xmlns else [])) := by
    unfold decAttrs
    cases useNs <;> cases hd.xmlns <;> rfl
  rw [h, dictUpdate_nil _ w.attrsNodup]
  refine dictUpdate_fresh _ _ ?_ ?_
  · intro kv hkv kv' hkv' he
    obtain ⟨p, _, rfl⟩ := List.mem_map.mp hkv
    obtain ⟨a, ha, rfl⟩ := List.mem_map.mp hkv'
    have h2 := w.attrsNotXmlns a ha
    rw [show m.mpA a.1 = _ from he, isXmlnsKey_entry] at h2
    cases h2
  · cases useNs
    · exact List.nodup_nil
    · exact w.xmlnsNodup

theorem filter_attrs (x : List (String × String)) :
    ((attrPairs m hd ++ xmlnsEntries "" x).filter fun kv => !isXmlnsKey kv.1) = attrPairs m hd := by
  rw [List.filter_append, List.filter_eq_self.mpr, List.filter_eq_nil_iff.mpr, List.append_nil]
  · intro kv hkv
    obtain ⟨p, _, rfl⟩ := List.mem_map.mp hkv
    simp only [isXmlnsKey_entry, Bool.not_true, Bool.false_eq_true, not_false_eq_true]
  · intro kv hkv
    obtain ⟨a, ha, rfl⟩ := List.mem_map.mp hkv
    simp [w.attrsNotXmlns a ha]

theorem unmap_attrs : dictUpdate [] ((attrPairs m hd).map fun kv => (m.umA kv.1, kv.2)) = hd.attrs :=
  dictUpdate_unmap m hd.attrs w.attrsUm w.attrsNodup'

theorem xmlnsOf_attrs : (attrPairs m hd).filterMap xmlnsOfKv = [] := by
  apply List.filterMap_eq_nil_iff.mpr
  intro kv hkv
  obtain ⟨a, ha, rfl⟩ := List.mem_map.mp hkv
  have h := w.attrsNotXmlns a ha
  simp only [isXmlnsKey, Bool.or_eq_false_iff] at h
  unfold xmlnsOfKv
  split
  · simp [h.1, h.2]
  · rfl

end

theorem xmlnsOfKv_entry (kv : String × String) :
    xmlnsOfKv (if kv.1 == "" then "" ++ "xmlns" else "" ++ "xmlns:" ++ kv.1, J.atom "s" kv.2) = some kv := by
  obtain ⟨p, u⟩ := kv
  cases hp : p == ""
  · show xmlnsOfKv ("xmlns:" ++ p, J.atom "s" u) = some (p, u)
    simp only [xmlnsOfKv, xmlns_key_ne, hasPrefix_append, Bool.false_eq_true, if_false, if_true]
    exact congrArg (fun s => some (s, u)) (dropN_append "xmlns:" p)
  · cases beq_iff_eq.mp hp
    rfl

theorem xmlnsOf_entries (x : List (String × String)) : (xmlnsEntries "" x).filterMap xmlnsOfKv = x := by
  induction x with
  | nil => rfl
  | cons a x ih =>
    simp only [xmlnsEntries, List.map_cons, List.filterMap_cons, xmlnsOfKv_entry]
    exact congrArg _ ih

theorem splitAttrs_header (m : Mapper) (d : List (String × J)) (body : List J)
    (h : ∀ x, body.head? = some x → x.isMap = false) :
    splitAttrs m ((if d.isEmpty then [] else [.dict d]) ++ body) =
      (dictUpdate [] ((d.filter fun kv => !isXmlnsKey kv.1).map fun kv => (m.umA kv.1, kv.2)), body) := by
  cases d with
  | cons _ _ => rfl
  | nil =>
    cases body with
    | nil => rfl
    | cons a l =>
      have := h a rfl
      cases a <;> first | rfl | cases this

theorem xmlnsOf_header (useNs : Bool) (d : List (String × J)) (body : List J)
    (h : ∀ x, body.head? = some x → x.isMap = false) :
    xmlnsOf useNs ((if d.isEmpty then [] else [.dict d]) ++ body) = if useNs then d.filterMap xmlnsOfKv else [] := by
  cases useNs with
  | false => rfl
  | true =>
    cases d with
    | cons _ _ => rfl
    | nil =>
      cases body with
      | nil => rfl
      | cons a l =>
        have := h a rfl
        cases a <;> first | rfl | cases this

/-- what follows the tag (and the attribute dict) in the decoded list -/
def bodyOf (m : Mapper) (f : Facts) (hd : Hd) (its : List (Item J)) : List J :=
  textPart hd ++ (if f.hasGroup then its.map (itemJ m) else [])

theorem dec_eq (m : Mapper) (useNs : Bool) (f : Facts) (hd : Hd) (its : List (Item J)) :
    dec m useNs f hd its =
      .list (.atom "s" (m.mp hd.tag) :: (header m useNs hd ++ bodyOf m f hd its)) := by
  simp only [dec, bodyOf, List.append_assoc]

section
variable {m : Mapper} {umK : J → String → String} {f : Facts} {hd : Hd} {its : List (Item J)}
  (w : WF1K m f hd its) (hk : KidsK umK its)
include w hk

theorem body_notMap : ∀ x ∈ bodyOf m f hd its, x.isMap = false := by
  intro x hx
  rcases List.mem_append.mp hx with hx | hx
  · cases ht : hd.text with
    | none => simp [textPart, ht] at hx
    | some t =>
      simp only [textPart, ht, List.mem_singleton] at hx
      exact hx ▸ (w.textOk t ht).1
  · split at hx
    · obtain ⟨it, hit, rfl⟩ := List.mem_map.mp hx
      cases it with
      | cdata i v => exact (w.cdataStr i v hit).2
      | child nm s v =>
        obtain ⟨h, rest, rfl, _⟩ := hk nm s v hit
        rfl
    · cases hx

theorem split_rest (useNs : Bool) :
    splitAttrs m (header m useNs hd ++ bodyOf m f hd its) = (hd.attrs, bodyOf m f hd its) ∧
    xmlnsOf useNs (header m useNs hd ++ bodyOf m f hd its) = (if useNs then hd.xmlns else []) := by
  unfold header
  have hb := fun x hx => body_notMap w hk x (List.mem_of_head? hx)
  rw [splitAttrs_header m _ _ hb, xmlnsOf_header useNs _ _ hb, decAttrs_eq w,
    filter_attrs w, unmap_attrs w, List.filterMap_append, xmlnsOf_attrs w, xmlnsOf_entries]
  exact ⟨rfl, by cases useNs <;> rfl⟩

end

theorem numberK_leaf {umK : J → String → String} {useNs : Bool} {e : J} (h : e.isSeq = false) (k : Nat)
    (r : List J) :
    numberK umK useNs k (e :: r) = (numberK umK useNs (k + 1) r).map (Item.cdata k e :: ·) := by
  cases e <;> first | rfl | cases h

theorem numberK_items {m : Mapper} {umK : J → String → String} {useNs : Bool} (its : List (Item J)) (k : Nat)
    (hc : ∀ i v, Item.cdata i v ∈ its → v.isSeq = false ∧ v.isMap = false) (hk : KidsK umK its) :
    numberK umK useNs k (its.map (itemJ m)) = .ok (renum k its) := by
  induction its generalizing k with
  | nil => rfl
  | cons a its ih =>
    have ih' := fun k => ih k (fun i v h => hc i v (List.mem_cons_of_mem _ h))
      (fun nm s v h => hk nm s v (List.mem_cons_of_mem _ h))
    cases a with
    | cdata i v =>
      rw [List.map_cons, itemJ, numberK_leaf (hc i v List.mem_cons_self).1, ih']
      rfl
    | child nm s v =>
      obtain ⟨h, rest, rfl, hum⟩ := hk nm s v List.mem_cons_self
      rw [List.map_cons, itemJ, renum, ← hum]
      simp only [J.isNull, Bool.false_eq_true, if_false, numberK, beq_self_eq_true, if_true, ih']
      rfl

theorem encBodyK_number {umK : J → String → String} {useNs : Bool} {f : Facts} (tag : String)
    (a : List (String × J)) (x : List (String × String)) (body : List J)
    (h : (f.simple || (f.emptyContent && f.mixed)) = false) :
    encBodyK umK useNs f tag a x body =
      (numberK umK useNs 1 body).map fun c => ({ tag, text := none, attrs := a, xmlns := x }, c) := by
  unfold encBodyK
  split
  · rfl
  · rw [h]; rfl
  · rfl

theorem encBodyK_body {m : Mapper} {umK f hd} {useNs : Bool} {its : List (Item J)} (w : WF1K m f hd its)
    (hk : KidsK umK its) (x : List (String × String)) :
    encBodyK umK useNs f hd.tag hd.attrs x (bodyOf m f hd its) =
      .ok (if shift f hd then
             ({ hd with text := none, xmlns := x }, match hd.text with | some t => [.cdata 1 t] | none => [])
           else ({ hd with xmlns := x }, renum 1 its)) := by
  obtain ⟨tag, text, attrs, xmlns⟩ := hd
  cases text with
  | some t =>
    cases w.textAlone rfl
    have ht := w.textOk t rfl
    simp only [bodyOf, textPart, List.map_nil, ite_self, List.append_nil, shift, Option.isSome_some, Bool.true_and]
    cases hc : (f.simple || (f.emptyContent && f.mixed))
    · have hs : f.simple = false := (Bool.or_eq_false_iff.mp hc).1
      rw [encBodyK_number _ _ _ _ hc]
      exact congrArg _ (numberK_items (m := m) [.cdata 1 t] 1
        (fun i v h => by cases List.mem_singleton.mp h; exact ⟨w.textStr t rfl hs, ht.1⟩) (fun _ _ _ h => nomatch h))
    · simp only [encBodyK, hc, ht.2, if_true, Bool.false_eq_true, if_false, Bool.not_true]
      rfl
  | none =>
    simp only [bodyOf, textPart, List.nil_append, shift, Option.isSome_none, Bool.false_and, Bool.false_eq_true,
      if_false]
    cases its with
    | nil => simp only [List.map_nil, ite_self]; rfl
    | cons a its =>
      have hs : f.simple = false := Bool.eq_false_iff.mpr (mt w.simpleNoItems (List.cons_ne_nil _ _))
      have he : f.emptyContent = false := Bool.eq_false_iff.mpr (mt w.emptyNoItems (List.cons_ne_nil _ _))
      simp only [w.groupIff, hs, Bool.not_false, if_true]
      rw [encBodyK_number _ _ _ _ (by rw [hs, he]; rfl), numberK_items _ 1 w.cdataStr hk]
      rfl

theorem encK_cons (m : Mapper) (umK : J → String → String) (useNs : Bool) (f : Facts) (name s : String)
    (rest : List J) :
    encK m umK useNs f name (.list (.atom "s" s :: rest)) =
      if m.um s != name then .error .unmatchedTag
      else encBodyK umK useNs f (m.um s) (splitAttrs m rest).1 (xmlnsOf useNs rest) (splitAttrs m rest).2 := by
  cases rest with
  | nil => cases useNs <;> rfl
  | cons a r => rfl

theorem level_roundtripK {m : Mapper} {umK f hd} {useNs : Bool} {its : List (Item J)} (w : WF1K m f hd its)
    (hk : KidsK umK its) :
    encK m umK useNs f hd.tag (dec m useNs f hd its) = .ok (norm1 useNs f hd its) := by
  obtain ⟨hsplit, hx⟩ := split_rest (f := f) w hk useNs
  rw [dec_eq, encK_cons, w.tag, bne_self_eq_false, if_neg Bool.false_ne_true, hsplit, hx, encBodyK_body w hk]
  rfl

theorem level_roundtrip {m : Mapper} {useNs f hd} {its : List (Item J)} (w : WF1 m useNs f hd its)
    (hk : Kids m its) :
    enc m useNs f hd.tag (dec m useNs f hd its) = .ok (norm1 useNs f hd its) := by
  rw [← encK_eq]
  refine level_roundtripK w.toK fun nm s v h => ?_
  obtain ⟨rest, rfl⟩ := hk nm s v h
  exact ⟨_, rest, rfl, w.kidsUm nm s _ h⟩

theorem norm1_natural (useNs : Bool) {α β} (g : α → β) (f : Facts) (hd : Hd) (its : List (Item α)) :
    norm1 useNs f hd (mapIt g its) = ((norm1 useNs f hd its).1, mapIt g (norm1 useNs f hd its).2) := by
  by_cases hs : shift f hd = true
  · simp only [norm1, hs, if_true]
    cases hd.text <;> rfl
  · simp only [norm1, hs, Bool.false_eq_true, if_false, renum_natural]

theorem norm1_children (useNs : Bool) {α} (f : Facts) (hd : Hd) (its : List (Item α)) (nm : String) (s : Bool)
    (v : α) (h : Item.child nm s v ∈ (norm1 useNs f hd its).2) : ∃ s', Item.child nm s' v ∈ its := by
  by_cases hs : shift f hd = true
  · simp only [norm1, hs, if_true] at h
    cases ht : hd.text <;> simp [ht] at h
  · simp only [norm1, hs, Bool.false_eq_true, if_false] at h
    exact renum_children _ _ _ _ _ h

theorem jsonml_levelOK (m : Mapper) (useNs : Bool) :
    LevelOK (conv m useNs) (Inv m) (fun f hd sh => WF1 m useNs f hd sh)
      (fun {_} f hd its => norm1 useNs f hd its) Eq where
  rt := fun _ _ _ w hk => ⟨_, level_roundtrip w.of_shape hk, ItemsRel.refl_eq _⟩
  encR := fun _ _ _ _ h => h ▸ rfl
  inv := fun f hd its _ _ => ⟨_, dec_eq m useNs f hd its⟩
  natural := norm1_natural useNs
  children := norm1_children useNs

end XsVerif.Conv.JsonML
