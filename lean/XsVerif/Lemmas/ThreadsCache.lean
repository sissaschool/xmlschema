/-
  Helper lemmas for the cache / scratch models (Model/ThreadsCache.lean).
-/
import XsVerif.Model.ThreadsCache
import XsVerif.Lemmas.Threads

namespace XsVerif.Threads.Cache
open XsVerif.Threads

variable {K V : Type}

theorem sound_empty (f : K → V) : Sound f (empty : Store K V) := nofun

theorem sound_del [DecidableEq K] (f : K → V) (m : Store K V) (k : K) (h : Sound f m) :
    Sound f (del k m) := by
  intro x v hx
  simp only [del] at hx
  split at hx
  · simp at hx
  · exact h x v hx

def PcOk (f : K → V) : PC K V → Prop
  | .store k v => v = f k
  | _ => True

/-- the key of the call in progress -/
def pend : PC K V → List K
  | .idle => []
  | .look k => [k]
  | .compute k _ => [k]
  | .store k _ => [k]

structure TOk (f : K → V) (prog : List (Op K)) (th : Th K V) : Prop where
  pc : PcOk f th.pc
  rets : ∀ x, x ∈ th.rets → x.2 = f x.1
  order : th.rets.map Prod.fst ++ (pend th.pc ++ calls th.ops) = calls prog

theorem TOk.ret {f : K → V} {prog : List (Op K)} {th : Th K V} {k : K} {v : V} (hv : v = f k)
    (hrets : ∀ x, x ∈ th.rets → x.2 = f x.1) (hord : th.rets.map Prod.fst ++ ([k] ++ calls th.ops) = calls prog) :
    TOk f prog { th with pc := .idle, rets := th.rets ++ [(k, v)] } :=
  ⟨trivial, forall_mem_snoc hrets hv, by rw [List.map_append, List.append_assoc]; exact hord⟩

theorem stepTh_ok [DecidableEq K] (f : K → V) (prog : List (Op K)) (m : Store K V) (th : Th K V)
    (hm : Sound f m) (ht : TOk f prog th) :
    Sound f (stepTh f m th).1 ∧ TOk f prog (stepTh f m th).2 := by
  have ⟨hpc, hrets, hord⟩ := ht
  unfold stepTh
  split <;> rename_i hp <;> rw [hp] at hord hpc
  · -- idle: the next operation; `clear` and `evict` only shrink the store
    split <;> rename_i ho <;> rw [ho] at hord
    · exact ⟨hm, ht⟩
    · exact ⟨hm, trivial, hrets, hord⟩
    · exact ⟨hm, trivial, hrets, hord⟩
    · exact ⟨sound_empty f, ht.pc, hrets, by rw [hp]; exact hord⟩
    · exact ⟨sound_del f m _ hm, ht.pc, hrets, by rw [hp]; exact hord⟩
  · -- look
    split
    · rename_i v hv
      exact ⟨hm, TOk.ret (hm _ v hv) hrets hord⟩
    · exact ⟨hm, trivial, hrets, hord⟩
  · -- compute
    split
    · exact ⟨hm, rfl, hrets, hord⟩
    · exact ⟨hm, TOk.ret rfl hrets hord⟩
  · -- store
    subst hpc
    exact ⟨hm.store _, TOk.ret rfl hrets hord⟩

structure CInv [DecidableEq K] (f : K → V) (prog : Nat → List (Op K)) (c : Cfg K V) : Prop where
  memo : Sound f c.memo
  ths : ∀ t, TOk f (prog t) (c.th t)

theorem cinv_step [DecidableEq K] (f : K → V) (prog : Nat → List (Op K)) (t : Nat) (c : Cfg K V)
    (h : CInv f prog c) : CInv f prog (step f t c) :=
  have h1 := stepTh_ok f (prog t) c.memo (c.th t) h.memo (h.ths t)
  ⟨h1.1, forall_upd h1.2 fun x _ => h.ths x⟩

theorem cinv_exec [DecidableEq K] (f : K → V) (prog : Nat → List (Op K)) (sched : List Nat) :
    ∀ c, CInv f prog c → CInv f prog (exec f sched c) :=
  sched_inv (fun _ => rfl) (fun _ _ _ => rfl) (cinv_step f prog) sched

theorem cinv_init [DecidableEq K] (f : K → V) (m₀ : Store K V) (h₀ : Sound f m₀) (prog : Nat → List (Op K)) :
    CInv f prog (init m₀ prog) :=
  ⟨h₀, fun _ => ⟨trivial, nofun, rfl⟩⟩

theorem rets_eq_of_sound (f : K → V) (l : List (K × V)) (h : ∀ x, x ∈ l → x.2 = f x.1) :
    l = (l.map Prod.fst).map (fun k => (k, f k)) := by
  rw [List.map_map]
  exact (List.map_id l).symm.trans (List.map_congr_left fun x hx => Prod.ext rfl (h x hx))

theorem TOk.finished {f : K → V} {prog : List (Op K)} {th : Th K V} (ht : TOk f prog th)
    (hfin : th.finished = true) : th.rets = (calls prog).map fun k => (k, f k) := by
  have ho := ht.order
  simp only [Th.finished, Bool.and_eq_true, List.isEmpty_iff] at hfin
  cases hp : th.pc with
  | idle =>
    rw [hp, hfin.1] at ho
    rw [← ho]
    exact (rets_eq_of_sound f _ ht.rets).trans (congrArg _ (List.append_nil _).symm)
  | _ => rw [hp] at hfin; exact Bool.noConfusion hfin.2


theorem put_idem [DecidableEq K] (k : K) (v : V) (s : Store K V) : put k v (put k v s) = put k v s := by
  funext x
  simp only [put]
  split <;> rfl

theorem puts_apply [DecidableEq K] (f : K → V) (l : List K) : ∀ (s : Store K V) (x : K),
    puts f l s x = if x ∈ l then some (f x) else s x := by
  induction l with
  | nil => intro s x; rfl
  | cons a r ih =>
    intro s x
    refine (ih (put a (f a) s) x).trans ?_
    by_cases hr : x ∈ r
    · simp [hr]
    · by_cases ha : x = a
      · subst ha; simp [put]
      · simp [hr, ha, put]

theorem puts_congr [DecidableEq K] (f : K → V) {l₁ l₂ : List K} (h : ∀ x, x ∈ l₁ ↔ x ∈ l₂)
    (s : Store K V) : puts f l₁ s = puts f l₂ s := by
  funext x
  simp only [puts_apply, h]

theorem put_comm [DecidableEq K] (f : K → V) (k k' : K) (s : Store K V) :
    put k (f k) (put k' (f k') s) = put k' (f k') (put k (f k) s) :=
  puts_congr f (l₁ := [k', k]) (l₂ := [k, k']) (fun x => by simp [or_comm]) s


def SPcOk (u : SUser) : SPC → Prop
  | .fin v _ => v = u.val
  | _ => True

theorem sstep_ok (user : Nat → SUser) (t : Nat) (c : SCfg) (h : ∀ x, SPcOk (user x) (c.pc x)) :
    ∀ x, SPcOk (user x) ((sstep user t c).pc x) := by
  have next : ∀ p, SPcOk (user t) p → ∀ x, SPcOk (user x) (upd c.pc t p x) :=
    fun _ hp => forall_upd hp fun x _ => h x
  unfold sstep
  simp only
  split
  · exact next _ trivial
  · exact next _ trivial
  · split <;> exact next _ trivial
  · exact next _ trivial
  · exact next _ trivial
  · exact next _ trivial
  · split
    · exact next _ trivial
    · exact next _ rfl
  · exact next _ rfl
  · exact h

theorem sexec_ok (user : Nat → SUser) (sched : List Nat) :
    ∀ c : SCfg, (∀ x, SPcOk (user x) (c.pc x)) → ∀ x, SPcOk (user x) ((sexec user sched c).pc x) :=
  sched_inv (fun _ => rfl) (fun _ _ _ => rfl) (sstep_ok user) sched


/-- the values already tested, the value of the call in progress (once stored: the content of the thread's own
    cell `cellv`) and the values still to come are the thread's program -/
def XOk (prog : List Nat) (cellv : Nat) (th : XTh) : Prop :=
  th.res ++ ((match th.pc with
      | .idle => []
      | .store v => [v]
      | .eval _ => [cellv]
      | .read => [cellv]) ++ th.vals) = prog

theorem XOk.finished {prog : List Nat} {cellv : Nat} {th : XTh} (h : XOk prog cellv th)
    (hfin : th.finished = true) : th.res = prog := by
  simp only [XTh.finished, Bool.and_eq_true, List.isEmpty_iff, beq_iff_eq] at hfin
  unfold XOk at h
  rw [hfin.1, hfin.2] at h
  simpa using h

theorem xstep_ok (gap : Nat) (prog : Nat → List Nat) (t : Nat) (c : XCfg)
    (h : ∀ x, XOk (prog x) (c.cell (x + 1)) (c.th x)) :
    ∀ x, XOk (prog x) ((xstep false gap t c).cell (x + 1)) ((xstep false gap t c).th x) := by
  have ht := h t
  have same : ∀ x, x ≠ t → XOk (prog x) (c.cell (x + 1)) (c.th x) := fun x _ => h x
  unfold XOk at ht
  unfold xstep
  simp only [Bool.false_eq_true, if_false]
  split <;> rename_i hp <;> rw [hp] at ht
  · split
    · exact h
    · rename_i hv
      rw [hv] at ht
      exact forall_upd ht same
  · -- store: only the thread's own cell is written
    refine forall_upd ?_ fun x hx => ?_
    · simp only [upd_same]; exact ht
    · simp only [upd_other _ _ _ _ (show x + 1 ≠ t + 1 by omega)]; exact h x
  · exact forall_upd ht same
  · exact forall_upd ht same
  · refine forall_upd ?_ same
    unfold XOk
    rw [List.append_assoc]
    exact ht

theorem xexec_ok (gap : Nat) (prog : Nat → List Nat) (sched : List Nat) :
    ∀ c : XCfg, (∀ x, XOk (prog x) (c.cell (x + 1)) (c.th x)) →
      ∀ x, XOk (prog x) ((xexec false gap sched c).cell (x + 1)) ((xexec false gap sched c).th x) :=
  sched_inv (fun _ => rfl) (fun _ _ _ => rfl) (xstep_ok gap prog) sched

end XsVerif.Threads.Cache
