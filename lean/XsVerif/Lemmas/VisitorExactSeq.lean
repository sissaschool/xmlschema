/-
  C01: the ModelVisitor port on a flat `sequence` of element leaves — what the functions of the port return in
  the cases a visit of such a group meets, then the invariant `Inv` of a visit of a sequence with occurrence 1..1
  and where `advance` takes a state with `Inv`.
-/
import XsVerif.Lemmas.VisitorExactBase
import XsVerif.Props.C01

namespace XsVerif.CM
open XsVerif.Wildcard

/-- visitor state with an empty `_groups` stack -/
abbrev flatSt (root idx : Nat) (m : Bool) (e : Option Nat) (c : Cnt) : St :=
  { stack := [], group := root, idx := idx, mtch := m, element := e, cnt := c }

def ltHi (c : Nat) : Option Nat → Bool
  | none => true
  | some h => c < h

theorem ltHi_iff {c : Nat} {hi : Option Nat} : ltHi c hi = true ↔ Rx.leHi (c + 1) hi := by
  cases hi with
  | none => exact ⟨fun _ => trivial, fun _ => rfl⟩
  | some v => exact decide_eq_true_iff

theorem leHi_succ_of_ltHi {c : Nat} {hi : Option Nat} (h : ltHi c hi = true) : Rx.leHi (c + 1) hi := by
  exact ltHi_iff.mp h

theorem lo_le_of_over {l : LeafSpec} {c : Nat} (hok : l.okRange = true) (h : ltHi (c + 1) l.hi = false) :
    l.lo ≤ c + 1 :=
  Nat.le_of_not_lt fun hlt =>
    Bool.false_ne_true (h.symm.trans (ltHi_iff.mpr (Rx.leHi_mono hlt (Rx.loLeHi_iff.mp hok))))

theorem ltHi_eq_bne {c : Nat} {hi : Option Nat} (hc : c = 0 ∨ ltHi c hi = true) : ltHi c hi = (hi != some 0) := by
  cases hi with
  | none => rfl
  | some v =>
    have hv : (some v != some 0) = decide (0 < v) := by cases v <;> rfl
    rcases hc with rfl | h
    · exact hv.symm
    · rw [h, hv]; exact (decide_eq_true (Nat.lt_of_le_of_lt (Nat.zero_le c) (of_decide_eq_true h))).symm

section
variable {A : Arena} {n root glo : Nat} {ghi : Option Nat} {k : NKind} {ls : List LeafSpec}

theorem isOver_eq_ltHi (A : Arena) (c : Cnt) (i : Nat) : isOver A c i = !ltHi (c.get i) (A.node i).hi := by
  unfold isOver ltHi
  cases (A.node i).hi with
  | none => rfl
  | some v => simp only [← Nat.not_lt, decide_not]

namespace FlatA

theorem root_isGroup (F : FlatA A n root k glo ghi ls) (hk : k = .seq ∨ k = .choice ∨ k = .all) :
    (A.node root).isGroup = true := by
  rw [F.root_node]; rcases hk with h | h | h <;> subst h <;> rfl

theorem leaf_isGroup (F : FlatA A n root k glo ghi ls) {l : LeafSpec} (hl : l ∈ ls) :
    (A.node l.id).isGroup = false := by
  rw [F.leaf_node l hl]; rfl

theorem id_ne_root (F : FlatA A n root k glo ghi ls) {l : LeafSpec} (hl : l ∈ ls) : l.id ≠ root := by
  have := (List.nodup_cons.mp F.nodup).1
  intro h; apply this; rw [← h]; exact List.mem_map.mpr ⟨l, hl, rfl⟩

theorem idx_inj (F : FlatA A n root k glo ghi ls) {i j : Nat} {l l' : LeafSpec} (hi : ls[i]? = some l)
    (hj : ls[j]? = some l') (h : l.id = l'.id) : i = j := by
  have hlt : i < (ls.map (·.id)).length := by
    rw [List.length_map]; exact (List.getElem?_eq_some_iff.mp hi).1
  refine (List.getElem?_inj hlt (List.nodup_cons.mp F.nodup).2).mp ?_
  rw [List.getElem?_map, List.getElem?_map, hi, hj, Option.map_some, Option.map_some, h]

theorem id_inj (F : FlatA A n root k glo ghi ls) {l l' : LeafSpec} (hl : l ∈ ls) (hl' : l' ∈ ls)
    (h : l.id = l'.id) : l = l' := by
  obtain ⟨i, hi⟩ := List.getElem?_of_mem hl
  obtain ⟨j, hj⟩ := List.getElem?_of_mem hl'
  obtain rfl := F.idx_inj hi hj h
  exact Option.some.inj (hi.symm.trans hj)

theorem isEmptiable_leaf (F : FlatA A n root k glo ghi ls) {l : LeafSpec} (hl : l ∈ ls) (f : Nat) :
    isEmptiable A (f + 1) l.id = (l.lo == 0) := by
  unfold isEmptiable
  simp [F.leaf_node l hl, LeafSpec.node]

theorem emptiable_leaf (F : FlatA A n root k glo ghi ls) {l : LeafSpec} (hl : l ∈ ls) :
    emptiable A l.id = (l.lo == 0) :=
  F.isEmptiable_leaf hl (A.size + 1)

theorem isMissing_leaf (F : FlatA A n root k glo ghi ls) {l : LeafSpec} (hl : l ∈ ls) (c : Cnt) :
    isMissing A c l.id = decide (l.lo > c.get l.id) := by
  unfold isMissing
  simp [F.leaf_node l hl, LeafSpec.node, Node.isGroup]

theorem isOver_leaf (F : FlatA A n root k glo ghi ls) {l : LeafSpec} (hl : l ∈ ls) (c : Cnt) :
    isOver A c l.id = !ltHi (c.get l.id) l.hi := by
  rw [isOver_eq_ltHi, F.leaf_node l hl]; rfl

theorem oidOf_leaf (F : FlatA A n root k glo ghi ls) {l : LeafSpec} (hl : l ∈ ls) (c : Cnt) :
    oidOf A c l.id = 0 := by
  unfold oidOf; simp [F.leaf_isGroup hl]

theorem emptiable_root_seq (F : FlatA A n root .seq glo ghi ls) :
    emptiable A root = (glo == 0 || ls.all (fun l => l.lo == 0)) := by
  unfold emptiable depthFuel isEmptiable
  simp only [F.root_node]
  have : ∀ l ∈ ls, isEmptiable A (A.size + 1) l.id = (l.lo == 0) := fun l hl => F.isEmptiable_leaf hl A.size
  have hall : (ls.map (·.id)).all (isEmptiable A (A.size + 1)) = ls.all (fun l => l.lo == 0) := by
    rw [Bool.eq_iff_iff]
    simp only [List.all_eq_true, List.mem_map, forall_exists_index, and_imp, forall_apply_eq_imp_iff₂]
    constructor
    · intro h l hl; rw [← this l hl]; exact h l hl
    · intro h l hl; rw [this l hl]; exact h l hl
  rw [hall]
  cases ls with
  | nil => simp
  | cons a t => simp


theorem nextItem_seq (F : FlatA A n root .seq glo ghi ls) (hg : ghi ≠ some 0) (s : St) (hs : s.group = root) :
    nextItem A s = match ls[s.idx]? with
      | none => (none, s.idx)
      | some l => (some l.id, s.idx + 1) := by
  unfold nextItem
  have : (ghi == some 0) = false := by simpa using hg
  simp only [hs, F.root_node, this, List.getElem?_map]
  cases ls[s.idx]? <;> rfl


theorem stopItem_leaf_matched (F : FlatA A n root .seq glo ghi ls) {l : LeafSpec} (hl : l ∈ ls) (f : Nat)
    (s : St) (hs : s.group = root) (hm : s.mtch = true) :
    stopItem A (f + 1) s l.id =
      .ok (seqTail A s l.id, l.id, s.cnt.get l.id, decide (l.lo > (seqTail A s l.id).cnt.get l.id)) := by
  rw [stopItem]
  simp only [F.leaf_isGroup hl, Bool.false_eq_true, if_false, hs, F.root_node, hm, if_true, F.isMissing_leaf hl]

theorem stopItem_leaf_unmatched (F : FlatA A n root .seq glo ghi ls) {l : LeafSpec} (hl : l ∈ ls) (f : Nat)
    (s : St) (hs : s.group = root) (hst : s.stack = []) (hm : s.mtch = false) (hc : s.cnt.get l.id = 0)
    (hmiss : l.lo ≠ 0 → isMissing A s.cnt root = true) :
    stopItem A (f + 1) s l.id = .ok (s, l.id, 0, decide (l.lo > 0)) := by
  rw [stopItem]
  simp only [F.leaf_isGroup hl, Bool.false_eq_true, if_false, hs, F.root_node, hm, hc, bne_self_eq_false,
    F.emptiable_leaf hl, hst, List.isEmpty_nil, Bool.not_true]
  cases hlo : l.lo with
  | zero => rfl
  | succ k =>
    rw [if_neg (by simp), if_pos (hmiss (by rw [hlo]; exact Nat.succ_ne_zero k))]
    rfl
theorem getLast_ids (F : FlatA A n root k glo ghi ls) {l : LeafSpec} (hl : l ∈ ls) :
    ((ls.map (·.id)).getLast? == some l.id) = decide (ls.getLast? = some l) := by
  rw [List.getLast?_map]
  cases h : ls.getLast? with
  | none => simp
  | some x =>
    have hx : x ∈ ls := List.mem_of_getLast? h
    by_cases hxl : x = l
    · subst hxl; simp
    · have : x.id ≠ l.id := fun e => hxl (F.id_inj hx hl e)
      simp [hxl, this]

theorem seqTail_notLast (F : FlatA A n root .seq glo ghi ls) {l : LeafSpec} (hl : l ∈ ls) (s : St)
    (hs : s.group = root) (h : ls.getLast? ≠ some l) : seqTail A s l.id = s := by
  unfold seqTail
  simp only [hs, F.root_node, F.getLast_ids hl, h, decide_false, Bool.false_eq_true, if_false]

end FlatA

theorem seqTail_d1 (c d : Nat) (hc : c ≠ 0) (hd : c ≤ d) :
    (if ((c / d) == 0) = true then 1 else c / d) = 1 := by
  rcases Nat.lt_or_eq_of_le hd with h1 | h1
  · simp [Nat.div_eq_of_lt h1]
  · subst h1; simp [Nat.div_self (Nat.pos_of_ne_zero hc)]

theorem one_le_or_div (a b : Nat) : 1 ≤ (if (a / b == 0) = true then 1 else a / b) := by
  split
  · exact Nat.le_refl 1
  · rename_i h; simp only [beq_iff_eq] at h; exact Nat.pos_of_ne_zero h

theorem find?_counted {ids : List Nat} {c : Cnt} :
    (∀ x, ids.zipIdx.find? (fun x => c.get x.1 != 0) = some x → x.1 ∈ ids ∧ c.get x.1 ≠ 0) ∧
    (ids.zipIdx.find? (fun x => c.get x.1 != 0) = none → ∀ i ∈ ids, c.get i = 0) := by
  constructor
  · intro x hx
    have h2 := List.mem_zipIdx' (List.mem_of_find?_eq_some hx)
    exact ⟨h2.2 ▸ List.getElem_mem _, by simpa using List.find?_some hx⟩
  · intro hnone i hi
    obtain ⟨k, hk, rfl⟩ := List.getElem_of_mem hi
    simpa using List.find?_eq_none.mp hnone (ids[k], k) (List.mem_zipIdx_iff_getElem?.mpr (List.getElem?_eq_getElem hk))

namespace FlatA

/-- closing a pass over the sequence at its last leaf counts one occurrence of the group: the first
    counted leaf `l2` has at most `l2.hi` occurrences, so `low / hi` is 0 or 1 -/
theorem seqTail_last (F : FlatA A n root .seq glo ghi ls) {l : LeafSpec} (hl : l ∈ ls) (s : St)
    (hs : s.group = root) (h : ls.getLast? = some l)
    (hnz : ∃ l' ∈ ls, s.cnt.get l'.id ≠ 0) (hb : ∀ l' ∈ ls, Rx.leHi (s.cnt.get l'.id) l'.hi) :
    ∃ b, 1 ≤ b ∧ seqTail A s l.id =
      { s with cnt := (s.cnt.set root (s.cnt.get root + 1)).setOid root (s.cnt.getOid root + b) } := by
  unfold seqTail
  simp only [hs, F.root_node, F.getLast_ids hl, h, decide_true, if_true]
  cases hfind : (ls.map (·.id)).zipIdx.find? (fun x => s.cnt.get x.1 != 0) with
  | none =>
    obtain ⟨l', hl', hne⟩ := hnz
    exact absurd (find?_counted.2 hfind l'.id (List.mem_map.mpr ⟨l', hl', rfl⟩)) hne
  | some x =>
    obtain ⟨hmem, hc⟩ := find?_counted.1 x hfind
    obtain ⟨i2, k⟩ := x
    obtain ⟨l2, hl2, rfl⟩ := List.mem_map.mp hmem
    have hle := hb l2 hl2
    have hnode := F.leaf_node l2 hl2
    simp only [F.oidOf_leaf hl2, hnode, LeafSpec.node, bne_self_eq_false, Bool.false_eq_true, if_false]
    have hc : s.cnt.get l2.id ≠ 0 := hc
    generalize hD : (s.cnt.get l2.id / _ : Nat) = d1
    have h1 : (if (d1 == 0) = true then 1 else d1) = 1 := by
      subst hD
      revert hle
      rcases l2.hi with _ | _ | v <;> intro hle <;>
        exact seqTail_d1 _ _ hc (by first | exact Nat.le_refl _ | exact hle)
    rw [h1]
    -- `split` on the condition is very slow here
    generalize (_ || _ : Bool) = C
    cases C
    · exact ⟨_, one_le_or_div _ _, rfl⟩
    · exact ⟨1, Nat.le_refl 1, rfl⟩


theorem isOver_root (F : FlatA A n root k glo ghi ls) (c : Cnt) :
    isOver A c root = !ltHi (c.get root) ghi := by
  rw [isOver_eq_ltHi, F.root_node]

theorem isExceeded_root (F : FlatA A n root k glo ghi ls) (c : Cnt) :
    isExceeded A c root = !decide (Rx.leHi (c.get root) ghi) := by
  unfold isExceeded; rw [F.root_node]
  cases ghi with
  | none => rfl
  | some v => simp only [Rx.leHi, ← Nat.not_lt, decide_not, Bool.not_not]

theorem isMissing_root (F : FlatA A n root k glo ghi ls) (hk : k = .seq ∨ k = .choice ∨ k = .all) (c : Cnt) :
    isMissing A c root =
      (if (if c.getOid root != 0 then c.getOid root else c.get root) == 0 then !emptiable A root
       else decide (glo > (if c.getOid root != 0 then c.getOid root else c.get root))) := by
  unfold isMissing
  simp only [F.root_isGroup hk, if_true]
  rw [F.root_node]

/-- the root has no enclosing group: `stop_item` on it raises IndexError -/
theorem stopItem_root (F : FlatA A n root k glo ghi ls) (hk : k = .seq ∨ k = .choice ∨ k = .all)
    (s : St) (hs : s.stack = []) : stopItem A (depthFuel A + 4) s root = .error s := by
  show stopItem A (A.size + 5 + 1) s root = _
  rw [stopItem]
  simp [F.root_isGroup hk, hs]

end FlatA

theorem unwindOver_notOver (A : Arena) (s : St) (h : isOver A s.cnt s.group = false) :
    unwindOver A (depthFuel A + 4) s = .ok s := by
  show unwindOver A (A.size + 5 + 1) s = _
  rw [unwindOver]; simp [h]

namespace FlatA

theorem advLoop_over (F : FlatA A n root k glo ghi ls) (hk : k = .seq ∨ k = .choice ∨ k = .all)
    (s : St) (hs : s.group = root) (hst : s.stack = []) (errs : List Err)
    (hover : isOver A s.cnt root = true) : advLoop A (8 * A.size + 16) s errs = onEnded A s errs := by
  have : unwindOver A (depthFuel A + 4) s = .error s := by
    show unwindOver A (A.size + 5 + 1) s = _
    rw [unwindOver]
    simp only [hs, hover, if_true, F.stopItem_root hk s hst]
  show advLoop A (8 * A.size + 15 + 1) s errs = _
  rw [advLoop, this]

theorem advLoop_next_seq (F : FlatA A n root .seq glo ghi ls) (hg : ghi ≠ some 0)
    (s : St) (hs : s.group = root) (errs : List Err)
    (hno : isOver A s.cnt root = false) {l : LeafSpec} (hl : ls[s.idx]? = some l) :
    advLoop A (8 * A.size + 16) s errs =
      .done { s with idx := s.idx + 1, element := some l.id, cnt := s.cnt.set l.id 0 } errs := by
  show advLoop A (8 * A.size + 15 + 1) s errs = _
  rw [advLoop, unwindOver_notOver A s (hs ▸ hno)]
  simp only [F.nextItem_seq hg s hs, hl, F.leaf_isGroup (List.mem_of_getElem? hl), Bool.false_eq_true, if_false, hs,
    F.root_node]
  rfl

theorem advLoop_end_seq (F : FlatA A n root .seq glo ghi ls) (hg : ghi ≠ some 0)
    (s : St) (hs : s.group = root) (hst : s.stack = []) (hm : s.mtch = false) (errs : List Err)
    (hno : isOver A s.cnt root = false) (hl : ls[s.idx]? = none) :
    advLoop A (8 * A.size + 16) s errs = onEnded A s errs := by
  show advLoop A (8 * A.size + 15 + 1) s errs = _
  have hk : ¬ ((A.node s.group).kind == NKind.all) = true := by rw [hs, F.root_node]; exact Bool.false_ne_true
  have hstop : stopItem A (depthFuel A + 4) s s.group = .error s := by
    rw [hs]; exact F.stopItem_root (.inl rfl) s hst
  rw [advLoop, unwindOver_notOver A s (hs ▸ hno)]
  simp only [F.nextItem_seq hg s hs, hl]
  -- the state `{ s with idx := s.idx }` of the port is `s`, by eta
  rw [if_neg (hm ▸ Bool.false_ne_true), if_neg hk, hstop]

end FlatA

/-- what `advance` does with the outcome of its first `stop_item` -/
def afterStop (A : Arena) : StopRes → Step
  | .error se => onEnded A se []
  | .ok (s2, it, io, r) => advLoop A (8 * A.size + 16) s2 (if r then [⟨it, io⟩] else [])

theorem advance_nomatch (A : Arena) (s : St) {e : Nat} (he : s.element = some e) :
    advance A s false = afterStop A (stopItem A (depthFuel A + 4) s e) := by
  unfold advance
  simp [he, afterStop]
  rfl

end

def Step.Keeps (errs : List Err) (r : Step) : Prop := ∃ t, r.errs = errs ++ t

namespace Step

theorem keeps_ite {errs : List Err} {c : Prop} [Decidable c] {a b : Step} (ha : a.Keeps errs)
    (hb : b.Keeps errs) : (if c then a else b).Keeps errs := by
  split <;> assumption

end Step

theorem onEnded_eq (A : Arena) (s : St) (errs : List Err) :
    ∃ t, onEnded A s errs = .ended { s with element := none } (errs ++ t) ∧
      ((A.node s.group).kind ≠ .all → isMissing A s.cnt s.group = false →
        isExceeded A s.cnt s.group = false → t = []) := by
  unfold onEnded
  dsimp only
  split
  · rename_i hk
    exact ⟨_, rfl, fun h => absurd (beq_iff_eq.mp hk) h⟩
  · split
    · rename_i hc
      exact ⟨_, rfl, fun _ hm he => by rw [hm, he] at hc; cases hc⟩
    · exact ⟨[], congrArg _ (List.append_nil _).symm, fun _ _ _ => rfl⟩

theorem onEnded_errs (A : Arena) (s : St) (errs : List Err) : (onEnded A s errs).Keeps errs :=
  (onEnded_eq A s errs).imp fun _ h => congrArg Step.errs h.1

theorem advLoop_errs (A : Arena) : ∀ (f : Nat) (s : St) (errs : List Err), ∃ t, (advLoop A f s errs).errs = errs ++ t := by
  intro f
  induction f with
  | zero => intro s errs; exact ⟨[], (List.append_nil _).symm⟩
  | succ f ih =>
    intro s errs
    rw [advLoop]
    cases unwindOver A (depthFuel A + 4) s with
    | error se => exact onEnded_errs A se errs
    | ok s1 =>
      simp only
      rcases nextItem A s1 with ⟨_ | obj, idx⟩
      · refine Step.keeps_ite (ih _ _) (Step.keeps_ite ?_ ?_)
        · cases s1.stack with
          | nil => exact onEnded_errs A _ errs
          | cons x rest => exact ih _ _
        · cases stopItem A (depthFuel A + 4) { s1 with idx := idx } s1.group with
          | error se => exact onEnded_errs A se errs
          | ok r =>
            obtain ⟨s', item, io, r⟩ := r
            obtain ⟨t, ht⟩ := ih s' (if r then errs ++ [⟨item, io⟩] else errs)
            cases r
            · exact ⟨t, ht⟩
            · exact ⟨_, ht.trans (List.append_assoc _ _ _)⟩
      · exact Step.keeps_ite (ih _ _) ⟨[], (List.append_nil _).symm⟩

theorem mem_drop_of_getElem? {α : Type} {l : List α} {j : Nat} {x : α} (h : l[j]? = some x) : x ∈ l.drop j :=
  List.mem_of_getElem? (i := 0) (List.getElem?_drop.trans h)

theorem take_succ_of_getElem? {α : Type} {l : List α} {j : Nat} {x : α} (h : l[j]? = some x) :
    l.take (j + 1) = l.take j ++ [x] := by
  rw [List.take_add_one, h]; rfl

/-! #### the invariant of a visit of a flat `sequence` with occurrence 1..1 -/

section
variable {A : Arena} {n root : Nat} {ls : List LeafSpec}

structure Inv (F : FlatA A n root .seq 1 (some 1) ls) (j : Nat) (l : LeafSpec) (c : Nat) (m : Bool) (s : St) : Prop where
  hl : ls[j]? = some l
  stack : s.stack = []
  group : s.group = root
  idx : s.idx = j + 1
  mtch : s.mtch = m
  elem : s.element = some l.id
  fo : s.fuelOut = false
  sized : s.cnt.Sized n
  cur : s.cnt.get l.id = c
  root0 : s.cnt.get root = 0
  oid0 : s.cnt.getOid root = 0
  bound : ∀ l' ∈ ls, Rx.leHi (s.cnt.get l'.id) l'.hi
  later : ∀ i l', j < i → ls[i]? = some l' → s.cnt.get l'.id = 0
  mfalse : m = false → c = 0 ∧ ∀ l' ∈ ls.take j, l'.lo = 0
  mtrue : m = true → ∃ l' ∈ ls, s.cnt.get l'.id ≠ 0

/-- the first error of `advance`, if any: the current element is missing -/
def errs0 (l : LeafSpec) (c : Nat) : List Err := if decide (l.lo > c) = true then [⟨l.id, c⟩] else []

theorem errs0_eq_nil {l : LeafSpec} {c : Nat} : errs0 l c = [] ↔ l.lo ≤ c := by
  unfold errs0
  by_cases h : l.lo ≤ c <;> simp [h]

/-- where the child loops find the visit: on the leaf at position `j` (invariant `Inv`) which may
    take one more occurrence unless `c` of them fill it, or past the last leaf with the model ended -/
inductive At (F : FlatA A n root .seq 1 (some 1) ls) (j c : Nat) (m : Bool) (s : St) : Prop
  | leaf (l : LeafSpec) (I : Inv F j l c m s) (hc : c = 0 ∨ ltHi c l.hi = true)
  | ended (hj : ls[j]? = none) (hel : s.element = none) (hfo : s.fuelOut = false)

variable {F : FlatA A n root .seq 1 (some 1) ls} {j c : Nat} {l : LeafSpec} {m : Bool} {s : St}

namespace Inv

theorem mem (I : Inv F j l c m s) : l ∈ ls := List.mem_of_getElem? I.hl

theorem incr (I : Inv F j l c m s) (h : ltHi c l.hi = true) :
    Inv F j l (c + 1) true { s with cnt := s.cnt.set l.id (s.cnt.get l.id + 1), mtch := true } := by
  have hid := F.ids_lt l I.mem
  have hself : (s.cnt.set l.id (s.cnt.get l.id + 1)).get l.id = c + 1 := by
    rw [Cnt.get_set_self I.sized _ _ hid, I.cur]
  have hget : ∀ {l'}, l' ∈ ls → l'.id ≠ l.id → (s.cnt.set l.id (s.cnt.get l.id + 1)).get l'.id = s.cnt.get l'.id :=
    fun _ hx => Cnt.get_set_ne I.sized _ _ _ hid (Ne.symm hx)
  refine { hl := I.hl, stack := I.stack, group := I.group, idx := I.idx, mtch := rfl, elem := I.elem, fo := I.fo,
           sized := Cnt.sized_set I.sized _ _, cur := hself, oid0 := I.oid0, mfalse := nofun,
           root0 := (Cnt.get_set_ne I.sized _ _ _ hid (F.id_ne_root I.mem)).trans I.root0,
           mtrue := fun _ => ⟨l, I.mem, hself ▸ Nat.succ_ne_zero c⟩, bound := ?_, later := ?_ }
  · intro l' hl'
    by_cases e : l'.id = l.id
    · obtain rfl := F.id_inj hl' I.mem e
      exact hself ▸ leHi_succ_of_ltHi h
    · exact (hget hl' e).symm ▸ I.bound l' hl'
  · intro i l' hi hl'
    have e : l'.id ≠ l.id := fun e => Nat.ne_of_gt hi (F.idx_inj hl' I.hl e)
    exact (hget (List.mem_of_getElem? hl') e).trans (I.later i l' hi hl')

theorem next (I : Inv F j l c m s) (hlo : m = false → l.lo ≤ c) {l2 : LeafSpec} (h2 : ls[j + 1]? = some l2) :
    Inv F (j + 1) l2 0 m { s with idx := s.idx + 1, element := some l2.id, cnt := s.cnt.set l2.id 0 } := by
  have h0 : s.cnt.get l2.id = 0 := I.later (j + 1) l2 (Nat.lt_succ_self j) h2
  -- resetting a counter that is 0 changes nothing
  have hget : ∀ x, (s.cnt.set l2.id 0).get x = s.cnt.get x := by
    intro x
    rw [Cnt.get_set I.sized l2.id 0 x (F.ids_lt l2 (List.mem_of_getElem? h2))]
    split
    · rename_i e; rw [← e, h0]
    · rfl
  refine { hl := h2, stack := I.stack, group := I.group, idx := congrArg (· + 1) I.idx, mtch := I.mtch, elem := rfl,
           fo := I.fo, sized := Cnt.sized_set I.sized _ _, cur := (hget _).trans h0,
           root0 := (hget _).trans I.root0, oid0 := I.oid0,
           bound := fun l' hl' => (hget l'.id).symm ▸ I.bound l' hl',
           later := fun i l' hi hl' => (hget _).trans (I.later i l' (Nat.lt_of_succ_lt hi) hl'),
           mfalse := ?_, mtrue := fun hm => (I.mtrue hm).imp fun l' h => ⟨h.1, (hget l'.id).symm ▸ h.2⟩ }
  intro hm
  obtain ⟨hc, hz⟩ := I.mfalse hm
  refine ⟨rfl, fun l' hl' => ?_⟩
  rw [take_succ_of_getElem? I.hl] at hl'
  rcases List.mem_append.mp hl' with h | h
  · exact hz l' h
  · rw [List.mem_singleton.mp h]
    exact Nat.le_zero.mp (hc ▸ hlo hm)

theorem notOver_root (I : Inv F j l c m s) : isOver A s.cnt root = false := by
  rw [F.isOver_root, I.root0]; rfl

theorem last_iff (I : Inv F j l c m s) : ls.getLast? = some l ↔ ls[j + 1]? = none := by
  have hj := (List.getElem?_eq_some_iff.mp I.hl).1
  rw [List.getLast?_eq_getElem?, List.getElem?_eq_none_iff]
  constructor
  · intro h
    have := F.idx_inj h I.hl rfl
    omega
  · intro h
    rw [show ls.length - 1 = j by omega]; exact I.hl

theorem stop (I : Inv F j l c m s) :
    ∃ s2, stopItem A (depthFuel A + 4) s l.id = .ok (s2, l.id, c, decide (l.lo > c)) ∧
      ((ls[j + 1]? ≠ none ∨ m = false) → s2 = s) ∧
      (ls[j + 1]? = none → m = true → s2.group = root ∧ s2.stack = [] ∧ s2.fuelOut = false ∧
        s2.cnt.get root = 1 ∧ 1 ≤ s2.cnt.getOid root) := by
  cases m with
  | true =>
    have e : stopItem A (depthFuel A + 4) s l.id =
        .ok (seqTail A s l.id, l.id, c, decide (l.lo > (seqTail A s l.id).cnt.get l.id)) := by
      rw [← I.cur]; exact F.stopItem_leaf_matched I.mem (A.size + 5) s I.group I.mtch
    by_cases hlast : ls[j + 1]? = none
    · obtain ⟨b, hb, e2⟩ := F.seqTail_last I.mem s I.group (I.last_iff.mpr hlast) (I.mtrue rfl) I.bound
      have hcur : (seqTail A s l.id).cnt.get l.id = c :=
        (congrArg (fun s => s.cnt.get l.id) e2).trans
          ((Cnt.get_set_ne I.sized _ _ _ F.root_lt (F.id_ne_root I.mem).symm).trans I.cur)
      rw [hcur] at e
      refine ⟨_, e, fun h => h.elim (absurd hlast) nofun, fun _ _ => ?_⟩
      rw [e2]
      refine ⟨I.group, I.stack, I.fo, (Cnt.get_set_self I.sized _ _ F.root_lt).trans (by rw [I.root0]), ?_⟩
      exact ((Cnt.getOid_setOid (Cnt.sized_set I.sized _ _) _ _ _ F.root_lt).trans (if_pos rfl)).symm ▸
        Nat.le_add_left_of_le hb
    · rw [F.seqTail_notLast I.mem s I.group (fun h => hlast (I.last_iff.mp h)), I.cur] at e
      exact ⟨s, e, fun _ => rfl, fun h => absurd h hlast⟩
  | false =>
    obtain ⟨rfl, _⟩ := I.mfalse rfl
    refine ⟨s, F.stopItem_leaf_unmatched I.mem (A.size + 5) s I.group I.stack I.mtch I.cur ?_, fun _ => rfl, fun _ => nofun⟩
    -- nothing counted and `l` is required: the group is missing
    intro hlo
    have hall : ls.all (fun l => l.lo == 0) = false :=
      List.all_eq_false.mpr ⟨l, I.mem, by simpa using hlo⟩
    rw [F.isMissing_root (.inl rfl), I.oid0, I.root0, F.emptiable_root_seq, hall]
    rfl

theorem leafs_all_zero (I : Inv F j l c false s) (hlo : l.lo ≤ c) (h2 : ls[j + 1]? = none) :
    ls.all (fun l => l.lo == 0) = true := by
  have hlen : ls.length ≤ j + 1 := List.getElem?_eq_none_iff.mp h2
  have : ls = ls.take j ++ [l] := by
    rw [← take_succ_of_getElem? I.hl, List.take_of_length_le hlen]
  rw [this, List.all_append]
  have h0 := I.mfalse rfl
  simp only [Bool.and_eq_true, List.all_eq_true, beq_iff_eq, List.mem_singleton, forall_eq]
  exact ⟨h0.2, by omega⟩

/-- `advance` leaving the current element: the tail of `advance(False)` and of `advance(True)` once the
    element is over -/
theorem afterStop (I : Inv F j l c m s) {r : Step}
    (hr : CM.afterStop A (stopItem A (depthFuel A + 4) s l.id) = r) :
    r.st.fuelOut = false ∧ (r.errs = [] ↔ l.lo ≤ c) ∧ (l.lo ≤ c → At F (j + 1) 0 m r.st) := by
  obtain ⟨s2, e, hs2, hs2'⟩ := I.stop
  replace hr : r = advLoop A (8 * A.size + 16) s2 (errs0 l c) := by rw [← hr, e]; rfl
  have hg : (some 1 : Option Nat) ≠ some 0 := nofun
  cases h2 : ls[j + 1]? with
  | some l2 =>
    obtain rfl := hs2 (.inl (h2 ▸ Option.some_ne_none l2))
    obtain rfl := hr.trans (F.advLoop_next_seq hg s2 I.group _ I.notOver_root (by rw [I.idx]; exact h2))
    exact ⟨I.fo, errs0_eq_nil, fun hlo => .leaf l2 (I.next (fun _ => hlo) h2) (.inl rfl)⟩
  | none =>
    have hidx : ls[s.idx]? = none := by rw [I.idx]; exact h2
    have key : advLoop A (8 * A.size + 16) s2 (errs0 l c) = onEnded A s2 (errs0 l c) ∧ s2.group = root ∧
        s2.fuelOut = false ∧ s2.cnt.get root ≤ 1 ∧ (l.lo ≤ c → isMissing A s2.cnt root = false) := by
      cases m with
      | false =>
        -- nothing was matched in the whole visit: `stop_item` on the root raises, and the group is
        -- emptiable when every leaf is
        obtain rfl := hs2 (.inr rfl)
        refine ⟨F.advLoop_end_seq hg s2 I.group I.stack I.mtch _ I.notOver_root hidx, I.group, I.fo,
          I.root0 ▸ Nat.zero_le 1, fun hlo => ?_⟩
        rw [F.isMissing_root (.inl rfl), I.oid0, I.root0, F.emptiable_root_seq, I.leafs_all_zero hlo h2]; rfl
      | true =>
        -- the pass just closed counted the group once: it is over and not missing
        obtain ⟨hgrp, hstk, hfo, hr, ho⟩ := hs2' h2 rfl
        refine ⟨F.advLoop_over (.inl rfl) s2 hgrp hstk _ (by rw [F.isOver_root, hr]; rfl), hgrp, hfo,
          Nat.le_of_eq hr, fun _ => ?_⟩
        rw [F.isMissing_root (.inl rfl)]
        generalize s2.cnt.getOid root = b at ho
        cases b with
        | zero => exact absurd ho (by decide)
        | succ b => rfl
    obtain ⟨hadv, hgrp, hfo, hle, hmiss⟩ := key
    obtain ⟨t, ht, ht0⟩ := onEnded_eq A s2 (errs0 l c)
    obtain rfl := hr.trans (hadv.trans ht)
    refine ⟨hfo, ⟨fun h => errs0_eq_nil.mp (List.append_eq_nil_iff.mp h).1, fun hlo => ?_⟩,
      fun _ => .ended h2 rfl hfo⟩
    have hexc : isExceeded A s2.cnt root = false := by
      rw [F.isExceeded_root, decide_eq_true (show Rx.leHi _ (some 1) from hle)]; rfl
    show errs0 l c ++ t = []
    rw [errs0_eq_nil.mpr hlo, ht0 (by rw [hgrp, F.root_node]; nofun) (hgrp ▸ hmiss hlo) (hgrp ▸ hexc)]; rfl

theorem adv_nomatch (I : Inv F j l c m s) :
    (advance A s false).st.fuelOut = false ∧ ((advance A s false).errs = [] ↔ l.lo ≤ c) ∧
      (l.lo ≤ c → At F (j + 1) 0 m (advance A s false).st) :=
  I.afterStop (advance_nomatch A s I.elem).symm

theorem visitorMatch (I : Inv F j l c m s) (q : QN) :
    visitorMatch A s q = (l.names.contains q && l.hi != some 0) := by
  unfold CM.visitorMatch
  simp only [I.elem, F.leaf_node l I.mem, LeafSpec.node, leafMatches]
  cases h : l.hi == some 0 <;> simp [bne, h]

theorem isOver_incr (I : Inv F j l c m s) :
    isOver A (s.cnt.set l.id (s.cnt.get l.id + 1)) l.id = !ltHi (c + 1) l.hi := by
  rw [F.isOver_leaf I.mem, Cnt.get_set_self I.sized _ _ (F.ids_lt l I.mem), I.cur]

theorem adv_match (I : Inv F j l c m s) :
    advance A s true =
      if !ltHi (c + 1) l.hi then
        CM.afterStop A (stopItem A (depthFuel A + 4) { s with cnt := s.cnt.set l.id (s.cnt.get l.id + 1), mtch := true } l.id)
      else .done { s with cnt := s.cnt.set l.id (s.cnt.get l.id + 1), mtch := true } [] := by
  unfold advance
  simp only [I.elem, I.group, F.root_node, CM.afterStop]
  cases h : ltHi (c + 1) l.hi <;> simp [I.isOver_incr, h]
  rfl

theorem adv_match_stay (I : Inv F j l c m s) (hc : ltHi c l.hi = true) (h : ltHi (c + 1) l.hi = true) :
    (advance A s true).errs = [] ∧ At F j (c + 1) true (advance A s true).st := by
  rw [I.adv_match, h]
  exact ⟨rfl, .leaf l (I.incr hc) (.inr h)⟩

theorem adv_match_leave (I : Inv F j l c m s) (hok : l.okRange = true) (hc : ltHi c l.hi = true)
    (h : ltHi (c + 1) l.hi = false) :
    (advance A s true).errs = [] ∧ At F (j + 1) 0 true (advance A s true).st := by
  obtain ⟨_, herr, hnext⟩ := (I.incr hc).afterStop (I.adv_match.trans (by rw [h]; rfl)).symm
  have hlo := lo_le_of_over hok h
  exact ⟨herr.mpr hlo, hnext hlo⟩

end Inv

end
end XsVerif.CM
