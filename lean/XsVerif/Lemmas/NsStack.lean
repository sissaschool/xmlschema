/-
  Stack discipline of `set_xmlns_context` under the validators' call pattern (C17): the mutual induction over trees.
-/
import XsVerif.Model.NsMapper
import XsVerif.Lemmas.NsMapper
namespace XsVerif.NsMapper.Stack
open XsVerif.NsMapper XsVerif.NsMapper.Map

def Tree.id : Tree → Nat | .node i _ _ _ _ => i

mutual
/-- S: what a reader computes — the declarations in scope of each element are the fold of the xmlns
    declarations on the path root → element over the initial map (`Map.update` = dict.update); the xmlns an
    element hands to the converter are exactly its own declarations (`None` when it has none). -/
def specObs (ns0 : Map) : Tree → List (Nat × Map × Map × Option Xmlns)
  | .node id _ _ decl ch =>
    (id, Map.update ns0 decl, Map.update ns0 decl, if decl.isEmpty then none else some decl)
      :: specObsList (Map.update ns0 decl) ch
def specObsList (ns0 : Map) : List Tree → List (Nat × Map × Map × Option Xmlns)
  | [] => []
  | t :: ts => specObs ns0 t ++ specObsList ns0 ts
end

mutual
def SibDistinct : Tree → Prop
  | .node _ _ _ _ ch => (ch.map Tree.id).Nodup ∧ SibDistinctList ch
def SibDistinctList : List Tree → Prop
  | [] => True
  | t :: ts => SibDistinct t ∧ SibDistinctList ts
end

def Below (L : Nat) (base : List Ctx) : Prop := ∀ c ∈ base, c.level < L

/-- the mapper is "at level L over `base`" with logical maps `(ns0, rev0)`: either they are the current maps,
    or they are saved in a context of an already visited sibling that the next call will pop. -/
def Ready (L : Nat) (base : List Ctx) (ns0 rev0 : Map) (seen : List Nat) (m : Mapper) : Prop :=
  (m.stack = base ∧ m.ns = ns0 ∧ m.rev = rev0) ∨
  (∃ c, m.stack = c :: base ∧ c.level = L ∧ c.ns = ns0 ∧ c.rev = rev0 ∧ c.obj ∈ seen)

theorem popLoop_below {obj L : Nat} {base : List Ctx} (hb : Below L base) (r : Option (Map × Map)) :
    popLoop obj L base r = (base, r, none) := by
  cases base with
  | nil => rfl
  | cons c rest => rw [popLoop, if_pos (hb c List.mem_cons_self)]

/-- state right after the first `set_xmlns_context(elem, L)` of an element -/
def entered (v : Variant) (ns0 rev0 : Map) (base : List Ctx) (id L : Nat) (decl : Xmlns) : Mapper :=
  if decl.isEmpty then { ns := ns0, rev := rev0, stack := base }
  else { ns := Map.update ns0 decl, rev := revUpdate L (repoint v ns0 rev0 decl) decl,
         stack := { obj := id, level := L, xmlns := decl, ns := ns0, rev := rev0 } :: base }

theorem entered_ns (v : Variant) (ns0 rev0 : Map) (base : List Ctx) (id L : Nat) (decl : Xmlns) :
    (entered v ns0 rev0 base id L decl).ns = Map.update ns0 decl := by
  cases decl <;> rfl

theorem setContext_stacked_of_pop {m : Mapper} {obj level : Nat} {stack : List Ctx} {r : Option (Map × Map)}
    (h : popLoop obj level m.stack none = (stack, r, none)) (v : Variant) (decl : Xmlns) :
    setContext v .stacked m obj level decl =
      { m := entered v (r.getD (m.ns, m.rev)).1 (r.getD (m.ns, m.rev)).2 stack obj level decl,
        ret := if decl.isEmpty then none else some decl } := by
  unfold setContext
  rw [h]
  cases r <;> cases decl <;> rfl

theorem setContext_of_found {m : Mapper} {obj level : Nat} {stack : List Ctx} {r : Option (Map × Map)}
    {x : Xmlns} (h : popLoop obj level m.stack none = (stack, r, some x)) (v : Variant) (mode : Mode)
    (decl : Xmlns) :
    (setContext v mode m obj level decl).m = ⟨(r.getD (m.ns, m.rev)).1, (r.getD (m.ns, m.rev)).2, stack⟩ ∧
    (setContext v mode m obj level decl).ret = if x.isEmpty then none else some x := by
  unfold setContext
  rw [h]
  cases r <;> cases x <;> exact ⟨rfl, rfl⟩

theorem Ready.popLoop_eq {L L' id : Nat} {base : List Ctx} {ns0 rev0 : Map} {seen : List Nat} {m : Mapper}
    (hr : Ready L' base ns0 rev0 seen m) (hL : L ≤ L') (hid : L = L' → id ∉ seen) :
    ∃ r, popLoop id L m.stack none = popLoop id L base r ∧ r.getD (m.ns, m.rev) = (ns0, rev0) := by
  rcases hr with ⟨h1, h2, h3⟩ | ⟨c, h1, h2, h3, h4, h5⟩
  · exact ⟨none, by rw [h1], by rw [h2, h3]; rfl⟩
  · refine ⟨some (c.ns, c.rev), ?_, by rw [h3, h4]; rfl⟩
    have hlt : ¬ L > c.level := Nat.not_lt.mpr (by rw [h2]; exact hL)
    have hne : ¬ (L = c.level ∧ c.obj = id) := fun ⟨e1, e2⟩ => hid (e1.trans h2) (e2 ▸ h5)
    rw [h1, popLoop, if_neg hlt, if_neg hne]

theorem enter_spec (v : Variant) {L : Nat} {base : List Ctx} {ns0 rev0 : Map} {seen : List Nat} {m : Mapper}
    (id : Nat) (decl : Xmlns) (hb : Below L base) (hr : Ready L base ns0 rev0 seen m) (hid : id ∉ seen) :
    (setContext v .stacked m id L decl).m = entered v ns0 rev0 base id L decl := by
  obtain ⟨r, hp, hc⟩ := hr.popLoop_eq (Nat.le_refl L) (fun _ => hid)
  rw [popLoop_below hb] at hp
  rw [setContext_stacked_of_pop hp, hc]

theorem entered_stack_below (v : Variant) {L : Nat} {base : List Ctx} (hb : Below L base) (ns0 rev0 : Map)
    (id : Nat) (decl : Xmlns) : Below (L + 1) (entered v ns0 rev0 base id L decl).stack := by
  have hb' : Below (L + 1) base := fun c hc => Nat.lt_succ_of_lt (hb c hc)
  unfold entered
  split
  · exact hb'
  · intro c hc
    rcases List.mem_cons.mp hc with e | e
    · subst e; exact Nat.lt_succ_self L
    · exact hb' c e

/-- the purge call (elements.py:833) after the children -/
theorem exit_spec (v : Variant) {L : Nat} {base : List Ctx} (ns0 rev0 : Map) {seen : List Nat} {m2 : Mapper}
    (id : Nat) (decl : Xmlns) (hb : Below L base)
    (hr : Ready (L + 1) (entered v ns0 rev0 base id L decl).stack (entered v ns0 rev0 base id L decl).ns
      (entered v ns0 rev0 base id L decl).rev seen m2) :
    (setContext v .stacked m2 id L decl).m = entered v ns0 rev0 base id L decl ∧
    (setContext v .stacked m2 id L decl).ret = (if decl.isEmpty then none else some decl) := by
  obtain ⟨r, hp, hc⟩ := hr.popLoop_eq (Nat.le_succ L) (fun e => absurd e (Nat.ne_of_lt (Nat.lt_succ_self L)))
  cases decl with
  | nil =>
    -- nothing was pushed for the element: the loop runs down to `base`
    rw [show (entered v ns0 rev0 base id L []).stack = base from rfl, popLoop_below hb] at hp
    rw [setContext_stacked_of_pop hp, hc]
    exact ⟨rfl, rfl⟩
  | cons d t =>
    rw [show popLoop id L (entered v ns0 rev0 base id L (d :: t)).stack r =
      ((entered v ns0 rev0 base id L (d :: t)).stack, r, some (d :: t)) by
        simp [entered, popLoop]] at hp
    obtain ⟨h1, h2⟩ := setContext_of_found hp v .stacked (d :: t)
    rw [h1, h2, hc]
    exact ⟨rfl, rfl⟩

theorem entered_ready (v : Variant) (ns0 rev0 : Map) (base : List Ctx) (id L : Nat) (decl : Xmlns)
    (seen : List Nat) : Ready L base ns0 rev0 (id :: seen) (entered v ns0 rev0 base id L decl) := by
  unfold entered
  split
  · exact Or.inl ⟨rfl, rfl, rfl⟩
  · exact Or.inr ⟨_, rfl, rfl, rfl, rfl, List.mem_cons_self⟩

theorem ready_mono {L : Nat} {base : List Ctx} {ns0 rev0 : Map} {seen seen' : List Nat} {m : Mapper}
    (h : Ready L base ns0 rev0 seen m) (hs : ∀ x ∈ seen, x ∈ seen') : Ready L base ns0 rev0 seen' m := by
  rcases h with h | ⟨c, h1, h2, h3, h4, h5⟩
  · exact Or.inl h
  · exact Or.inr ⟨c, h1, h2, h3, h4, hs _ h5⟩

def proj (o : Obs) : Nat × Map × Map × Option Xmlns := (o.id, o.nsAtKey, o.nsAtAttrs, o.ret)

/-- the observation `visit` records for an element -/
def obsOf (id L : Nat) (tag : QN) (attrs : List QN) (r1 r3 : SetResult) : Obs :=
  { id, level := L, tag, key := mapQName r1.m tag, nsAtKey := r1.m.ns,
    attrs := attrs.map fun a => (a, mapQName r3.m a),
    attrsR := attrs.map fun a => (a, mapAttr .repaired r3.m a), nsAtAttrs := r3.m.ns,
    ret := r3.ret, revAtKey := r1.m.rev, revAtAttrs := r3.m.rev, fuelOk := r1.fuelOk && r3.fuelOk }

theorem mem_map_graph {α β : Type} {f : α → β} {l : List α} {a : α × β} (h : a ∈ l.map fun x => (x, f x)) :
    a.2 = f a.1 := by
  obtain ⟨x, _, rfl⟩ := List.mem_map.mp h
  rfl

theorem visit_node (v : Variant) (mode : Mode) (L id : Nat) (tag : QN) (attrs : List QN) (decl : Xmlns)
    (ch : List Tree) (m : Mapper) :
    visit v mode L (.node id tag attrs decl ch) m =
      ((setContext v mode (visitList v mode (L + 1) ch (setContext v mode m id L decl).m).1 id L decl).m,
       obsOf id L tag attrs (setContext v mode m id L decl)
         (setContext v mode (visitList v mode (L + 1) ch (setContext v mode m id L decl).m).1 id L decl) ::
       (visitList v mode (L + 1) ch (setContext v mode m id L decl).m).2) := rfl

theorem visitList_cons (v : Variant) (mode : Mode) (L : Nat) (t : Tree) (ts : List Tree) (m : Mapper) :
    visitList v mode L (t :: ts) m =
      ((visitList v mode L ts (visit v mode L t m).1).1,
       (visit v mode L t m).2 ++ (visitList v mode L ts (visit v mode L t m).1).2) := rfl

theorem unseen_tail {α : Type} {f : α → Nat} {x : α} {xs : List α} {seen : List Nat}
    (hn : f x ∉ xs.map f) (hs : ∀ y ∈ x :: xs, f y ∉ seen) : ∀ y ∈ xs, f y ∉ f x :: seen := by
  intro y hy hm
  rcases List.mem_cons.mp hm with e | e
  · exact hn (e ▸ List.mem_map.mpr ⟨y, hy, rfl⟩)
  · exact hs y (List.mem_cons_of_mem _ hy) e

mutual
theorem visit_spec (v : Variant) : ∀ (t : Tree), SibDistinct t → ∀ (L : Nat) (m : Mapper) (base : List Ctx)
    (ns0 rev0 : Map) (seen : List Nat), Below L base → Ready L base ns0 rev0 seen m → Tree.id t ∉ seen →
    Ready L base ns0 rev0 (Tree.id t :: seen) (visit v .stacked L t m).1 ∧
    (visit v .stacked L t m).2.map proj = specObs ns0 t
  | .node id tag attrs decl ch => by
    intro hd L m base ns0 rev0 seen hb hr hid
    have h1 := enter_spec v id decl hb hr hid
    rw [visit_node, h1]
    obtain ⟨hr2, ho2⟩ := visitList_spec v ch hd.2 hd.1 (L + 1) (entered v ns0 rev0 base id L decl) _ _ _ []
      (entered_stack_below v hb ns0 rev0 id decl) (Or.inl ⟨rfl, rfl, rfl⟩) (fun _ _ h => nomatch h)
    obtain ⟨h3, h4⟩ := exit_spec v ns0 rev0 id decl hb hr2
    refine ⟨by rw [h3]; exact entered_ready v ns0 rev0 base id L decl seen, ?_⟩
    rw [List.map_cons, ho2]
    show (id, (setContext v .stacked m id L decl).m.ns, (setContext v .stacked _ id L decl).m.ns,
      (setContext v .stacked _ id L decl).ret) :: _ = _
    rw [h1, h3, h4, entered_ns]
    rfl

theorem visitList_spec (v : Variant) : ∀ (ts : List Tree), SibDistinctList ts → (ts.map Tree.id).Nodup →
    ∀ (L : Nat) (m : Mapper) (base : List Ctx) (ns0 rev0 : Map) (seen : List Nat), Below L base →
    Ready L base ns0 rev0 seen m → (∀ t ∈ ts, Tree.id t ∉ seen) →
    Ready L base ns0 rev0 ((ts.map Tree.id).reverse ++ seen) (visitList v .stacked L ts m).1 ∧
    (visitList v .stacked L ts m).2.map proj = specObsList ns0 ts
  | [] => fun _ _ _ _ _ _ _ _ _ hr _ => ⟨hr, rfl⟩
  | t :: ts => by
    intro hd hn L m base ns0 rev0 seen hb hr hs
    obtain ⟨hn1, hn2⟩ := List.nodup_cons.mp hn
    obtain ⟨hr1, ho1⟩ := visit_spec v t hd.1 L m base ns0 rev0 seen hb hr (hs t List.mem_cons_self)
    obtain ⟨hr2, ho2⟩ := visitList_spec v ts hd.2 hn2 L (visit v .stacked L t m).1 base ns0 rev0
      (Tree.id t :: seen) hb hr1 (unseen_tail hn1 hs)
    rw [visitList_cons, List.map_append, ho1, ho2, List.map_cons, List.reverse_cons, List.append_assoc]
    exact ⟨hr2, rfl⟩
end

end XsVerif.NsMapper.Stack
