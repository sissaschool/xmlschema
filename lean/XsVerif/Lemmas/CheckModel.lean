/-
  The port of `check_model` (Model/CheckModel.lean) without its accumulator: the verdict is that of the pure
  functions `againstErr` / `outerErr`.  Invariant of the `paths` dict: it keeps, for every element
  name seen so far, one entry whose type is the type of every visited element of that name.
-/
import XsVerif.Model.CheckModel

namespace XsVerif.CM
open XsVerif.Wildcard

theorem mem_dictSet (d : List Entry) (en x : Entry) :
    x ∈ dictSet d en ↔ x = en ∨ (x ∈ d ∧ x.key ≠ en.key) := by
  unfold dictSet
  split
  · rename_i hany
    simp only [List.any_eq_true, beq_iff_eq] at hany
    obtain ⟨y0, hy0, hk0⟩ := hany
    simp only [List.mem_map, beq_iff_eq]
    constructor
    · rintro ⟨y, hy, rfl⟩
      by_cases hk : y.key = en.key
      · simp [hk]
      · simp only [hk, if_false]; exact .inr ⟨hy, hk⟩
    · rintro (rfl | ⟨hx, hk⟩)
      · exact ⟨y0, hy0, by simp [hk0]⟩
      · exact ⟨x, hx, by simp [hk]⟩
  · rename_i hany
    simp only [List.any_eq_true, beq_iff_eq, not_exists, not_and] at hany
    simp only [List.mem_append, List.mem_singleton]
    constructor
    · rintro (hx | rfl)
      · exact .inr ⟨hx, hany x hx⟩
      · exact .inl rfl
    · rintro (rfl | ⟨hx, _⟩)
      · exact .inr rfl
      · exact .inl hx

variable (M : Ctx)

/-- the error of stage 2 (models.py:172-180), without the accumulator -/
def Ctx.stage2Err (e : Nat) (cp : List Nat) (pe : Nat) (pp : List Nat) : Option CMErr :=
  if M.distinguishable (pp ++ [pe]) (cp ++ [e]) then none
  else if M.v11 && M.isAny pe && !M.isAny e then none
  else if M.v11 && M.isAny e && !M.isAny pe then none
  else some (.upa pe e)

theorem stage2_snd (e : Nat) (cp : List Nat) (pe : Nat) (pp : List Nat) (acc : Acc) :
    (M.stage2 e cp pe pp acc).2 = M.stage2Err e cp pe pp := by
  simp only [Ctx.stage2, Ctx.stage2Err, apply_ite Prod.snd]

theorem sameKind_of_no_precedence {v a b : Bool} (h1 : (v && a && !b) = false) (h2 : (v && b && !a) = false) :
    v = true → a = b := by
  cases v <;> cases a <;> cases b <;> simp_all

/-- The same-parent shortcuts (models.py:158-170) raise, skip or go on whatever the accumulator. -/
theorem stage1_cases (e : Nat) (cp : List Nat) (pe : Nat) (pp : List Nat) :
    ((∀ acc, M.stage1 e cp pe pp acc = .error (.sameGroup pe e)) ∧ (M.v11 = true → M.isAny pe = M.isAny e)) ∨
    (∀ acc, M.stage1 e cp pe pp acc = .ok none) ∨ (∀ acc, ∃ acc', M.stage1 e cp pe pp acc = .ok (some acc')) := by
  cases hsp : (if M.fx.shared then pp == cp else pp.getLast? == cp.getLast? && pp.getLast?.isSome)
  · exact .inr (.inr fun acc => ⟨acc, by simp only [Ctx.stage1, hsp, Bool.false_eq_true, if_false]⟩)
  cases hk : ((M.node (pp.getLast?.getD 0)).kind == .all || (M.node (pp.getLast?.getD 0)).kind == .choice)
  · cases hu : (M.univocal pe && (!M.fx.repSeq || (M.node (pp.getLast?.getD 0)).hi == some 1))
    · exact .inr (.inr fun acc => ⟨acc, by simp only [Ctx.stage1, hsp, hk, hu, Bool.false_eq_true, if_false, if_true]⟩)
    · exact .inr (.inl fun acc => by simp only [Ctx.stage1, hsp, hk, hu, Bool.false_eq_true, if_false, if_true])
  cases h1 : (M.v11 && M.isAny pe && !M.isAny e)
  · cases h2 : (M.v11 && M.isAny e && !M.isAny pe)
    · exact .inl ⟨fun acc => by simp only [Ctx.stage1, hsp, hk, h1, h2, Bool.false_eq_true, if_false, if_true],
        sameKind_of_no_precedence h1 h2⟩
    · exact .inr (.inr fun acc => ⟨_, by
        simp only [Ctx.stage1, hsp, hk, h1, h2, Bool.false_eq_true, if_false, if_true]; rfl⟩)
  · exact .inr (.inr fun acc => ⟨_, by simp only [Ctx.stage1, hsp, hk, h1, if_true]; rfl⟩)

theorem upaStep_snd (e : Nat) (cp : List Nat) (pe : Nat) (pp : List Nat) (acc acc' : Acc) :
    (M.upaStep e cp pe pp acc).2 = (M.upaStep e cp pe pp acc').2 := by
  unfold Ctx.upaStep
  rcases stage1_cases M e cp pe pp with ⟨h, _⟩ | h | h
  · rw [h acc, h acc']
  · rw [h acc, h acc']
  · obtain ⟨a1, h1⟩ := h acc
    obtain ⟨a2, h2⟩ := h acc'
    rw [h1, h2]
    simp only [stage2_snd]

/-- the error raised for one entry `(pe, pp)` of `paths` -/
def Ctx.pairErr (e : Nat) (cp : List Nat) (pe : Nat) (pp : List Nat) : Option CMErr :=
  if !M.consistent e pe then some (.edc e pe)
  else if (!M.fx.shared && pe == e) || !M.overlap pe e then none
  else (M.upaStep e cp pe pp {}).2

/-- the verdict of the inner loop: the first error of an entry of `paths` -/
def Ctx.againstErr (e : Nat) (cp : List Nat) (d : List Entry) : Option CMErr :=
  d.findSome? fun en => M.pairErr e cp en.leaf en.path

theorem against_snd (e : Nat) (cp : List Nat) : ∀ (d : List Entry) (acc : Acc),
    (M.against e cp d acc).2 = M.againstErr e cp d := by
  intro d
  induction d with
  | nil => intro acc; simp [Ctx.against, Ctx.againstErr]
  | cons en rest ih =>
    intro acc
    unfold Ctx.against
    rw [Ctx.againstErr, List.findSome?_cons, Ctx.pairErr, ← Ctx.againstErr]
    split
    · simp
    · split
      · simp [ih]
      · rw [upaStep_snd M e cp en.leaf en.path {} acc]
        split
        · rename_i h; simp [h]
        · rename_i h; simp [h, ih]

theorem againstErr_eq_none_iff {e : Nat} {cp : List Nat} {d : List Entry} :
    M.againstErr e cp d = none ↔ ∀ en ∈ d, M.pairErr e cp en.leaf en.path = none :=
  List.findSome?_eq_none_iff

theorem againstErr_eq_some {e : Nat} {cp : List Nat} {d : List Entry} {err : CMErr}
    (h : M.againstErr e cp d = some err) : ∃ en ∈ d, M.pairErr e cp en.leaf en.path = some err :=
  List.exists_of_findSome?_eq_some h

/-- the verdict of the outer loop: the first error of a visited particle against the `paths` dict as it stands
    when the particle is visited -/
def Ctx.outerErr : List (Nat × List Nat) → List Entry → Option CMErr
  | [], _ => none
  | (e, cp) :: rest, d => (M.againstErr e cp d).or (Ctx.outerErr rest (dictSet d ⟨M.key e, e, cp⟩))

theorem outer_err : ∀ (l : List (Nat × List Nat)) (d : List Entry) (acc : Acc),
    (M.outer l d acc).err = M.outerErr l d := by
  intro l
  induction l with
  | nil => intro d acc; rfl
  | cons hd rest ih =>
    obtain ⟨e, cp⟩ := hd
    intro d acc
    unfold Ctx.outer Ctx.outerErr
    rw [← against_snd M e cp d acc]
    cases hres : M.against e cp d acc with
    | mk acc' o =>
      cases o with
      | some err => rfl
      | none => exact ih _ acc'

theorem checkModel_err (p : Particle) : (M.checkModel p).err = M.outerErr (M.visited p) [] :=
  outer_err M _ _ _

theorem accepts_iff (p : Particle) : M.accepts p = true ↔ M.outerErr (M.visited p) [] = none := by
  rw [Ctx.accepts, Option.isNone_iff_eq_none, checkModel_err]

theorem against_ok {e : Nat} {cp : List Nat} {d : List Entry} (h : M.againstErr e cp d = none) :
    ∀ en ∈ d, M.consistent e en.leaf = true := by
  intro en hen
  have hp := (againstErr_eq_none_iff M).mp h en hen
  unfold Ctx.pairErr at hp
  cases hc : M.consistent e en.leaf
  · simp [hc] at hp
  · rfl

theorem consistent_same_name (e pe : Nat) (h : M.consistent e pe = true)
    (he : M.isElem e = true) (hpe : M.isElem pe = true)
    (hn : (M.info e).name = (M.info pe).name) : (M.info e).ty = (M.info pe).ty := by
  unfold Ctx.consistent at h
  simp only [he, hpe, Bool.and_self, Bool.not_true, Bool.false_eq_true, if_false] at h
  by_cases hv : (!M.v11 && !M.fx.edc10) = true
  · simp only [hv, if_true, Bool.or_eq_true, bne_iff_ne, beq_iff_eq] at h
    rcases h with h | h
    · exact absurd hn h
    · exact h
  · simp only [hv, Bool.false_eq_true, if_false, hn, beq_self_eq_true, if_true, beq_iff_eq] at h
    exact h

/-- Provided the loop variable of the first search does not leak
    (`fx.edcLoop`), or the XSD 1.0 test that compares the declared names only is in force. -/
theorem consistent_false {e pe : Nat} (hfix : M.fx.edcLoop = true ∨ (M.v11 = false ∧ M.fx.edc10 = false))
    (h : M.consistent e pe = false) :
    M.isElem e = true ∧ M.isElem pe = true ∧
      ∃ d1 ∈ ((M.info e).name, (M.info e).ty) :: (M.info e).subs,
        ∃ d2 ∈ ((M.info pe).name, (M.info pe).ty) :: (M.info pe).subs, d1.1 = d2.1 ∧ d1.2 ≠ d2.2 := by
  unfold Ctx.consistent at h
  by_cases hel : (M.isElem e && M.isElem pe) = true
  · simp only [hel, Bool.not_true, Bool.false_eq_true, if_false] at h
    simp only [Bool.and_eq_true] at hel
    refine ⟨hel.1, hel.2, ?_⟩
    by_cases hv : (!M.v11 && !M.fx.edc10) = true
    · simp only [hv, if_true, Bool.or_eq_false_iff, bne_eq_false_iff_eq, beq_eq_false_iff_ne] at h
      exact ⟨_, List.mem_cons_self, _, List.mem_cons_self, h.1, h.2⟩
    · simp only [hv, Bool.false_eq_true, if_false] at h
      split at h
      · rename_i hn
        exact ⟨_, List.mem_cons_self, _, List.mem_cons_self, by simpa using hn, by simpa using h⟩
      · split at h
        · rename_i e1 hf
          exact ⟨e1, List.mem_cons_of_mem _ (List.mem_of_find?_eq_some hf), _, List.mem_cons_self,
            by simpa using List.find?_some hf, by simpa using h⟩
        · split at h
          · rename_i e2 hf
            have hl : M.fx.edcLoop = true := by
              rcases hfix with hf | ⟨h1, h2⟩
              · exact hf
              · simp [h1, h2] at hv
            have hn : e2.1 = (M.info e).name := by simpa using List.find?_some hf
            exact ⟨_, List.mem_cons_self, e2, List.mem_cons_of_mem _ (List.mem_of_find?_eq_some hf), hn.symm,
              by simpa [hl] using h⟩
          · cases h
  · simp [hel] at h

theorem tableCovers_spec {T : TypeTable} {p : Particle} (h : M.tableCovers T p = true) :
    ∀ i ∈ (M.visited p).map (·.1), M.isElem i = true →
      ∀ d ∈ ((M.info i).name, (M.info i).ty) :: (M.info i).subs, d ∈ declsOf T p := by
  intro i hi he
  simp only [Ctx.tableCovers, List.all_eq_true] at h
  have := h i hi
  simp only [he, Bool.not_true, Bool.false_or, Bool.and_eq_true, List.contains_iff_mem, List.all_eq_true] at this
  simpa using this

/-- invariant of the `paths` dict -/
structure Inv (visited : List Nat) (d : List Entry) : Prop where
  uniq : ∀ x1 ∈ d, ∀ x2 ∈ d, x1.key = x2.key → x1 = x2
  keyed : ∀ x ∈ d, x.key = M.key x.leaf
  cover : ∀ v ∈ visited, M.isElem v = true →
    ∃ x ∈ d, M.isElem x.leaf = true ∧ (M.info x.leaf).name = (M.info v).name ∧ (M.info x.leaf).ty = (M.info v).ty

theorem key_elem {i : Nat} (h : M.isElem i = true) : M.key i = some (M.info i).name := by
  simp [Ctx.key, h]

theorem key_some {i : Nat} {q : QN} (h : M.key i = some q) : M.isElem i = true ∧ (M.info i).name = q := by
  unfold Ctx.key at h
  split at h
  · rename_i he; exact ⟨he, by simpa using h⟩
  · cases h

theorem inv_step (visited : List Nat) (d : List Entry) (e : Nat) (cp : List Nat)
    (hinv : Inv M visited d) (hc : ∀ en ∈ d, M.consistent e en.leaf = true) :
    Inv M (visited ++ [e]) (dictSet d ⟨M.key e, e, cp⟩) := by
  refine ⟨?_, ?_, ?_⟩
  · intro x1 h1 x2 h2 hk
    rcases (mem_dictSet _ _ _).mp h1 with rfl | ⟨h1, k1⟩
    · rcases (mem_dictSet _ _ _).mp h2 with rfl | ⟨_, k2⟩
      · rfl
      · exact absurd hk.symm k2
    · rcases (mem_dictSet _ _ _).mp h2 with rfl | ⟨h2, _⟩
      · exact absurd hk k1
      · exact hinv.uniq x1 h1 x2 h2 hk
  · intro x hx
    rcases (mem_dictSet _ _ _).mp hx with rfl | ⟨hx, _⟩
    · rfl
    · exact hinv.keyed x hx
  · intro v hv hve
    rcases List.mem_append.mp hv with hv | hv
    · obtain ⟨x, hx, hxe, hxn, hxt⟩ := hinv.cover v hv hve
      by_cases hk : x.key = M.key e
      · -- the entry of that name is replaced by `e`, which has the same name and (consistency) type
        have hkx : M.key e = some (M.info x.leaf).name := by
          rw [← hk, hinv.keyed x hx, key_elem M hxe]
        obtain ⟨hee, hen⟩ := key_some M hkx
        have hty := consistent_same_name M e x.leaf (hc x hx) hee hxe hen
        exact ⟨⟨M.key e, e, cp⟩, (mem_dictSet _ _ _).mpr (.inl rfl), hee, hen.trans hxn, hty.trans hxt⟩
      · exact ⟨x, (mem_dictSet _ _ _).mpr (.inr ⟨hx, hk⟩), hxe, hxn, hxt⟩
    · simp only [List.mem_singleton] at hv
      subst hv
      exact ⟨⟨M.key v, v, cp⟩, (mem_dictSet _ _ _).mpr (.inl rfl), hve, rfl, rfl⟩

theorem inv_concl (visited : List Nat) (d : List Entry) (hinv : Inv M visited d) :
    ∀ v1 ∈ visited, ∀ v2 ∈ visited, M.isElem v1 = true → M.isElem v2 = true →
      (M.info v1).name = (M.info v2).name → (M.info v1).ty = (M.info v2).ty := by
  intro v1 h1 v2 h2 e1 e2 hn
  obtain ⟨x1, hx1, xe1, xn1, xt1⟩ := hinv.cover v1 h1 e1
  obtain ⟨x2, hx2, xe2, xn2, xt2⟩ := hinv.cover v2 h2 e2
  have hk : x1.key = x2.key := by
    rw [hinv.keyed x1 hx1, hinv.keyed x2 hx2, key_elem M xe1, key_elem M xe2, xn1, xn2, hn]
  have := hinv.uniq x1 hx1 x2 hx2 hk
  subst this
  exact xt1.symm.trans xt2

theorem outerErr_edc : ∀ (l : List (Nat × List Nat)) (d : List Entry) (visited : List Nat),
    Inv M visited d → M.outerErr l d = none →
    ∀ v1 ∈ visited ++ l.map (·.1), ∀ v2 ∈ visited ++ l.map (·.1), M.isElem v1 = true → M.isElem v2 = true →
      (M.info v1).name = (M.info v2).name → (M.info v1).ty = (M.info v2).ty := by
  intro l
  induction l with
  | nil =>
    intro d visited hinv _
    rw [List.map_nil, List.append_nil]
    exact inv_concl M visited d hinv
  | cons hd rest ih =>
    obtain ⟨e, cp⟩ := hd
    intro d visited hinv h
    obtain ⟨hag, hrest⟩ := Option.or_eq_none_iff.mp h
    rw [List.map_cons, List.append_cons]
    exact ih _ (visited ++ [e]) (inv_step M visited d e cp hinv (against_ok M hag)) hrest

theorem accepts_edc_direct (p : Particle) (h : M.accepts p = true) :
    ∀ v1 ∈ (M.visited p).map (·.1), ∀ v2 ∈ (M.visited p).map (·.1),
      M.isElem v1 = true → M.isElem v2 = true →
      (M.info v1).name = (M.info v2).name → (M.info v1).ty = (M.info v2).ty := by
  have hinv : Inv M [] [] := ⟨fun x hx => (nomatch hx), fun x hx => (nomatch hx), fun v hv => (nomatch hv)⟩
  have := outerErr_edc M (M.visited p) [] [] hinv ((accepts_iff M p).mp h)
  rwa [List.nil_append] at this

theorem lang_of_maxIsZero {σ : Type} {m : Leaf → σ → Bool} {p : Particle} (h : p.maxIsZero = true) {w : List σ}
    (hl : Rx.Lang m p.toRx w) : w = [] := by
  have hr : ∃ r lo, p.toRx = .rep r lo (some 0) := by
    cases p with
    | leaf l lo hi =>
      simp only [Particle.maxIsZero, beq_iff_eq] at h
      subst h
      exact ⟨_, lo, rfl⟩
    | group i k lo hi ps =>
      simp only [Particle.maxIsZero, beq_iff_eq] at h
      subst h
      cases k <;> exact ⟨_, lo, rfl⟩
  obtain ⟨r, lo, hr⟩ := hr
  rw [hr] at hl
  obtain ⟨ws, rfl, _, hhi, _⟩ := hl
  simp only [Rx.leHi, Nat.le_zero, List.length_eq_zero_iff] at hhi
  subst hhi
  rfl

theorem liveLeaves_of_maxIsZero {p : Particle} (h : p.maxIsZero = true) : p.liveLeaves = [] := by
  cases p <;> simp only [Particle.maxIsZero] at h <;> simp [Particle.liveLeaves, h]

section fx
variable (fx' : Fixes)

theorem emptiableF_fx : emptiableF { M with fx := fx' } = emptiableF M := by
  funext fuel
  induction fuel with
  | zero => rfl
  | succ n ih => funext i; simp only [emptiableF, ih]; rfl

theorem anyNonEmptiable_fx : Ctx.anyNonEmptiable { M with fx := fx' } = M.anyNonEmptiable := by
  funext l
  simp only [Ctx.anyNonEmptiable, Ctx.emptiable, emptiableF_fx]

theorem walk_fx : Ctx.walk { M with fx := fx' } = M.walk := by
  funext l
  induction l with
  | nil => rfl
  | cons hd tl ih =>
    funext s
    simp only [Ctx.walk, ih, anyNonEmptiable_fx, Ctx.emptiable, emptiableF_fx]
    rfl

theorem distinguishable_fx : Ctx.distinguishable { M with fx := fx' } = M.distinguishable := by
  funext p1 p2
  simp only [Ctx.distinguishable, walk_fx, anyNonEmptiable_fx]
  rfl

theorem stage2_fx : Ctx.stage2 { M with fx := fx' } = M.stage2 := by
  funext e cp pe pp acc
  simp only [Ctx.stage2, distinguishable_fx]
  rfl

theorem stage1_fx (hs : fx'.shared = M.fx.shared) (hr : fx'.repSeq = M.fx.repSeq) :
    Ctx.stage1 { M with fx := fx' } = M.stage1 := by
  funext e cp pe pp acc
  simp only [Ctx.stage1, hs, hr]
  rfl

theorem checkModel_fx (hs : fx'.shared = M.fx.shared) (hr : fx'.repSeq = M.fx.repSeq)
    (hov : Ctx.overlap { M with fx := fx' } = M.overlap) (hc : Ctx.consistent { M with fx := fx' } = M.consistent)
    (p : Particle) : Ctx.checkModel { M with fx := fx' } p = M.checkModel p := by
  have hag : Ctx.against { M with fx := fx' } = M.against := by
    funext e cp d
    induction d with
    | nil => rfl
    | cons en rest ih =>
      funext acc
      simp only [Ctx.against, Ctx.upaStep, stage1_fx M fx' hs hr, stage2_fx, hov, hc, hs, ih]
  have hout : Ctx.outer { M with fx := fx' } = M.outer := by
    funext l
    induction l with
    | nil => rfl
    | cons hd rest ih =>
      funext d acc
      simp only [Ctx.outer, hag, ih]
      rfl
  simp only [Ctx.checkModel, hout]
  rfl

end fx

theorem overlapEE_plain {s o : Nat} (hs : (M.info s).sgHead = none ∧ (M.info s).subs = [])
    (ho : (M.info o).sgHead = none ∧ (M.info o).subs = []) :
    M.overlapEE s o = ((M.info s).name == (M.info o).name) := by
  cases hv : M.v11 <;> cases hh : M.fx.head10 <;> simp [Ctx.overlapEE, hv, hh, hs.1, hs.2, ho.1, ho.2]

theorem isAny_of_isElem {i : Nat} (h : M.isElem i = true) : M.isAny i = false := by
  simp only [Ctx.isElem, beq_iff_eq] at h
  simp [Ctx.isAny, h]

theorem overlap_plain {s o : Nat} (hse : M.isElem s = true) (hoe : M.isElem o = true)
    (hs : (M.info s).sgHead = none ∧ (M.info s).subs = []) (ho : (M.info o).sgHead = none ∧ (M.info o).subs = []) :
    M.overlap s o = ((M.info s).name == (M.info o).name) := by
  simp only [Ctx.overlap, hse, hoe, if_true, overlapEE_plain M hs ho]

theorem consistent_plain {e pe : Nat} (hs : (M.info e).subs = []) (ho : (M.info pe).subs = []) :
    M.consistent e pe = (!(M.isElem e && M.isElem pe) || (M.info e).name != (M.info pe).name ||
      (M.info e).ty == (M.info pe).ty) := by
  unfold Ctx.consistent
  cases (M.isElem e && M.isElem pe)
  · rfl
  · cases (!M.v11 && !M.fx.edc10) <;> by_cases hn : (M.info e).name = (M.info pe).name <;> simp [hs, ho, hn]

/-- no element declaration of the context heads or is a member of a substitution group -/
def Ctx.plain (M : Ctx) : Bool := M.einfo.toList.all fun o => o.all fun x => x.sgHead.isNone && x.subs.isEmpty

theorem Ctx.plain_info (h : M.plain = true) (i : Nat) : (M.info i).sgHead = none ∧ (M.info i).subs = [] := by
  unfold Ctx.info
  by_cases hi : i < M.einfo.size
  · have hm : M.einfo[i] ∈ M.einfo.toList := Array.mem_toList_iff.mpr (Array.getElem_mem hi)
    have := List.all_eq_true.mp h _ hm
    rw [Array.getD_eq_getD_getElem?, Array.getElem?_eq_getElem hi]
    cases hx : M.einfo[i] with
    | none => exact ⟨rfl, rfl⟩
    | some x => simpa [hx] using this
  · rw [Array.getD_eq_getD_getElem?, Array.getElem?_eq_none (by omega)]
    exact ⟨rfl, rfl⟩

theorem checkModel_fx_plain (h : M.plain = true) (fx' : Fixes) (hs : fx'.shared = M.fx.shared)
    (hr : fx'.repSeq = M.fx.repSeq) (p : Particle) : Ctx.checkModel { M with fx := fx' } p = M.checkModel p := by
  have hpl := M.plain_info h
  apply checkModel_fx M fx' hs hr
  · funext pe e
    unfold Ctx.overlap
    rw [overlapEE_plain M (hpl pe) (hpl e), overlapEE_plain { M with fx := fx' } (hpl pe) (hpl e)]
    rfl
  · funext e pe
    rw [consistent_plain M (hpl e).2 (hpl pe).2, consistent_plain { M with fx := fx' } (hpl e).2 (hpl pe).2]
    rfl

end XsVerif.CM
