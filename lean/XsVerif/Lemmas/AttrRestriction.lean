/-
  C14, layer L (attributes): the lemmas for the three attribute theorems of Props/C14.
  The step for one attribute of the instance is
  `step_mono`: under the three guards (findings C14-F4 / F2 / F5), `o.legacy = false`, `TypeSem` and
  distinct names in the restriction, an attribute outside the xsi namespace that raises no error against the
  derived group raises none against the base group.
  No Mathlib import.
-/
import XsVerif.Model.AttrRestriction
import XsVerif.Lemmas.Attributes
import XsVerif.Props.C16

namespace XsVerif.AttrRestr
open XsVerif.Wildcard XsVerif.Attributes

/-- semantic facts about the simple types that the attribute rules take for granted (C02's business) -/
structure TypeSem (R : RCtx) (s : Sem) : Prop where
  /-- a type derived by restriction accepts a subset of the values -/
  derived_valid : ∀ d b v, R.tyDerived d b = true → s.validT d v = true → s.validT b v = true
  /-- equal normalised fixed values: a value that meets the derived fixed constraint meets the base one -/
  fixed_compat : ∀ d b v df bf, R.tyDerived d b = true → R.norm d df = R.norm b bf →
      s.validT d v = true → (v = df ∨ s.valueEq d v df = true) → (v = bf ∨ s.valueEq b v bf = true)

variable {R : RCtx} {s : Sem} {env : Env} {o : Opts} {B D G : Group} {d b : Decl} {n : QN} {v : String}
  {a bw : AnyAttr}

theorem lookup_cons (x : Decl) (t : List Decl) (n : QN) :
    lookup (x :: t) n = if x.name = n then some x else lookup t n := by
  unfold lookup
  rw [List.find?_cons]
  by_cases h : x.name = n
  · simp [h]
  · have : (x.name == n) = false := by simpa using h
    simp [h, this]

theorem lookup_append_single (base : List Decl) (d : Decl) (n : QN) :
    lookup (base ++ [d]) n = (lookup base n).or (if d.name = n then some d else none) := by
  induction base with
  | nil => simp [lookup_cons]; rfl
  | cons x t ih =>
    rw [List.cons_append, lookup_cons, lookup_cons, ih]
    by_cases hn : x.name = n <;> simp [hn]

theorem lookup_map (g : Decl → Decl) (hg : ∀ b, (g b).name = b.name) (n : QN) (base : List Decl) :
    lookup (base.map g) n = (lookup base n).map g := by
  induction base with
  | nil => rfl
  | cons x t ih =>
    rw [List.map_cons, lookup_cons, lookup_cons, ih, hg]
    by_cases hx : x.name = n
    · rw [if_pos hx, if_pos hx]; rfl
    · rw [if_neg hx, if_neg hx]

/-- one step of `dict.update`: the entry of that name is replaced in place, a new name is appended -/
theorem lookup_update_one (base : List Decl) (d : Decl) (n : QN) :
    lookup (if (lookup base d.name).isSome then base.map (fun b => if b.name == d.name then d else b)
      else base ++ [d]) n = if d.name = n then some d else lookup base n := by
  cases hb : lookup base d.name with
  | none =>
    rw [Option.isSome_none, if_neg Bool.false_ne_true, lookup_append_single]
    by_cases hn : d.name = n
    · rw [if_pos hn, if_pos hn, ← hn, hb]; rfl
    · rw [if_neg hn, if_neg hn, Option.or_none]
  | some b =>
    rw [Option.isSome_some, if_pos rfl, lookup_map _ fun b => by
      show (if b.name == d.name then d else b).name = b.name
      by_cases h : (b.name == d.name) = true
      · rw [if_pos h]; exact (beq_iff_eq.mp h).symm
      · rw [if_neg h]]
    by_cases hn : d.name = n
    · rw [if_pos hn, ← hn, hb, Option.map_some, (lookup_some_mem hb).2, beq_self_eq_true, if_pos rfl]
    · rw [if_neg hn]
      cases hb2 : lookup base n with
      | none => rfl
      | some b2 =>
        have : (b2.name == d.name) = false := by
          rw [(lookup_some_mem hb2).2]; exact beq_false_of_ne (Ne.symm hn)
        rw [Option.map_some, this]; rfl

theorem lookup_updateDecls (ds : List Decl) : ∀ (base : List Decl) (n : QN),
    (ds.map (·.name)).Nodup →
    lookup (updateDecls base ds) n = (lookup ds n).or (lookup base n) := by
  induction ds with
  | nil => intro base n _; rfl
  | cons d ds ih =>
    intro base n hnd
    rw [List.map_cons, List.nodup_cons] at hnd
    unfold updateDecls
    rw [ih _ n hnd.2, lookup_update_one, lookup_cons]
    by_cases hn : d.name = n
    · have hnone : lookup ds n = none :=
        lookup_none_iff.mpr fun y hy hyn => hnd.1 (List.mem_map.mpr ⟨y, hy, hyn.trans hn.symm⟩)
      rw [if_pos hn, if_pos hn, hnone]; rfl
    · rw [if_neg hn, if_neg hn]

theorem lookup_merged_some (hndD : (D.decls.map (·.name)).Nodup)
    (h : lookup D.decls n = some d) : lookup (merged B D).decls n = some d := by
  simp [merged, lookup_updateDecls _ _ _ hndD, h]

theorem lookup_merged_none (hndD : (D.decls.map (·.name)).Nodup)
    (h : lookup D.decls n = none) : lookup (merged B D).decls n = lookup B.decls n := by
  simp [merged, lookup_updateDecls _ _ _ hndD, h]

theorem ite_cons_eq_nil {α : Type} {c : Prop} [Decidable c] {e : α} {l : List α} :
    (if c then [e] else l) = [] ↔ ¬ c ∧ l = [] := by
  by_cases hc : c <;> simp [hc]

theorem accepted_iff : accepted R env B D = true ↔
    (∀ d ∈ D.decls, checkDecl R env B d = []) ∧ checkAny B D = [] := by
  simp only [accepted, check, List.isEmpty_iff, List.append_eq_nil_iff, List.flatMap_eq_nil_iff]

theorem accepted_declErrsR (hacc : accepted R env B D = true)
    (hd : d ∈ D.decls) (hb : lookup B.decls d.name = some b) :
    declErrsR R env B d b = [] := by
  have hc := (accepted_iff.1 hacc).1 d hd
  unfold checkDecl at hc
  rwa [hb] at hc

theorem accepted_undeclared (hacc : accepted R env B D = true)
    (hd : d ∈ D.decls) (hb : lookup B.decls d.name = none) : baseAdmits env B d.name = true := by
  have hc := (accepted_iff.1 hacc).1 d hd
  unfold checkDecl at hc
  rw [hb] at hc
  cases hm : baseAdmits env B d.name with
  | true => rfl
  | false => simp [hm] at hc

theorem isRestriction_pc {a b : Wc} {pa pb : PC} (h : isRestriction a b pa pb = true) :
    restrPC pa pb = true := by
  unfold isRestriction normPair at h
  split at h <;> simp only [isRestrictionCore, Bool.and_eq_true] at h <;> exact h.1.1

theorem accepted_any_some (hacc : accepted R env B D = true)
    {w : AnyAttr} (hw : D.any = some w) :
    ∃ bw, B.any = some bw ∧ isRestriction w.wc bw.wc w.pc bw.pc = true := by
  have h := (accepted_iff.1 hacc).2
  unfold checkAny at h
  rw [hw] at h
  cases hb : B.any with
  | none => simp [hb] at h
  | some bw =>
    refine ⟨bw, rfl, ?_⟩
    simp only [hb] at h
    cases hr : isRestriction w.wc bw.wc w.pc bw.pc with
    | true => rfl
    | false => simp [hr] at h

theorem emptied_not_matches (env : Env) (bw : AnyAttr) (n : QN) (hx : n.ns ≠ xsiNs) :
    anyMatches env (emptied bw) n = false := by
  simp [anyMatches, allows, nsAllowed, emptied, NsC.isAny, NsC.isOther, NsC.elems, mem, hx]

theorem merged_any_matches (hacc : accepted R env B D = true)
    (hx : n.ns ≠ xsiNs) (ha : (merged B D).any = some a)
    (hm : anyMatches env a n = true) :
    ∃ bw, B.any = some bw ∧ restrPC a.pc bw.pc = true ∧ anyMatches env bw n = true := by
  cases hD : D.any with
  | none =>
    simp only [merged, hD] at ha
    cases hb : B.any with
    | none => simp [hb] at ha
    | some bw =>
      simp only [hb, Option.map_some, Option.some.injEq] at ha
      subst ha
      rw [emptied_not_matches env bw n hx] at hm
      cases hm
  | some w =>
    simp only [merged, hD, Option.some.injEq] at ha
    subst ha
    obtain ⟨bw, hb, hr⟩ := accepted_any_some hacc hD
    exact ⟨bw, hb, isRestriction_pc hr,
      XsVerif.Props.C16.restriction_sound _ _ _ _ hr _ _ n hx hm⟩

theorem restrPC_cases {p q : PC} (h : restrPC p q = true) :
    q = .skip ∨ p = q ∨ (p = .strict ∧ q = .lax) := by
  revert h; cases p <;> cases q <;> decide

theorem anyErrs_nil_matches (h : anyErrs s env a n v = []) : anyMatches env a n = true := by
  unfold anyErrs at h
  rw [List.append_eq_nil_iff] at h
  by_cases hm : anyMatches env a n = true
  · exact hm
  · rw [if_neg hm] at h; cases h.1

theorem anyErrs_mono (s : Sem) (env : Env) (w bw : AnyAttr) (n : QN) (v : String)
    (hpc : restrPC w.pc bw.pc = true) (hm : anyMatches env bw n = true)
    (h : anyErrs s env w n v = []) : anyErrs s env bw n v = [] := by
  unfold anyErrs at h ⊢
  rw [List.append_eq_nil_iff] at h ⊢
  refine ⟨by rw [if_pos hm], ?_⟩
  rcases restrPC_cases hpc with hq | hq | ⟨hp, hq⟩
  · rw [hq]; rfl
  · rw [← hq]; exact h.2
  · -- a strict wildcard reports what a lax one does, and the missing declaration or namespace
    have h2 := h.2
    rw [hp] at h2; rw [hq]
    revert h2
    cases env.loaded.contains n.ns with
    | false => intro h2; cases h2
    | true =>
      cases lookup env.globals n with
      | none => intro h2; cases h2
      | some g => exact id

/-- the attribute `(n, v)` is assessed by the wildcard of `G`, and without error -/
def ViaAny (s : Sem) (env : Env) (G : Group) (n : QN) (v : String) : Prop :=
  ∃ a, G.any = some a ∧ anyErrs s env a n v = []

theorem ViaAny.base (hacc : accepted R env B D = true) (hx : n.ns ≠ xsiNs)
    (h : ViaAny s env (merged B D) n v) : ViaAny s env B n v := by
  obtain ⟨a, ha, h⟩ := h
  obtain ⟨bw, hb, hpc, hbm⟩ := merged_any_matches hacc hx ha (anyErrs_nil_matches h)
  exact ⟨bw, hb, anyErrs_mono s env a bw n v hpc hbm h⟩

theorem declErrsR_nil (h : declErrsR R env B d b = []) :
    (typeExempt R d = true ∨ R.tyDerived d.ty b.ty = true) ∧
    (b.use = .required → d.use = .required) ∧
    (b.use = .prohibited → d.use ≠ .prohibited → baseAdmits env B d.name = true) ∧
    (∀ bf, b.fixed = some bf → ∃ df, d.fixed = some df ∧ R.norm d.ty df = R.norm b.ty bf) := by
  unfold declErrsR at h
  simp only [List.append_eq_nil_iff, ite_cons_eq_nil, and_true] at h
  obtain ⟨⟨h1, h2, h3⟩, h4⟩ := h
  refine ⟨?_, fun hb => ?_, fun hb hd => ?_, fun bf hbf => ?_⟩
  · revert h1
    cases typeExempt R d <;> cases R.tyDerived d.ty b.ty <;> decide
  · rw [hb] at h2; revert h2
    cases d.use <;> decide
  · rw [hb] at h3; revert h3 hd
    cases d.use <;> cases baseAdmits env B d.name <;> decide
  · rw [hbf] at h4
    cases hdf : d.fixed with
    | none => simp [hdf] at h4
    | some df => exact ⟨df, rfl, by simpa [hdf] using h4⟩

theorem declErrs_eq_nil : declErrs s d n v = [] ↔
    (∀ f, d.fixed = some f → v = f ∨ s.valueEq d.ty v f = true) ∧ s.validT d.ty v = true := by
  unfold declErrs
  rw [List.append_eq_nil_iff]
  refine and_congr ?_ (by cases s.validT d.ty v <;> simp)
  cases d.fixed with
  | none => simp
  | some f =>
    simp only [ite_cons_eq_nil, and_true, Option.some.injEq, forall_eq', Bool.and_eq_true, bne_iff_ne,
      ne_eq, Bool.not_eq_true', not_and, Bool.not_eq_false]
    exact Decidable.or_iff_not_imp_left.symm

theorem declErrs_mono (hsem : TypeSem R s) (d b : Decl) (n : QN) (v : String)
    (hty : R.tyDerived d.ty b.ty = true)
    (hfix : ∀ bf, b.fixed = some bf → ∃ df, d.fixed = some df ∧ R.norm d.ty df = R.norm b.ty bf)
    (h : declErrs s d n v = []) : declErrs s b n v = [] := by
  rw [declErrs_eq_nil] at h ⊢
  refine ⟨fun bf hbf => ?_, hsem.derived_valid _ _ _ hty h.2⟩
  obtain ⟨df, hdf, hnorm⟩ := hfix bf hbf
  exact hsem.fixed_compat _ _ v df bf hty hnorm h.2 (h.1 df hdf)

theorem anyErrs_noassess (s : Sem) (env : Env) (bw : AnyAttr) (n : QN) (v : String)
    (hm : anyMatches env bw n = true)
    (hpc : (bw.pc == .skip ||
      (bw.pc == .lax && (!env.loaded.contains n.ns || (lookup env.globals n).isNone))) = true) :
    anyErrs s env bw n v = [] := by
  unfold anyErrs
  rw [if_pos hm, List.nil_append]
  revert hpc
  cases bw.pc with
  | skip => intro _; rfl
  | strict => intro h; cases h
  | lax =>
    cases env.loaded.contains n.ns with
    | false => intro _; rfl
    | true =>
      cases lookup env.globals n with
      | none => intro _; rfl
      | some g => intro h; cases h

theorem declaredErrs_prohibited_iff (ho : o.legacy = false) (hp : d.use = .prohibited) :
    declaredErrs s env o G d n v = [] ↔ ViaAny s env G n v := by
  unfold declaredErrs ViaAny
  simp only [hp, beq_self_eq_true, if_true, ho]
  cases G.any with
  | none => simp
  | some a =>
    cases hm : anyMatches env a n with
    | true => simp [hm]
    | false =>
      refine ⟨by simp [hm], fun ⟨_, ha, h⟩ => ?_⟩
      cases ha
      rw [anyErrs_nil_matches h] at hm
      cases hm

theorem declaredErrs_live (hp : d.use ≠ .prohibited) :
    declaredErrs s env o G d n v = declErrs s d n v := by
  unfold declaredErrs
  simp [hp]

theorem stepErrs_some
    (h : lookup G.decls n = some d) : stepErrs s env o G (n, v) = declaredErrs s env o G d n v := by
  simp [stepErrs, h]

theorem stepErrs_none_iff (h : lookup G.decls n = none) (hx : n.ns ≠ xsiNs) :
    stepErrs s env o G (n, v) = [] ↔ ViaAny s env G n v := by
  unfold ViaAny
  cases ha : G.any <;> simp [stepErrs, h, hx, ha]

theorem g1_at (g1 : noAnyExempt R D = true) (hd : d ∈ D.decls)
    (hp : d.use ≠ .prohibited) : typeExempt R d = false := by
  simpa [hp] using List.all_eq_true.mp g1 d hd

theorem g2_at (g2 : noProhibitedThroughWildcard env B D = true)
    (hd : d ∈ D.decls) (hp : d.use = .prohibited) (hb : lookup B.decls d.name = some b)
    (hm : mergedAdmits env B D d.name = true) : b.use = .prohibited := by
  simpa [hp, hb, hm] using List.all_eq_true.mp g2 d hd

theorem baseAdmits_some (h : baseAdmits env B n = true) :
    ∃ bw, B.any = some bw ∧ anyMatches env bw n = true := by
  unfold baseAdmits at h
  cases hb : B.any with
  | none => simp [hb] at h
  | some bw => exact ⟨bw, rfl, by simpa [hb] using h⟩

theorem g3_at (g3 : wildcardDoesNotAssess env B D = true)
    (hd : d ∈ D.decls) (hp : d.use ≠ .prohibited)
    (hb : ∀ b, lookup B.decls d.name = some b → b.use = .prohibited)
    (hadm : baseAdmits env B d.name = true) : ViaAny s env B d.name v := by
  obtain ⟨bw, hbw, hbm⟩ := baseAdmits_some hadm
  refine ⟨bw, hbw, anyErrs_noassess s env bw _ v hbm ?_⟩
  have h := List.all_eq_true.mp g3 d hd
  simp only [Bool.or_eq_true] at h
  rcases h with (h | h) | h
  · exact absurd (by simpa using h) hp
  · cases hl : lookup B.decls d.name with
    | none => rw [hl] at h; cases h
    | some b => rw [hl] at h; simp [hb b hl] at h
  · rwa [hbw] at h

theorem step_both (ho : o.legacy = false)
    (hsem : TypeSem R s) (hacc : accepted R env B D = true)
    (g1 : noAnyExempt R D = true) (g2 : noProhibitedThroughWildcard env B D = true)
    (g3 : wildcardDoesNotAssess env B D = true)
    (hx : n.ns ≠ xsiNs)
    (hD : lookup D.decls n = some d) (hBl : lookup B.decls n = some b)
    (h : declaredErrs s env o (merged B D) d n v = []) : declaredErrs s env o B b n v = [] := by
  obtain ⟨hdm, hdn⟩ := lookup_some_mem hD
  subst hdn
  obtain ⟨c1, -, c3, c4⟩ := declErrsR_nil (accepted_declErrsR hacc hdm hBl)
  by_cases hdp : d.use = .prohibited
  · have hvia := (declaredErrs_prohibited_iff ho hdp).1 h
    obtain ⟨a, ha, hae⟩ := hvia
    have hbp : b.use = .prohibited :=
      g2_at g2 hdm hdp hBl (by rw [mergedAdmits, ha]; exact anyErrs_nil_matches hae)
    exact (declaredErrs_prohibited_iff ho hbp).2 (ViaAny.base hacc hx ⟨a, ha, hae⟩)
  · rw [declaredErrs_live hdp] at h
    by_cases hbp : b.use = .prohibited
    · exact (declaredErrs_prohibited_iff ho hbp).2
        (g3_at g3 hdm hdp (fun b' hb' => by rw [hBl] at hb'; cases hb'; exact hbp) (c3 hbp hdp))
    · rw [declaredErrs_live hbp]
      have hty := c1.resolve_left (by rw [g1_at g1 hdm hdp]; exact Bool.false_ne_true)
      exact declErrs_mono hsem d b _ v hty c4 h

theorem step_derived_only (ho : o.legacy = false)
    (hacc : accepted R env B D = true)
    (g3 : wildcardDoesNotAssess env B D = true)
    (hx : n.ns ≠ xsiNs)
    (hD : lookup D.decls n = some d) (hBl : lookup B.decls n = none)
    (h : declaredErrs s env o (merged B D) d n v = []) : stepErrs s env o B (n, v) = [] := by
  obtain ⟨hdm, hdn⟩ := lookup_some_mem hD
  subst hdn
  refine (stepErrs_none_iff hBl hx).2 ?_
  by_cases hdp : d.use = .prohibited
  · exact ViaAny.base hacc hx ((declaredErrs_prohibited_iff ho hdp).1 h)
  · exact g3_at g3 hdm hdp (fun b' hb' => by rw [hBl] at hb'; cases hb') (accepted_undeclared hacc hdm hBl)

theorem step_base_only (ho : o.legacy = false)
    (hacc : accepted R env B D = true)
    (hx : n.ns ≠ xsiNs)
    (h : declaredErrs s env o (merged B D) b n v = []) : declaredErrs s env o B b n v = [] := by
  by_cases hbp : b.use = .prohibited
  · rw [declaredErrs_prohibited_iff ho hbp] at h ⊢; exact h.base hacc hx
  · rw [declaredErrs_live hbp] at h ⊢; exact h

theorem step_mono (ho : o.legacy = false)
    (hsem : TypeSem R s) (hndD : (D.decls.map (·.name)).Nodup) (hacc : accepted R env B D = true)
    (g1 : noAnyExempt R D = true) (g2 : noProhibitedThroughWildcard env B D = true)
    (g3 : wildcardDoesNotAssess env B D = true)
    (hx : n.ns ≠ xsiNs)
    (h : stepErrs s env o (merged B D) (n, v) = []) : stepErrs s env o B (n, v) = [] := by
  cases hD : lookup D.decls n with
  | some d =>
    rw [stepErrs_some (lookup_merged_some hndD hD)] at h
    cases hBl : lookup B.decls n with
    | some b => rw [stepErrs_some hBl]; exact step_both ho hsem hacc g1 g2 g3 hx hD hBl h
    | none => exact step_derived_only ho hacc g3 hx hD hBl h
  | none =>
    have hml := lookup_merged_none (B := B) hndD hD
    cases hBl : lookup B.decls n with
    | some b =>
      rw [hBl] at hml
      rw [stepErrs_some hml] at h
      rw [stepErrs_some hBl]
      exact step_base_only ho hacc hx h
    | none =>
      rw [hBl] at hml
      exact (stepErrs_none_iff hBl hx).2 (ViaAny.base hacc hx ((stepErrs_none_iff hml hx).1 h))

theorem step_additional (ho : o.legacy = false)
    (hndB : (B.decls.map (·.name)).Nodup)
    (hB : ∀ b ∈ B.decls, ∀ v, constraintOf o b = some v → declErrs s b b.name v = [])
    {A : List Attr} {a : Attr} (ha : a ∈ additional o B A) : stepErrs s env o B a = [] := by
  unfold additional at ha
  obtain ⟨b, hb, hba⟩ := List.mem_filterMap.mp ha
  cases hp : present A b.name with
  | true => simp [hp] at hba
  | false =>
    simp only [hp, Bool.false_eq_true, if_false, Option.map_eq_some_iff] at hba
    obtain ⟨v, hv, rfl⟩ := hba
    have hnp : b.use ≠ .prohibited := by
      intro hbp
      simp [constraintOf, hbp, ho] at hv
    rw [stepErrs_some (lookup_of_nodup hndB hb), declaredErrs_live hnp]
    exact hB b hb v hv

theorem missing_nil_iff {A : List Attr} :
    missing G A = [] ↔ ∀ d ∈ G.decls, d.use = .required → present A d.name = true := by
  unfold missing
  simp only [List.map_eq_nil_iff, List.filter_eq_nil_iff]
  constructor
  · intro h d hd hr
    have := h d hd
    cases hp : present A d.name with
    | true => rfl
    | false => simp [hr, hp] at this
  · intro h d hd
    by_cases hr : d.use = .required
    · simp [h d hd hr]
    · simp [hr]

end XsVerif.AttrRestr
