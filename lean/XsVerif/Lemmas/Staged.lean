/-
  Lemmas for C09 about Model/Staged.lean.  For an acyclic declaration table the staged build computes the
  denotation; for any table a dependency on a name whose build is pending comes back as `circ`.  Further: association
  lists as insertion-ordered dictionaries, dot segments of locations, include de-duplication.
-/
import XsVerif.Model.Staged

namespace XsVerif.Staged

variable {g : Name → Option Decl} {rank : Name → Nat}

theorem set_eq {β : Type} (f : Name → β) (q : Name) (v : β) : set f q v q = v := if_pos rfl

theorem set_ne {β : Type} (f : Name → β) {q x : Name} (v : β) (h : x ≠ q) : set f q v x = f x := if_neg h

theorem den_eq_of_rank (hac : Acyclic g rank) :
    ∀ n m q, rank q < n → rank q < m → den g n q = den g m q := by
  intro n
  induction n with
  | zero => exact fun _ _ h => absurd h (Nat.not_lt_zero _)
  | succ n ih =>
    intro m q hn hm
    cases m with
    | zero => exact absurd hm (Nat.not_lt_zero _)
    | succ m =>
      rw [den, den]
      cases hg : g q with
      | none => rfl
      | some d =>
        refine congrArg _ (List.map_congr_left fun x hx => ?_)
        have hx := hac q d hg x hx
        exact ih m x (Nat.lt_of_lt_of_le hx (Nat.le_of_lt_succ hn)) (Nat.lt_of_lt_of_le hx (Nat.le_of_lt_succ hm))

theorem denote_unfold (hac : Acyclic g rank) (q : Name) :
    denote g rank q = match g q with
      | none => .missing q
      | some d => .ok q d.id (d.deps.map (denote g rank)) := by
  rw [denote, den]
  cases hg : g q with
  | none => rfl
  | some d =>
    exact congrArg _ (List.map_congr_left fun x hx =>
      den_eq_of_rank hac _ _ x (hac q d hg x hx) (Nat.lt_succ_self _))


theorem lookup_circ (n : Nat) {s : State} {q : Name} {d : Decl}
    (h₁ : s.store q = none) (h₂ : s.staging q = some d) (h₃ : s.marked q = true) :
    lookup (n + 1) s q = ({ s with log := .circ q :: s.log }, .circ q) := by
  rw [lookup, h₁, h₂, h₃]
  rfl

theorem lookup_build (n : Nat) {s : State} {q : Name} {d : Decl}
    (h₁ : s.store q = none) (h₂ : s.staging q = some d) (h₃ : s.marked q = false) :
    lookup (n + 1) s q =
      let r := foldDeps (lookup n) { s with marked := set s.marked q true, log := .enter q :: s.log } d.deps
      ({ store := set r.1.store q (some (.ok q d.id r.2)), staging := set r.1.staging q none,
         marked := set r.1.marked q false, log := .exit q :: r.1.log }, .ok q d.id r.2) := by
  rw [lookup, h₁, h₂, h₃]
  rfl

/-- Invariant of the maps during a build of an acyclic table. -/
structure Inv (g : Name → Option Decl) (rank : Name → Nat) (s : State) : Prop where
  stored : ∀ q c, s.store q = some c → c = denote g rank q ∧ g q ≠ none
  staged : ∀ q d, s.staging q = some d → g q = some d
  total : ∀ q d, g q = some d → s.store q ≠ none ∨ s.staging q ≠ none

/-- What one lookup guarantees. -/
structure Post (g : Name → Option Decl) (rank : Name → Nat) (s : State) (q : Name)
    (r : State × Res) : Prop where
  res : r.2 = denote g rank q
  inv : Inv g rank r.1
  marked : ∀ x, r.1.marked x = s.marked x
  mono : ∀ x c, s.store x = some c → r.1.store x = some c
  done : g q ≠ none → r.1.store q = some (denote g rank q)

theorem fold_post (n : Nat)
    (ih : ∀ s q, Inv g rank s → rank q < n → (∀ m, s.marked m = true → rank q < rank m) →
      Post g rank s q (lookup n s q)) :
    ∀ ds s, Inv g rank s →
      (∀ x ∈ ds, rank x < n ∧ ∀ m, s.marked m = true → rank x < rank m) →
      (foldDeps (lookup n) s ds).2 = ds.map (denote g rank) ∧
      Inv g rank (foldDeps (lookup n) s ds).1 ∧
      (∀ x, (foldDeps (lookup n) s ds).1.marked x = s.marked x) ∧
      (∀ x c, s.store x = some c → (foldDeps (lookup n) s ds).1.store x = some c) := by
  intro ds
  induction ds with
  | nil => exact fun _ hs _ => ⟨rfl, hs, fun _ => rfl, fun _ _ h => h⟩
  | cons d ds ihd =>
    intro s hs hds
    have hd := hds d (List.mem_cons_self ..)
    have p := ih s d hs hd.1 hd.2
    obtain ⟨h1, h2, h3, h4⟩ := ihd (lookup n s d).1 p.inv fun x hx =>
      have hx := hds x (List.mem_cons_of_mem _ hx)
      ⟨hx.1, fun m hm => hx.2 m (p.marked m ▸ hm)⟩
    exact ⟨List.cons_eq_cons.2 ⟨p.res, h1⟩, h2, fun x => (h3 x).trans (p.marked x), fun x c hx => h4 x c (p.mono x c hx)⟩

theorem Inv.stored_of_unstaged {s : State} {q : Name} {d : Decl} (hs : Inv g rank s) (hg : g q = some d)
    (h : s.staging q = none) : s.store q = some (denote g rank q) := by
  cases hst : s.store q with
  | none => exact ((hs.total q d hg).elim (absurd hst) (absurd h))
  | some c => exact congrArg some (hs.stored q c hst).1

theorem post_build {s r : State} {q : Name} {d : Decl} {kids : List Res} {log : List Ev}
    (hst : s.store q = none) (hnm : s.marked q = false) (hg : g q = some d)
    (hval : Res.ok q d.id kids = denote g rank q) (h2 : Inv g rank r)
    (h3 : ∀ x, r.marked x = set s.marked q true x) (h4 : ∀ x c, s.store x = some c → r.store x = some c) :
    Post g rank s q
      ({ store := set r.store q (some (.ok q d.id kids)), staging := set r.staging q none,
         marked := set r.marked q false, log := log }, .ok q d.id kids) := by
  refine ⟨hval, ⟨fun x c hx => ?_, fun x dx hx => ?_, fun x dx hgx => ?_⟩, fun x => ?_, fun x c hx => ?_,
    fun _ => (set_eq ..).trans (congrArg _ hval)⟩
  · by_cases hxq : x = q
    · subst hxq
      cases (set_eq ..).symm.trans hx
      exact ⟨hval, hg ▸ nofun⟩
    · exact h2.stored x c ((set_ne _ _ hxq).symm.trans hx)
  · by_cases hxq : x = q
    · subst hxq
      cases (set_eq ..).symm.trans hx
    · exact h2.staged x dx ((set_ne _ _ hxq).symm.trans hx)
  · by_cases hxq : x = q
    · subst hxq
      exact Or.inl fun h => nomatch (set_eq ..).symm.trans h
    · exact (h2.total x dx hgx).imp (fun h e => h ((set_ne _ _ hxq).symm.trans e))
        fun h e => h ((set_ne _ _ hxq).symm.trans e)
  · by_cases hxq : x = q
    · subst hxq
      exact (set_eq ..).trans hnm.symm
    · exact (set_ne _ _ hxq).trans ((h3 x).trans (set_ne _ _ hxq))
  · by_cases hxq : x = q
    · subst hxq
      cases hst.symm.trans hx
    · exact (set_ne _ _ hxq).trans (h4 x c hx)

theorem lookup_post (hac : Acyclic g rank) :
    ∀ n s q, Inv g rank s → rank q < n → (∀ m, s.marked m = true → rank q < rank m) →
      Post g rank s q (lookup n s q) := by
  intro n
  induction n with
  | zero => exact fun _ _ _ h => absurd h (Nat.not_lt_zero _)
  | succ n ih =>
    intro s q hs hn hm
    cases hst : s.store q with
    | some c =>
      have hc := (hs.stored q c hst).1
      rw [lookup, hst]
      exact ⟨hc, ⟨hs.stored, hs.staged, hs.total⟩, fun _ => rfl, fun _ _ h => h, fun _ => hc ▸ hst⟩
    | none =>
      cases hsg : s.staging q with
      | none =>
        have hg : g q = none := by
          cases hgq : g q with
          | none => rfl
          | some d => exact nomatch hst.symm.trans (hs.stored_of_unstaged hgq hsg)
        rw [lookup, hst, hsg]
        refine ⟨?_, ⟨hs.stored, hs.staged, hs.total⟩, fun _ => rfl, fun _ _ h => h, fun h => absurd hg h⟩
        rw [denote_unfold hac, hg]
      | some d =>
        have hg : g q = some d := hs.staged q d hsg
        have hnm : s.marked q = false := by
          cases h : s.marked q with
          | false => rfl
          | true => exact absurd (hm q h) (Nat.lt_irrefl _)
        rw [lookup_build n hst hsg hnm]
        -- inside, `q` carries the circularity marker: its dependencies rank below it and below every pending build
        obtain ⟨h1, h2, h3, h4⟩ := fold_post n ih d.deps
          { s with marked := set s.marked q true, log := Ev.enter q :: s.log } ⟨hs.stored, hs.staged, hs.total⟩
          fun x hx => by
            have hlt := hac q d hg x hx
            refine ⟨Nat.lt_of_lt_of_le hlt (Nat.le_of_lt_succ hn), fun m hmm => ?_⟩
            by_cases hmq : m = q
            · exact hmq ▸ hlt
            · exact Nat.lt_trans hlt (hm m ((set_ne _ true hmq).symm.trans hmm))
        exact post_build hst hnm hg ((congrArg _ h1).trans (by rw [denote_unfold hac q, hg])) h2 h3 h4

theorem buildAll_post (hac : Acyclic g rank) (n : Nat) (hn : ∀ q, rank q < n) :
    ∀ order s, Inv g rank s → (∀ m, s.marked m = false) →
      Inv g rank (buildAll n s order) ∧ (∀ m, (buildAll n s order).marked m = false) ∧
      (∀ x c, s.store x = some c → (buildAll n s order).store x = some c) ∧
      (∀ q ∈ order, g q ≠ none → (buildAll n s order).store q = some (denote g rank q)) := by
  intro order
  induction order with
  | nil => exact fun _ hs hm => ⟨hs, hm, fun _ _ h => h, nofun⟩
  | cons q qs ih =>
    intro s hs hm
    rw [buildAll]
    split
    · have p := lookup_post hac n s q hs (hn q) fun m h => absurd ((hm m).symm.trans h) nofun
      obtain ⟨i1, i2, i3, i4⟩ := ih _ p.inv fun m => (p.marked m).trans (hm m)
      refine ⟨i1, i2, fun x c hx => i3 x c (p.mono x c hx), fun x hx hg => ?_⟩
      rcases List.mem_cons.1 hx with rfl | hx
      · exact i3 _ _ (p.done hg)
      · exact i4 x hx hg
    · next hst =>
      obtain ⟨i1, i2, i3, i4⟩ := ih s hs hm
      refine ⟨i1, i2, i3, fun x hx hg => ?_⟩
      rcases List.mem_cons.1 hx with rfl | hx
      · obtain ⟨d, hgx⟩ := Option.ne_none_iff_exists'.1 hg
        exact i3 _ _ (hs.stored_of_unstaged hgx (Option.not_isSome_iff_eq_none.1 hst))
      · exact i4 x hx hg

theorem initState_store (pre : Name → Bool) (g : Name → Option Decl) (q : Name) :
    (initState pre g).store q = if pre q then (g q).map (fun d => Res.ok q d.id []) else none := rfl

theorem initState_staging (pre : Name → Bool) (g : Name → Option Decl) (q : Name) :
    (initState pre g).staging q = if pre q then none else g q := rfl

theorem initState_inv (hac : Acyclic g rank) (pre : Name → Bool)
    (hpre : ∀ q d, pre q = true → g q = some d → d.deps = []) :
    Inv g rank (initState pre g) := by
  refine ⟨fun q c h => ?_, fun q d h => ?_, fun q d hg => ?_⟩
  · rw [initState_store] at h
    split at h
    · next hp =>
      obtain ⟨d, hg, rfl⟩ := Option.map_eq_some_iff.1 h
      refine ⟨?_, hg ▸ nofun⟩
      rw [denote_unfold hac, hg]
      exact (congrArg (fun l => Res.ok q d.id (l.map (denote g rank))) (hpre q d hp hg)).symm
    · cases h
  · rw [initState_staging] at h
    split at h
    · cases h
    · exact h
  · rw [initState_store, initState_staging, hg]
    split
    · exact Or.inl nofun
    · exact Or.inr nofun

theorem buildAll_store (hac : Acyclic g rank) (n : Nat) (hn : ∀ q, rank q < n)
    (s : State) (hs : Inv g rank s) (hm : ∀ m, s.marked m = false) (order : List Name)
    (hcov : ∀ q d, s.staging q = some d → q ∈ order) (q : Name) :
    (buildAll n s order).store q = (g q).map (fun _ => denote g rank q) := by
  obtain ⟨i1, _, i3, i4⟩ := buildAll_post hac n hn order s hs hm
  cases hg : g q with
  | none =>
    cases h : (buildAll n s order).store q with
    | none => rfl
    | some c => exact absurd hg (i1.stored q c h).2
  | some d =>
    cases hsg : s.staging q with
    | none => exact i3 q _ (hs.stored_of_unstaged hg hsg)
    | some d' => exact i4 q (hcov q d' hsg) (hg ▸ nofun)

/-- on-demand lookups (`maps.types[name]` before `build`) keep the invariant -/
def lookups (n : Nat) : State → List Name → State
  | s, [] => s
  | s, q :: qs => lookups n (lookup n s q).1 qs

theorem lookups_inv (hac : Acyclic g rank) (n : Nat) (hn : ∀ q, rank q < n) :
    ∀ qs s, Inv g rank s → (∀ m, s.marked m = false) →
      Inv g rank (lookups n s qs) ∧ (∀ m, (lookups n s qs).marked m = false) := by
  intro qs
  induction qs with
  | nil => exact fun _ hs hm => ⟨hs, hm⟩
  | cons q qs ih =>
    intro s hs hm
    have p := lookup_post hac n s q hs (hn q) fun m h => absurd ((hm m).symm.trans h) nofun
    exact ih _ p.inv fun m => (p.marked m).trans (hm m)

theorem lookup_staging_none (x : Name) :
    ∀ k s a, s.staging x = none → (lookup k s a).1.staging x = none := by
  intro k
  induction k with
  | zero => exact fun _ _ h => h
  | succ k ihk =>
    intro s a h
    have hf : ∀ ds s, s.staging x = none → (foldDeps (lookup k) s ds).1.staging x = none := by
      intro ds
      induction ds with
      | nil => exact fun _ h => h
      | cons e ds ihd => exact fun s h => ihd _ (ihk s e h)
    unfold lookup
    split
    · exact h
    · split
      · exact h
      · split
        · exact h
        · by_cases hxa : x = a
          · exact hxa ▸ set_eq ..
          · exact (set_ne _ _ hxa).trans (hf _ _ h)

theorem lookups_staging_none (x : Name) (n : Nat) :
    ∀ qs s, s.staging x = none → (lookups n s qs).staging x = none := by
  intro qs
  induction qs with
  | nil => exact fun _ h => h
  | cons a qs ih => exact fun s h => ih _ (lookup_staging_none x n s a h)


/-- what any lookup preserves about a name `q` whose circularity marker is set: it stays marked, staged and
    unbuilt (nobody but the pending build of `q` itself touches it) -/
structure Keeps (q : Name) (s s' : State) : Prop where
  marked : s'.marked q = true
  store : s'.store q = none
  staging : s'.staging q = s.staging q

theorem fold_keeps (q : Name) (f : State → Name → State × Res)
    (hf : ∀ s x, s.marked q = true → s.store q = none → Keeps q s (f s x).1) :
    ∀ ds s, s.marked q = true → s.store q = none → Keeps q s (foldDeps f s ds).1 := by
  intro ds
  induction ds with
  | nil => exact fun _ hm hs => ⟨hm, hs, rfl⟩
  | cons d ds ih =>
    intro s hm hs
    have k1 := hf s d hm hs
    have k2 := ih (f s d).1 k1.marked k1.store
    exact ⟨k2.marked, k2.store, k2.staging.trans k1.staging⟩

theorem lookup_keeps (q : Name) :
    ∀ n s x, s.marked q = true → s.store q = none → Keeps q s (lookup n s x).1 := by
  intro n
  induction n with
  | zero => exact fun _ _ hm hs => ⟨hm, hs, rfl⟩
  | succ n ih =>
    intro s x hm hs
    unfold lookup
    split
    · exact ⟨hm, hs, rfl⟩
    · split
      · exact ⟨hm, hs, rfl⟩
      · next d _ =>
        split
        · exact ⟨hm, hs, rfl⟩
        · next hx =>
          have hxq : q ≠ x := fun h => hx (h ▸ hm)
          have k := fold_keeps q (lookup n) ih d.deps
            { s with marked := set s.marked x true, log := Ev.enter x :: s.log }
            ((set_ne _ _ hxq).trans hm) hs
          exact ⟨(set_ne _ _ hxq).trans k.marked, (set_ne _ _ hxq).trans k.store, (set_ne _ _ hxq).trans k.staging⟩

theorem fold_reports (q : Name) (n : Nat) (d : Decl) :
    ∀ ds s, s.marked q = true → s.store q = none → s.staging q = some d → q ∈ ds →
      Res.circ q ∈ (foldDeps (lookup (n + 1)) s ds).2 := by
  intro ds
  induction ds with
  | nil => exact fun _ _ _ _ h => nomatch h
  | cons x ds ih =>
    intro s hm hs hg hq
    rw [foldDeps]
    by_cases hx : x = q
    · rw [hx, lookup_circ n hs hg hm]
      exact List.mem_cons_self ..
    · have k := lookup_keeps q (n + 1) s x hm hs
      exact List.mem_cons_of_mem _ (ih _ k.marked k.store (k.staging.trans hg)
        ((List.mem_cons.1 hq).resolve_left (Ne.symm hx)))

/-- a dependency on a name whose build is pending — an enclosing build, or this very one — comes back as `circ` -/
theorem pending_reported (n : Nat) (s : State) (x q : Name) (dx dq : Decl)
    (hx₁ : s.store x = none) (hx₂ : s.staging x = some dx) (hx₃ : s.marked x = false)
    (hq₁ : s.store q = none) (hq₂ : s.staging q = some dq) (hq₃ : q = x ∨ s.marked q = true)
    (hq : q ∈ dx.deps) :
    ∃ kids, (lookup (n + 2) s x).2 = .ok x dx.id kids ∧ Res.circ q ∈ kids := by
  rw [lookup_build (n + 1) hx₁ hx₂ hx₃]
  refine ⟨_, rfl, fold_reports q n dq dx.deps _ ?_ hq₁ hq₂ hq⟩
  rcases hq₃ with rfl | hq₃
  · exact set_eq ..
  · have hne : q ≠ x := fun e => Bool.false_ne_true (hx₃.symm.trans (e ▸ hq₃))
    exact (set_ne _ _ hne).trans hq₃


section Assoc
variable {α β : Type} [BEq α] [LawfulBEq α]

theorem lookup_cons' [DecidableEq α] (p : α × β) (l : List (α × β)) (q : α) :
    (p :: l).lookup q = if q = p.1 then some p.2 else l.lookup q := by
  rw [List.lookup_cons]
  by_cases h : q = p.1
  · rw [if_pos h, beq_iff_eq.2 h]
  · rw [if_neg h, beq_eq_false_iff_ne.2 h]

theorem lookup_snoc [DecidableEq α] (l : List (α × β)) (p : α × β) (q : α) :
    (l ++ [p]).lookup q = (l.lookup q).or (if q = p.1 then some p.2 else none) := by
  rw [List.lookup_append, lookup_cons', List.lookup_nil]

theorem lookup_mem {l : List (α × β)} {q : α} {d : β} (h : l.lookup q = some d) : (q, d) ∈ l := by
  obtain ⟨l₁, l₂, rfl, _⟩ := List.lookup_eq_some_iff.1 h
  exact List.mem_append_right _ (List.mem_cons_self ..)

theorem lookup_mem_keys {l : List (α × β)} {q : α} {d : β}
    (h : l.lookup q = some d) : q ∈ l.map (·.1) :=
  List.mem_map_of_mem (f := (·.1)) (lookup_mem h)

theorem lookup_eq_some_iff_mem [DecidableEq α] {l : List (α × β)} (hnd : (l.map (·.1)).Nodup)
    (q : α) (d : β) : l.lookup q = some d ↔ (q, d) ∈ l := by
  induction l with
  | nil => exact ⟨nofun, nofun⟩
  | cons p l ih =>
    have hnd := List.nodup_cons.1 hnd
    refine ⟨lookup_mem, fun h => ?_⟩
    rw [lookup_cons']
    rcases List.mem_cons.1 h with rfl | h
    · exact if_pos rfl
    · have hne : q ≠ p.1 := fun e => hnd.1 (List.mem_map.2 ⟨_, h, e⟩)
      rw [if_neg hne]
      exact (ih hnd.2).2 h

theorem perm_lookup [DecidableEq α] {l₁ l₂ : List (α × β)} (hp : l₁.Perm l₂)
    (hnd : (l₁.map (·.1)).Nodup) (q : α) : l₁.lookup q = l₂.lookup q := by
  refine Option.ext fun d => ?_
  rw [lookup_eq_some_iff_mem hnd, lookup_eq_some_iff_mem ((hp.map (·.1)).nodup hnd), hp.mem_iff]

end Assoc


theorem loadOne_dup (st : LState) (q : Name) (d d' : Decl) (h : st.staged.lookup q = some d)
    (hne : d.id ≠ d'.id) : q ∈ (loadOne st (q, d')).errors := by
  simp only [loadOne, h, hne, if_false]
  exact List.mem_append_right _ (List.mem_singleton_self q)

theorem loadOne_errors_grow (st : LState) (p : Name × Decl) (q : Name) (h : q ∈ st.errors) :
    q ∈ (loadOne st p).errors := by
  unfold loadOne
  split
  · exact h
  · split
    · exact h
    · exact List.mem_append_left _ h

theorem loadOne_lookup (st : LState) (p : Name × Decl) (q : Name) :
    (loadOne st p).staged.lookup q = (st.staged.lookup q).or (if q = p.1 then some p.2 else none) := by
  unfold loadOne
  cases hp : st.staged.lookup p.1 with
  | none => exact lookup_snoc ..
  | some d =>
    have : (if d.id = p.2.id then st else { st with errors := st.errors ++ [p.1] }).staged = st.staged := by
      split <;> rfl
    rw [this]
    by_cases hq : q = p.1
    · rw [hq, hp]; rfl
    · rw [if_neg hq, Option.or_none]

theorem foldl_loadOne_lookup (l : List (Name × Decl)) : ∀ (st : LState) (q : Name),
    (l.foldl loadOne st).staged.lookup q = (st.staged.lookup q).or (l.lookup q) := by
  induction l with
  | nil => exact fun _ _ => (Option.or_none ..).symm
  | cons p l ih =>
    intro st q
    rw [List.foldl_cons, ih, loadOne_lookup, Option.or_assoc, lookup_cons']
    split <;> rfl

theorem loadAll_lookup (l : List (Name × Decl)) (q : Name) :
    (loadAll l).staged.lookup q = l.lookup q :=
  foldl_loadOne_lookup l _ q

theorem foldl_loadOne_errors (l : List (Name × Decl)) : ∀ (st : LState),
    (l.map (·.1)).Nodup → (∀ p ∈ l, st.staged.lookup p.1 = none) → (l.foldl loadOne st).errors = st.errors := by
  induction l with
  | nil => exact fun _ _ _ => rfl
  | cons p l ih =>
    intro st hnd hnone
    have hnd := List.nodup_cons.1 hnd
    have hp := hnone p (List.mem_cons_self ..)
    have hone : loadOne st p = { st with staged := st.staged ++ [p] } := by
      rw [loadOne, hp]
    rw [List.foldl_cons, hone, ih _ hnd.2]
    intro p' hp'
    have hne : p'.1 ≠ p.1 := fun h => hnd.1 (List.mem_map.2 ⟨p', hp', h⟩)
    rw [lookup_snoc, hnone p' (List.mem_cons_of_mem _ hp'), if_neg hne]
    rfl


theorem normGo_append (l₁ l₂ : List String) :
    ∀ acc, normGo acc (l₁ ++ l₂) = normGo (normGo acc l₁).reverse l₂ := by
  induction l₁ with
  | nil => intro acc; rw [List.nil_append, normGo, List.reverse_reverse]
  | cons s l ih =>
    intro acc
    rw [List.cons_append, normGo, normGo]
    split
    · exact ih acc
    · split <;> exact ih _

theorem normGo_plain (l : List String) (hl : ∀ s ∈ l, Plain s) :
    ∀ acc, normGo acc l = acc.reverse ++ l := by
  induction l with
  | nil => exact fun acc => (List.append_nil _).symm
  | cons s l ih =>
    intro acc
    obtain ⟨h1, h2, h3⟩ := hl s (List.mem_cons_self ..)
    rw [normGo, if_neg (not_or.2 ⟨h1, h2⟩), if_neg h3, ih fun x hx => hl x (List.mem_cons_of_mem _ hx),
      List.reverse_cons, List.append_assoc]
    rfl

theorem normSegs_under {dir : List String} (hd : ∀ s ∈ dir, Plain s) (l : List String) :
    normSegs (dir ++ l) = normGo dir.reverse l := by
  rw [normSegs, normGo_append, normGo_plain dir hd]
  rfl

theorem normGo_is_plain (l : List String) :
    ∀ acc, (∀ s ∈ acc, Plain s) → ∀ s ∈ normGo acc l, Plain s := by
  induction l with
  | nil => exact fun acc h s hs => h s (List.mem_reverse.1 hs)
  | cons x l ih =>
    intro acc h
    rw [normGo]
    split
    · exact ih acc h
    · next h1 =>
      split
      · exact ih _ fun s hs => h s (List.mem_of_mem_tail hs)
      · next h2 =>
        refine ih _ fun s hs => ?_
        rcases List.mem_cons.1 hs with rfl | hs
        · exact ⟨fun e => h1 (Or.inl e), fun e => h1 (Or.inr e), h2⟩
        · exact h s hs


theorem includeGo_cons (docs : List Doc) (n : Nat) (visited : List (List String)) (k : List String)
    (todo : List (List String)) :
    includeGo docs (n + 1) visited (k :: todo) =
      if k ∈ visited then includeGo docs n visited todo
      else match (findDoc docs k).map resolvedIncludes with
        | none => includeGo docs n visited todo
        | some incs => includeGo docs n (visited ++ [k]) (incs ++ todo) := by
  rw [includeGo]
  cases findDoc docs k <;> rfl

theorem includeGo_induct (docs : List Doc) (P : List (List String) → Prop)
    (hP : ∀ v k, P v → k ∉ v → P (v ++ [k])) :
    ∀ n visited todo, P visited → P (includeGo docs n visited todo) := by
  intro n
  induction n with
  | zero => exact fun _ _ h => h
  | succ n ih =>
    intro v todo h
    cases todo with
    | nil => exact h
    | cons k todo =>
      rw [includeGo_cons]
      split
      · exact ih _ _ h
      · next hk =>
        split
        · exact ih _ _ h
        · exact ih _ _ (hP v k h hk)

theorem includeGo_nodup (docs : List Doc) :
    ∀ n visited todo, visited.Nodup → (includeGo docs n visited todo).Nodup :=
  includeGo_induct docs _ fun _ k hv hk =>
    List.nodup_append.2 ⟨hv, List.pairwise_singleton _ k, fun _ ha _ hb => fun e => hk (List.mem_singleton.1 hb ▸ e ▸ ha)⟩

theorem includeGo_prefix (docs : List Doc) (n : Nat) (visited todo : List (List String)) :
    visited <+: includeGo docs n visited todo :=
  includeGo_induct docs (visited <+: ·) (fun v k hv _ => hv.trans (List.prefix_append v [k])) n visited todo
    (List.prefix_refl _)


/-- two descriptions of the same documents: same keys, same RESOLVED include locations (the spelled locations
    and the directories they are relative to may differ) -/
def SameResolved (d₁ d₂ : Doc) : Prop := d₁.key = d₂.key ∧ resolvedIncludes d₁ = resolvedIncludes d₂

/-- document lists that describe the same documents position by position -/
inductive AllSame : List Doc → List Doc → Prop
  | nil : AllSame [] []
  | cons {d₁ d₂ l₁ l₂} : SameResolved d₁ d₂ → AllSame l₁ l₂ → AllSame (d₁ :: l₁) (d₂ :: l₂)

theorem findDoc_sameResolved {l₁ l₂ : List Doc} (h : AllSame l₁ l₂) (k : List String) :
    (findDoc l₁ k).map resolvedIncludes = (findDoc l₂ k).map resolvedIncludes := by
  induction h with
  | nil => rfl
  | @cons d₁ d₂ _ _ hd _ ih =>
    unfold findDoc at ih ⊢
    rw [List.find?_cons, List.find?_cons, ← hd.1]
    cases decide (d₁.key = k) with
    | true => exact congrArg some hd.2
    | false => exact ih

theorem includeGo_sameResolved (l₁ l₂ : List Doc) (h : AllSame l₁ l₂) :
    ∀ n visited todo, includeGo l₁ n visited todo = includeGo l₂ n visited todo := by
  intro n
  induction n with
  | zero => exact fun _ _ => rfl
  | succ n ih =>
    intro v todo
    cases todo with
    | nil => rfl
    | cons k todo =>
      rw [includeGo_cons, includeGo_cons, findDoc_sameResolved h k]
      split
      · exact ih _ _
      · split <;> exact ih _ _

end XsVerif.Staged
