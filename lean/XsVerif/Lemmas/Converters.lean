/-
  Helper lemmas for C05 (converters): insertion-ordered dicts, string prefixes and xmlns keys, cdata numbering.
-/
import XsVerif.Model.Converters

namespace XsVerif.Conv

theorem dictSet_append (d e : List (String × J)) (k : String) (v : J) (h : ∀ kv ∈ d, kv.1 ≠ k) :
    dictSet (d ++ e) k v = d ++ dictSet e k v := by
  induction d with
  | nil => rfl
  | cons a d ih =>
    have h1 : (a.1 == k) = false := beq_eq_false_iff_ne.mpr (h a List.mem_cons_self)
    rw [List.cons_append, dictSet, h1, ih fun kv hkv => h kv (List.mem_cons_of_mem _ hkv)]
    rfl

theorem dictGet?_append (d e : List (String × J)) (k : String) (h : ∀ kv ∈ d, kv.1 ≠ k) :
    dictGet? (d ++ e) k = dictGet? e k := by
  induction d with
  | nil => rfl
  | cons a d ih =>
    have h1 : (a.1 == k) = false := beq_eq_false_iff_ne.mpr (h a List.mem_cons_self)
    rw [List.cons_append, dictGet?, h1, ih fun kv hkv => h kv (List.mem_cons_of_mem _ hkv)]
    rfl

theorem dictSet_fresh (d : List (String × J)) (k : String) (v : J)
    (h : ∀ kv ∈ d, kv.1 ≠ k) : dictSet d k v = d ++ [(k, v)] := by
  have := dictSet_append d [] k v h
  rwa [List.append_nil] at this

theorem dictGet?_none (d : List (String × J)) (k : String) (h : ∀ kv ∈ d, kv.1 ≠ k) : dictGet? d k = none := by
  have := dictGet?_append d [] k h
  rwa [List.append_nil] at this

theorem dictGet?_snoc_self (d : List (String × J)) (k : String) (v : J) (h : ∀ kv ∈ d, kv.1 ≠ k) :
    dictGet? (d ++ [(k, v)]) k = some v := by
  rw [dictGet?_append d _ k h, dictGet?, beq_self_eq_true]
  rfl

theorem dictSet_snoc_self (d : List (String × J)) (k : String) (v w : J) (h : ∀ kv ∈ d, kv.1 ≠ k) :
    dictSet (d ++ [(k, v)]) k w = d ++ [(k, w)] := by
  rw [dictSet_append d _ k w h, dictSet, beq_self_eq_true]
  rfl

theorem dictUpdate_cons (d : List (String × J)) (a : String × J) (l : List (String × J)) :
    dictUpdate d (a :: l) = dictUpdate (dictSet d a.1 a.2) l := rfl

theorem dictUpdate_fresh (l d : List (String × J))
    (hf : ∀ kv ∈ l, ∀ kv' ∈ d, kv'.1 ≠ kv.1) (hn : (l.map (·.1)).Nodup) :
    dictUpdate d l = d ++ l := by
  induction l generalizing d with
  | nil => exact (List.append_nil d).symm
  | cons a l ih =>
    rw [List.map_cons, List.nodup_cons] at hn
    rw [dictUpdate_cons, dictSet_fresh d a.1 a.2 (hf a List.mem_cons_self), ih _ ?_ hn.2, List.append_assoc]
    · rfl
    · intro kv hkv kv' hkv'
      rcases List.mem_append.mp hkv' with h | h
      · exact hf kv (List.mem_cons_of_mem _ hkv) kv' h
      · cases List.mem_singleton.mp h
        exact fun he => hn.1 (List.mem_map.mpr ⟨kv, hkv, he.symm⟩)

theorem dictUpdate_nil (l : List (String × J)) (hn : (l.map (·.1)).Nodup) : dictUpdate [] l = l :=
  (dictUpdate_fresh l [] (fun _ _ _ h => nomatch h) hn).trans (List.nil_append l)

theorem dictSet_mem_same (d : List (String × J)) (k : String) (v : J)
    (hn : (d.map (·.1)).Nodup) (hm : (k, v) ∈ d) : dictSet d k v = d := by
  obtain ⟨pre, post, rfl⟩ := List.append_of_mem hm
  rw [dictSet_append pre _ k v, dictSet, beq_self_eq_true]
  · rfl
  · intro kv hkv he
    rw [List.map_append, List.map_cons, List.nodup_append] at hn
    exact hn.2.2 kv.1 (List.mem_map_of_mem hkv) k List.mem_cons_self he

theorem dictUpdate_append_same (d l l' : List (String × J)) (hf : ∀ kv ∈ l, ∀ kv' ∈ d, kv'.1 ≠ kv.1)
    (hn : (l.map (·.1)).Nodup) (hs : ∀ kv ∈ l', kv ∈ l) : dictUpdate (d ++ l) l' = d ++ l := by
  induction l' with
  | nil => rfl
  | cons a l' ih =>
    have ha := hs a List.mem_cons_self
    rw [dictUpdate_cons, dictSet_append d l a.1 a.2 (hf a ha), dictSet_mem_same l a.1 a.2 hn ha]
    exact ih fun kv hkv => hs kv (List.mem_cons_of_mem _ hkv)

theorem dictUpdate_unmap (m : Mapper) (l : List (String × J)) (hum : ∀ kv ∈ l, m.umA (m.mpA kv.1) = kv.1)
    (hn : (l.map (·.1)).Nodup) :
    dictUpdate [] ((l.map fun kv => (m.mpA kv.1, kv.2)).map fun kv => (m.umA kv.1, kv.2)) = l := by
  rw [List.map_map, List.map_congr_left (g := id) fun kv hkv => by simp [hum kv hkv], List.map_id]
  exact dictUpdate_nil l hn

theorem bind_pure_ok {ε α β : Type} {e : Except ε α} {g : α → β} {y : β}
    (h : (do let c ← e; pure (g c)) = Except.ok y) : ∃ c, e = .ok c ∧ g c = y := by
  cases e with
  | error _ => cases h
  | ok c => exact ⟨c, rfl, Except.ok.inj h⟩

theorem hasPrefix_append (p s : String) : hasPrefix p (p ++ s) = true := by
  simp [hasPrefix]

theorem dropN_append (p s : String) : dropN p.length (p ++ s) = s := by
  simp only [dropN, String.toList_append]
  rw [← String.length_toList, List.drop_left, String.ofList_toList]

theorem isXmlnsKey_entry (kv : String × String) :
    isXmlnsKey (if kv.1 == "" then "" ++ "xmlns" else "" ++ "xmlns:" ++ kv.1) = true := by
  cases kv.1 == ""
  · show isXmlnsKey ("xmlns:" ++ kv.1) = true
    rw [isXmlnsKey, hasPrefix_append, Bool.or_true]
  · rfl

theorem xmlns_key_ne (k : String) : ("xmlns:" ++ k == "xmlns") = false := by
  simp; intro h; have := congrArg String.toList h; simp at this

theorem mapIt_isEmpty {α β} (g : α → β) (l : List (Item α)) : (mapIt g l).isEmpty = l.isEmpty := by
  cases l <;> rfl

theorem renum_natural {α β} (g : α → β) (k : Nat) (l : List (Item α)) :
    renum k (mapIt g l) = mapIt g (renum k l) := by
  induction l generalizing k with
  | nil => rfl
  | cons a l ih => cases a <;> simp only [mapIt, List.map_cons, Item.map, renum] <;> exact congrArg _ (ih _)

theorem renum_children {α} (k : Nat) (l : List (Item α)) (nm : String) (s : Bool) (v : α)
    (h : Item.child nm s v ∈ renum k l) : ∃ s', Item.child nm s' v ∈ l := by
  induction l generalizing k with
  | nil => cases h
  | cons a l ih =>
    cases a with
    | cdata i w =>
      obtain ⟨s', hs⟩ := ih _ ((List.mem_cons.mp h).resolve_left nofun)
      exact ⟨s', List.mem_cons_of_mem _ hs⟩
    | child nm' s'' w =>
      rcases List.mem_cons.mp h with h | h
      · cases h; exact ⟨s'', List.mem_cons_self⟩
      · obtain ⟨s', hs⟩ := ih _ h
        exact ⟨s', List.mem_cons_of_mem _ hs⟩

end XsVerif.Conv
