/-
  The recursion around the converters: a one-level round trip (the contracts `LevelOK`, `ScopedOK`) lifts to
  whole trees, by induction on the fuel of the encoder.
-/
import XsVerif.Lemmas.Converters

namespace XsVerif.Conv

/-- erase child values (what a level condition may look at) -/
def shape {α} (l : List (Item α)) : List (Item Unit) := mapIt (fun _ => ()) l

def Node.f : Node → Facts | .mk f _ _ => f
def Node.hd : Node → Hd | .mk _ hd _ => hd
def Node.items : Node → Items | .mk _ _ items => items

/-- the content that `element_encode` hands to the child declarations, compared with the expected one: same
    keys, same cdata, child values related by `R` -/
inductive ItemRel (R : J → J → Prop) : Item J → Item J → Prop
  | cdata (i : Nat) (v : J) : ItemRel R (.cdata i v) (.cdata i v)
  | child (nm : String) (s : Bool) (v v' : J) : R v v' → ItemRel R (.child nm s v) (.child nm s v')

inductive ItemsRel (R : J → J → Prop) : List (Item J) → List (Item J) → Prop
  | nil : ItemsRel R [] []
  | cons {a b : Item J} {l l' : List (Item J)} : ItemRel R a b → ItemsRel R l l' → ItemsRel R (a :: l) (b :: l')

theorem ItemsRel.refl_eq : ∀ l : List (Item J), ItemsRel Eq l l
  | [] => .nil
  | .cdata i v :: l => .cons (.cdata i v) (ItemsRel.refl_eq l)
  | .child nm s v :: l => .cons (.child nm s v v rfl) (ItemsRel.refl_eq l)

/-- One-level contract of a converter.
    `WFin` : admissible inputs of `element_decode`, a condition on the element's own data and on the shape
             of its content (not on the converted children);
    `Inv`  : what every converted value looks like (by element name);
    `norm1`: the documented normalisation of one level (polymorphic in the child values);
    `R`    : how the value of a child that `element_encode` returns may differ from the value that
             `element_decode` was given (`Eq` for JsonML; a DataElement child comes back with its tail set,
             dataobjects.py:549) — `element_encode` of the child must not see the difference (`encR`). -/
structure LevelOK (c : Conv) (Inv : String → J → Prop)
    (WFin : Facts → Hd → List (Item Unit) → Prop)
    (norm1 : {α : Type} → Facts → Hd → List (Item α) → Hd × List (Item α))
    (R : J → J → Prop) : Prop where
  rt : ∀ f hd (its : List (Item J)), WFin f hd (shape its) →
      (∀ nm s v, Item.child nm s v ∈ its → Inv nm v) →
      ∃ its', c.enc f hd.tag (c.dec f hd its) = .ok ((norm1 f hd its).1, its') ∧
        ItemsRel R (norm1 f hd its).2 its'
  encR : ∀ f nm v v', R v v' → c.enc f nm v' = c.enc f nm v
  inv : ∀ f hd (its : List (Item J)), WFin f hd (shape its) →
      (∀ nm s v, Item.child nm s v ∈ its → Inv nm v) → Inv hd.tag (c.dec f hd its)
  natural : ∀ {α β} (g : α → β) f hd (its : List (Item α)),
      norm1 f hd (mapIt g its) = ((norm1 f hd its).1, mapIt g (norm1 f hd its).2)
  children : ∀ {α} f hd (its : List (Item α)) nm s v,
      Item.child nm s v ∈ (norm1 f hd its).2 → ∃ s', Item.child nm s' v ∈ its

mutual
/-- a typed tree: every level is an admissible input and every child is declared, under its own name,
    in the content model of its parent with the child's type -/
def TreeWF (WFin : Facts → Hd → List (Item Unit) → Prop) (sch : Nat → Option Facts) : Node → Prop
  | .mk f hd items => WFin f hd (shape items.toList) ∧ ItemsWF WFin sch f items
def ItemsWF (WFin : Facts → Hd → List (Item Unit) → Prop) (sch : Nat → Option Facts) (f : Facts) : Items → Prop
  | .nil => True
  | .cdata _ _ r => ItemsWF WFin sch f r
  | .child nm _ n r =>
      n.hd.tag = nm ∧ (∃ ch, findChild f nm = some ch ∧ sch ch.ty = some n.f) ∧
      TreeWF WFin sch n ∧ ItemsWF WFin sch f r
end

mutual
def normTree (norm1 : {α : Type} → Facts → Hd → List (Item α) → Hd × List (Item α)) : Node → Node
  | .mk f hd items =>
      .mk f (norm1 f hd (normItems norm1 items)).1 (Items.ofList (norm1 f hd (normItems norm1 items)).2)
def normItems (norm1 : {α : Type} → Facts → Hd → List (Item α) → Hd × List (Item α)) : Items → List (Item Node)
  | .nil => []
  | .cdata i v r => .cdata i v :: normItems norm1 r
  | .child nm s n r => .child nm s (normTree norm1 n) :: normItems norm1 r
end

theorem normItems_eq (norm1 : {α : Type} → Facts → Hd → List (Item α) → Hd × List (Item α)) :
    ∀ items : Items, normItems norm1 items = mapIt (normTree norm1) items.toList
  | .nil => rfl
  | .cdata i v r => congrArg (Item.cdata i v :: ·) (normItems_eq norm1 r)
  | .child nm s n r => congrArg (Item.child nm s (normTree norm1 n) :: ·) (normItems_eq norm1 r)

theorem decItems_eq (c : Conv) : ∀ items : Items, decItems c items = mapIt (decTree c) items.toList
  | .nil => rfl
  | .cdata i v r => congrArg (Item.cdata i v :: ·) (decItems_eq c r)
  | .child nm s n r => congrArg (Item.child nm s (decTree c n) :: ·) (decItems_eq c r)

theorem shape_mapIt {α β} (g : α → β) (l : List (Item α)) : shape (mapIt g l) = shape l := by
  simp only [shape, mapIt, List.map_map]
  exact List.map_congr_left fun a _ => by cases a <;> rfl

theorem shape_nil {α} {l : List (Item α)} (h : shape l = []) : l = [] :=
  List.map_eq_nil_iff.mp h

theorem mem_shape_cdata {α} {l : List (Item α)} {i v} (h : Item.cdata i v ∈ l) : Item.cdata i v ∈ shape l :=
  List.mem_map.mpr ⟨_, h, rfl⟩

theorem mem_shape_child {α} {l : List (Item α)} {nm s v} (h : Item.child nm s v ∈ l) :
    Item.child nm s () ∈ shape l :=
  List.mem_map.mpr ⟨_, h, rfl⟩

theorem forall_mem_mapIt_child {α β} {g : α → β} {l : List (Item α)} {P : String → β → Prop}
    (h : ∀ nm s a, Item.child nm s a ∈ l → P nm (g a)) : ∀ nm s v, Item.child nm s v ∈ mapIt g l → P nm v := by
  intro nm s v hm
  obtain ⟨x, hx, he⟩ := List.mem_map.mp hm
  cases x with
  | cdata i w => cases he
  | child nm' s' a => cases he; exact h _ _ a hx

theorem Items.forall_child {Q : Items → Prop} {P : String → Bool → Node → Prop}
    (hc : ∀ {i v r}, Q (.cdata i v r) → Q r) (hk : ∀ {nm s n r}, Q (.child nm s n r) → P nm s n ∧ Q r) :
    ∀ {items : Items}, Q items → ∀ {nm s n}, Item.child nm s n ∈ items.toList → P nm s n
  | .nil => fun _ _ _ _ hm => nomatch hm
  | .cdata _ _ r => fun hq _ _ _ hm =>
    Items.forall_child hc hk (items := r) (hc hq) ((List.mem_cons.mp hm).resolve_left nofun)
  | .child _ _ _ r => fun hq _ _ _ hm => by
    rcases List.mem_cons.mp hm with hm | hm
    · cases hm; exact (hk hq).1
    · exact Items.forall_child hc hk (hk hq).2 hm

theorem Items.depth_child {items : Items} {k : Nat} (h : items.depth ≤ k) {nm s n}
    (hm : Item.child nm s n ∈ items.toList) : n.depth ≤ k :=
  Items.forall_child (Q := fun r => r.depth ≤ k) (fun h => by rwa [Items.depth] at h)
    (fun h => by rw [Items.depth] at h; exact Nat.max_le.mp h) h hm

theorem ItemsWF.child {WFin : Facts → Hd → List (Item Unit) → Prop} {sch : Nat → Option Facts} {f : Facts} :
    ∀ {items : Items}, ItemsWF WFin sch f items → ∀ {nm s n}, Item.child nm s n ∈ items.toList →
      n.hd.tag = nm ∧ (∃ ch, findChild f nm = some ch ∧ sch ch.ty = some n.f) ∧ TreeWF WFin sch n :=
  Items.forall_child (fun h => by rwa [ItemsWF] at h)
    (fun h => by rw [ItemsWF] at h; exact ⟨⟨h.1, h.2.1, h.2.2.1⟩, h.2.2.2⟩)

theorem encItems_ok {R : J → J → Prop} {sch : Nat → Option Facts} {rec : Facts → String → J → Except Err Node}
    {f : Facts} {d : Node → J} {g : Node → Node} (recR : ∀ f nm v v', R v v' → rec f nm v' = rec f nm v)
    (l : List (Item Node)) (its' : List (Item J)) (hrel : ItemsRel R (mapIt d l) its')
    (hkids : ∀ nm s n, Item.child nm s n ∈ l →
      (∃ ch, findChild f nm = some ch ∧ sch ch.ty = some n.f) ∧ rec n.f nm (d n) = .ok (g n)) :
    encItems sch rec f its' = .ok (Items.ofList (mapIt g l)) := by
  induction l generalizing its' with
  | nil => cases hrel; rfl
  | cons a l ih =>
    cases hrel with
    | cons hab hrest =>
      have ih' := ih _ hrest fun nm s n hm => hkids nm s n (List.mem_cons_of_mem _ hm)
      cases a with
      | cdata i v =>
        cases hab
        simp only [encItems, ih']; rfl
      | child nm s n =>
        cases hab with
        | child _ _ _ v' hr =>
          obtain ⟨⟨ch, h1, h2⟩, h3⟩ := hkids nm s n List.mem_cons_self
          simp only [encItems, h1, h2, recR _ _ _ _ hr, h3, ih']; rfl

theorem encLevel_ok {norm1 : {α : Type} → Facts → Hd → List (Item α) → Hd × List (Item α)} {R : J → J → Prop}
    (natural : ∀ {α β} (g : α → β) f hd (its : List (Item α)),
      norm1 f hd (mapIt g its) = ((norm1 f hd its).1, mapIt g (norm1 f hd its).2))
    (children : ∀ {α} f hd (its : List (Item α)) nm s v,
      Item.child nm s v ∈ (norm1 f hd its).2 → ∃ s', Item.child nm s' v ∈ its)
    (sch : Nat → Option Facts) (rec : Facts → String → J → Except Err Node) (d : Node → J)
    (f : Facts) (hd : Hd) (items : Items) (e : Except Err (Hd × List (Item J)))
    (hrt : ∃ its', e = .ok ((norm1 f hd (mapIt d items.toList)).1, its') ∧
      ItemsRel R (norm1 f hd (mapIt d items.toList)).2 its')
    (recR : ∀ f nm v v', R v v' → rec f nm v' = rec f nm v)
    (hkids : ∀ nm s n, Item.child nm s n ∈ items.toList →
      (∃ ch, findChild f nm = some ch ∧ sch ch.ty = some n.f) ∧ rec n.f nm (d n) = .ok (normTree norm1 n)) :
    (do let (hd', its) ← e
        let its' ← encItems sch rec f its
        pure (Node.mk f hd' its')) = .ok (normTree norm1 (.mk f hd items)) := by
  obtain ⟨its', rfl, hrel⟩ := hrt
  rw [natural] at hrel ⊢
  rw [normTree, normItems_eq, natural]
  simp only [bind, Except.bind, encItems_ok recR _ its' hrel fun nm s n hm =>
    (children f hd _ nm s n hm).elim fun s' hs' => hkids nm s' n hs']
  rfl

section
variable (c : Conv) {Inv : String → J → Prop} {WFin : Facts → Hd → List (Item Unit) → Prop}
  {norm1 : {α : Type} → Facts → Hd → List (Item α) → Hd × List (Item α)} {R : J → J → Prop}
  (L : LevelOK c Inv WFin norm1 R) (sch : Nat → Option Facts)
include L

theorem encTree_congr (fuel : Nat) (f : Facts) (nm : String) (v v' : J) (h : R v v') :
    encTree c sch fuel f nm v' = encTree c sch fuel f nm v := by
  cases fuel with
  | zero => rfl
  | succ k => simp only [encTree, L.encR f nm v v' h]

theorem tree_rt : ∀ (n : Node), TreeWF WFin sch n → ∀ fuel, n.depth ≤ fuel →
    encTree c sch fuel n.f n.hd.tag (decTree c n) = .ok (normTree norm1 n) ∧ Inv n.hd.tag (decTree c n) := by
  intro n hw fuel
  induction fuel generalizing n with
  | zero => cases n; exact nofun
  | succ k ih =>
    obtain ⟨f, hd, items⟩ := n
    intro hfuel
    rw [TreeWF] at hw
    rw [Node.depth, Nat.add_le_add_iff_right] at hfuel
    have hI : ∀ nm s n, Item.child nm s n ∈ items.toList →
        (∃ ch, findChild f nm = some ch ∧ sch ch.ty = some n.f) ∧
        encTree c sch k n.f nm (decTree c n) = .ok (normTree norm1 n) ∧ Inv nm (decTree c n) := by
      intro nm s n hm
      obtain ⟨rfl, hch, hwn⟩ := hw.2.child hm
      exact ⟨hch, ih n hwn (Items.depth_child hfuel hm)⟩
    have hin : WFin f hd (shape (mapIt (decTree c) items.toList)) := by rw [shape_mapIt]; exact hw.1
    have hinv := forall_mem_mapIt_child (P := Inv) fun nm s n hm => (hI nm s n hm).2.2
    simp only [Node.f, Node.hd, decTree, encTree, decItems_eq]
    exact ⟨encLevel_ok L.natural L.children sch _ _ f hd items _ (L.rt f hd _ hin hinv) (encTree_congr c L sch k)
      fun nm s n hm => ⟨(hI nm s n hm).1, (hI nm s n hm).2.1⟩, L.inv f hd _ hin hinv⟩
end


/-- contract of a scoped converter.  The one-level round trip `rt` holds in every scope; `Inv sc nm v` is what a
    converted child named `nm` looks like *to an element whose scope is `sc`* (the child itself was converted in
    the scope extended with its own declarations: `inv`); `element_encode` reports exactly the declarations that
    `get_xmlns_from_data` reads from the object (`encXmlns`), the normalisation keeps the declarations
    (`normXmlns`), and values related by `R` carry the same declarations (`xmlnsR`). -/
structure ScopedOK (c : SConv) (Inv : NsScope → String → J → Prop)
    (WFin : NsScope → Facts → Hd → List (Item Unit) → Prop)
    (norm1 : {α : Type} → Facts → Hd → List (Item α) → Hd × List (Item α))
    (R : J → J → Prop) : Prop where
  rt : ∀ sc f hd (its : List (Item J)), WFin sc f hd (shape its) →
      (∀ nm s v, Item.child nm s v ∈ its → Inv sc nm v) →
      ∃ its', (c.cv sc).enc f hd.tag ((c.cv sc).dec f hd its) = .ok ((norm1 f hd its).1, its') ∧
        ItemsRel R (norm1 f hd its).2 its'
  encR : ∀ sc f nm v v', R v v' → (c.cv sc).enc f nm v' = (c.cv sc).enc f nm v
  inv : ∀ sc f hd (its : List (Item J)), WFin (sc.push hd.xmlns) f hd (shape its) →
      (∀ nm s v, Item.child nm s v ∈ its → Inv (sc.push hd.xmlns) nm v) →
      Inv sc hd.tag ((c.cv (sc.push hd.xmlns)).dec f hd its)
  natural : ∀ {α β} (g : α → β) f hd (its : List (Item α)),
      norm1 f hd (mapIt g its) = ((norm1 f hd its).1, mapIt g (norm1 f hd its).2)
  children : ∀ {α} f hd (its : List (Item α)) nm s v,
      Item.child nm s v ∈ (norm1 f hd its).2 → ∃ s', Item.child nm s' v ∈ its
  encXmlns : ∀ sc f nm v hd its, (c.cv sc).enc f nm v = .ok (hd, its) → hd.xmlns = c.xmlnsOf v
  normXmlns : ∀ f hd (its : List (Item J)), (norm1 f hd its).1.xmlns = hd.xmlns
  xmlnsR : ∀ v v', R v v' → c.xmlnsOf v' = c.xmlnsOf v

/-- a family of converters each of which meets the one-level contract with one scope-independent invariant
    (the converted children do not mention prefixed names: DataElement) is a scoped converter -/
theorem ScopedOK.ofLevel {c : SConv} {Inv : String → J → Prop}
    {WFin : NsScope → Facts → Hd → List (Item Unit) → Prop}
    {norm1 : {α : Type} → Facts → Hd → List (Item α) → Hd × List (Item α)} {R : J → J → Prop}
    (level : ∀ sc, LevelOK (c.cv sc) Inv (WFin sc) norm1 R)
    (encXmlns : ∀ sc f nm v hd its, (c.cv sc).enc f nm v = .ok (hd, its) → hd.xmlns = c.xmlnsOf v)
    (normXmlns : ∀ f hd (its : List (Item J)), (norm1 f hd its).1.xmlns = hd.xmlns)
    (xmlnsR : ∀ v v', R v v' → c.xmlnsOf v' = c.xmlnsOf v) :
    ScopedOK c (fun _ => Inv) WFin norm1 R where
  rt := fun sc => (level sc).rt
  encR := fun sc => (level sc).encR
  inv := fun sc f hd its => (level (sc.push hd.xmlns)).inv f hd its
  natural := (level []).natural
  children := (level []).children
  encXmlns := encXmlns
  normXmlns := normXmlns
  xmlnsR := xmlnsR

mutual
/-- a typed tree every level of which is an admissible input *in its own scope* -/
def TreeWFS (WFin : NsScope → Facts → Hd → List (Item Unit) → Prop) (sch : Nat → Option Facts)
    (sc : NsScope) : Node → Prop
  | .mk f hd items =>
      WFin (sc.push hd.xmlns) f hd (shape items.toList) ∧ ItemsWFS WFin sch (sc.push hd.xmlns) f items
def ItemsWFS (WFin : NsScope → Facts → Hd → List (Item Unit) → Prop) (sch : Nat → Option Facts)
    (sc : NsScope) (f : Facts) : Items → Prop
  | .nil => True
  | .cdata _ _ r => ItemsWFS WFin sch sc f r
  | .child nm _ n r =>
      n.hd.tag = nm ∧ (∃ ch, findChild f nm = some ch ∧ sch ch.ty = some n.f) ∧
      TreeWFS WFin sch sc n ∧ ItemsWFS WFin sch sc f r
end

/-- the scoped recursion with a constant family is the plain one (documents without inner declarations, or
    `process_namespaces=False`: one mapper for the whole document) -/
theorem encTreeS_const (c : Conv) (x : J → List (String × String)) (sch : Nat → Option Facts) :
    ∀ (fuel : Nat) (sc : NsScope) (f : Facts) (nm : String) (v : J),
      encTreeS ⟨fun _ => c, x⟩ sch fuel sc f nm v = encTree c sch fuel f nm v := by
  intro fuel
  induction fuel with
  | zero => intros; rfl
  | succ k ih =>
    intro sc f nm v
    have hrec : encTreeS ⟨fun _ => c, x⟩ sch k (sc.push (x v)) = encTree c sch k := by
      funext f nm v; exact ih _ f nm v
    simp only [encTreeS, encTree, hrec]

mutual
theorem decTreeS_const (c : Conv) (x : J → List (String × String)) :
    ∀ (n : Node) (sc : NsScope), decTreeS ⟨fun _ => c, x⟩ sc n = decTree c n
  | .mk f hd items, sc => by
    simp only [decTreeS, decTree, decItemsS_const c x items]
theorem decItemsS_const (c : Conv) (x : J → List (String × String)) :
    ∀ (items : Items) (sc : NsScope), decItemsS ⟨fun _ => c, x⟩ sc items = decItems c items
  | .nil, _ => rfl
  | .cdata i v r, sc => by simp only [decItemsS, decItems, decItemsS_const c x r]
  | .child nm s n r, sc => by
    simp only [decItemsS, decItems, decTreeS_const c x n, decItemsS_const c x r]
end

theorem decItemsS_eq (c : SConv) (sc : NsScope) :
    ∀ items : Items, decItemsS c sc items = mapIt (decTreeS c sc) items.toList
  | .nil => rfl
  | .cdata i v r => congrArg (Item.cdata i v :: ·) (decItemsS_eq c sc r)
  | .child nm s n r => congrArg (Item.child nm s (decTreeS c sc n) :: ·) (decItemsS_eq c sc r)

theorem ItemsWFS.child {WFin : NsScope → Facts → Hd → List (Item Unit) → Prop} {sch : Nat → Option Facts}
    {sc : NsScope} {f : Facts} :
    ∀ {items : Items}, ItemsWFS WFin sch sc f items → ∀ {nm s n}, Item.child nm s n ∈ items.toList →
      n.hd.tag = nm ∧ (∃ ch, findChild f nm = some ch ∧ sch ch.ty = some n.f) ∧ TreeWFS WFin sch sc n :=
  Items.forall_child (fun h => by rwa [ItemsWFS] at h)
    (fun h => by rw [ItemsWFS] at h; exact ⟨⟨h.1, h.2.1, h.2.2.1⟩, h.2.2.2⟩)

section
variable (c : SConv) {Inv : NsScope → String → J → Prop}
  {WFin : NsScope → Facts → Hd → List (Item Unit) → Prop}
  {norm1 : {α : Type} → Facts → Hd → List (Item α) → Hd × List (Item α)} {R : J → J → Prop}
  (S : ScopedOK c Inv WFin norm1 R) (sch : Nat → Option Facts)
include S

theorem encTreeS_congr (fuel : Nat) (sc : NsScope) (f : Facts) (nm : String) (v v' : J) (h : R v v') :
    encTreeS c sch fuel sc f nm v' = encTreeS c sch fuel sc f nm v := by
  cases fuel with
  | zero => rfl
  | succ k => simp only [encTreeS, S.xmlnsR v v' h, S.encR _ f nm v v' h]

/-- the one-level round trips lift to whole trees when the name mapping follows the declarations in scope:
    every element is decoded and re-encoded under the declarations of its ancestors-or-self, whatever its
    siblings and their descendants declare -/
theorem tree_rt_scoped : ∀ (n : Node) (sc : NsScope), TreeWFS WFin sch sc n → ∀ fuel, n.depth ≤ fuel →
    encTreeS c sch fuel sc n.f n.hd.tag (decTreeS c sc n) = .ok (normTree norm1 n) ∧
    Inv sc n.hd.tag (decTreeS c sc n) := by
  intro n sc hw fuel
  induction fuel generalizing n sc with
  | zero => cases n; exact nofun
  | succ k ih =>
    obtain ⟨f, hd, items⟩ := n
    intro hfuel
    rw [TreeWFS] at hw
    rw [Node.depth, Nat.add_le_add_iff_right] at hfuel
    generalize hsc : sc.push hd.xmlns = sc' at hw
    have hI : ∀ nm s n, Item.child nm s n ∈ items.toList →
        (∃ ch, findChild f nm = some ch ∧ sch ch.ty = some n.f) ∧
        encTreeS c sch k sc' n.f nm (decTreeS c sc' n) = .ok (normTree norm1 n) ∧ Inv sc' nm (decTreeS c sc' n) := by
      intro nm s n hm
      obtain ⟨rfl, hch, hwn⟩ := hw.2.child hm
      exact ⟨hch, ih n sc' hwn (Items.depth_child hfuel hm)⟩
    have hin : WFin sc' f hd (shape (mapIt (decTreeS c sc') items.toList)) := by rw [shape_mapIt]; exact hw.1
    have hinv := forall_mem_mapIt_child (P := Inv sc') fun nm s n hm => (hI nm s n hm).2.2
    have hrt := S.rt sc' f hd _ hin hinv
    -- the declarations read back from the decoded object are the element's own
    have hx : c.xmlnsOf ((c.cv sc').dec f hd (mapIt (decTreeS c sc') items.toList)) = hd.xmlns := by
      obtain ⟨its', henc, _⟩ := hrt
      rw [← S.encXmlns _ _ _ _ _ _ henc]
      exact S.normXmlns f hd _
    simp only [Node.f, Node.hd, decTreeS, encTreeS, decItemsS_eq, hsc, hx]
    refine ⟨encLevel_ok S.natural S.children sch _ _ f hd items _ hrt (encTreeS_congr c S sch k sc')
      fun nm s n hm => ⟨(hI nm s n hm).1, (hI nm s n hm).2.1⟩, ?_⟩
    subst hsc
    exact S.inv sc f hd _ hin hinv

theorem items_rt_scoped : ∀ (items : Items) (sc : NsScope) (f : Facts), ItemsWFS WFin sch sc f items →
    ∀ fuel, items.depth ≤ fuel →
    ∀ nm s n, Item.child nm s n ∈ items.toList →
      n.hd.tag = nm ∧ (∃ ch, findChild f nm = some ch ∧ sch ch.ty = some n.f) ∧
      encTreeS c sch fuel sc n.f nm (decTreeS c sc n) = .ok (normTree norm1 n) ∧ Inv sc nm (decTreeS c sc n) := by
  intro items sc f hw fuel hfuel nm s n hm
  obtain ⟨rfl, hch, hwn⟩ := hw.child hm
  exact ⟨rfl, hch, tree_rt_scoped c S sch n sc hwn fuel (Items.depth_child hfuel hm)⟩
end

end XsVerif.Conv
