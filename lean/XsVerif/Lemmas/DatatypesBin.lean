/-
  Specification lemmas for the binary datatypes (xs:hexBinary, xs:base64Binary) of the datatype
  model (C02).  Core Lean only.
-/
import XsVerif.Model.Datatypes
import XsVerif.Model.DatatypesDate
import XsVerif.Lemmas.Datatypes
namespace XsVerif.Datatypes

/-! ## xs:hexBinary -/

/-- xs:hexBinary lexical space (XSD Part 2 §3.2.15): a sequence of `n` pairs of hex digits -/
def HexLex (s : Str) (n : Nat) : Prop :=
  ∃ ps : List (Char × Char), s = ps.flatMap (fun p => [p.1, p.2]) ∧
    (∀ p ∈ ps, isHex p.1 = true ∧ isHex p.2 = true) ∧ n = ps.length

/-- value of a hex digit and the octets denoted by a literal -/
def hexVal (c : Char) : Nat :=
  if isDig c then c.toNat - 48 else if 'a' ≤ c && c ≤ 'f' then c.toNat - 87 else c.toNat - 55
def hexOctets : Str → List Nat
  | a :: b :: r => (16 * hexVal a + hexVal b) :: hexOctets r
  | _ => []

theorem toNat_toUpper (c : Char) :
    c.toUpper.toNat = if 97 ≤ c.toNat ∧ c.toNat ≤ 122 then c.toNat - 32 else c.toNat := by
  have hc : ('a'.val ≤ c.val ∧ c.val ≤ 'z'.val) ↔ (97 ≤ c.toNat ∧ c.toNat ≤ 122) := by
    rw [← Char.le_def, ← Char.le_def, char_le_iff, char_le_iff]; rfl
  unfold Char.toUpper
  split
  · rename_i h
    have := hc.mp h
    rw [if_pos this]
    -- the offset 'A' - 'a' is computed in UInt32, where it wraps around
    have e : ('A'.val - 'a'.val).toNat = 2 ^ 32 - 32 := by decide
    change (c.val + ('A'.val - 'a'.val)).toNat = c.toNat - 32
    rw [UInt32.toNat_add, e]
    change (c.toNat + _) % _ = _
    omega
  · rename_i h
    rw [if_neg (mt hc.mpr h)]

theorem isHex_iff (c : Char) : isHex c = true ↔
    (48 ≤ c.toNat ∧ c.toNat ≤ 57) ∨ (97 ≤ c.toNat ∧ c.toNat ≤ 102) ∨ (65 ≤ c.toNat ∧ c.toNat ≤ 70) := by
  simp only [isHex, Bool.or_eq_true, Bool.and_eq_true, decide_eq_true_eq, isDig_iff, char_le_iff, or_assoc]
  rfl

theorem isHex_spec (c : Char) (h : isHex c = true) :
    hexVal c < 16 ∧ c.toUpper.toNat = (if hexVal c < 10 then 48 else 55) + hexVal c := by
  have hl : ('a' ≤ c ∧ c ≤ 'f') ↔ (97 ≤ c.toNat ∧ c.toNat ≤ 102) := by rw [char_le_iff, char_le_iff]; rfl
  simp only [hexVal, toNat_toUpper, Bool.and_eq_true, decide_eq_true_eq, isDig_iff, hl]
  rcases (isHex_iff c).mp h with h | h | h
  · rw [if_pos h, if_neg (by omega), if_pos (by omega)]; omega
  · rw [if_neg (by omega), if_pos h, if_pos (by omega), if_neg (by omega)]; omega
  · rw [if_neg (by omega), if_neg (by omega), if_neg (by omega), if_neg (by omega)]; omega

theorem hexVal_lt (c : Char) (h : isHex c = true) : hexVal c < 16 := (isHex_spec c h).1

theorem isHex_toUpper (c : Char) (h : isHex c = true) :
    isHex c.toUpper = true ∧ c.toUpper.toUpper = c.toUpper := by
  obtain ⟨h1, h2⟩ := isHex_spec c h
  have : c.toUpper.toNat ≤ 70 ∧ ((48 ≤ c.toUpper.toNat ∧ c.toUpper.toNat ≤ 57) ∨ 65 ≤ c.toUpper.toNat) := by
    rw [h2]; split <;> omega
  refine ⟨(isHex_iff _).mpr (by omega), Char.toNat_inj.mp ?_⟩
  rw [toNat_toUpper c.toUpper, if_neg (by omega)]

theorem toUpper_eq_iff_hexVal (x y : Char) (hx : isHex x = true) (hy : isHex y = true) :
    x.toUpper = y.toUpper ↔ hexVal x = hexVal y := by
  obtain ⟨-, ex⟩ := isHex_spec x hx
  obtain ⟨-, ey⟩ := isHex_spec y hy
  rw [← Char.toNat_inj, ex, ey]
  constructor
  · intro e; split at e <;> split at e <;> omega
  · intro e; rw [e]

theorem flatPairs_length (ps : List (Char × Char)) :
    (ps.flatMap (fun p => [p.1, p.2])).length = 2 * ps.length := by
  induction ps with
  | nil => rfl
  | cons p ps ih => simp only [List.flatMap_cons, List.length_append, ih, List.length_cons, List.length_nil]; omega

theorem flatPairs_all (ps : List (Char × Char)) (h : ∀ p ∈ ps, isHex p.1 = true ∧ isHex p.2 = true) :
    ∀ c ∈ ps.flatMap (fun p => [p.1, p.2]), isHex c = true := by
  intro c hc
  rcases List.mem_flatMap.mp hc with ⟨p, hp, hcp⟩
  have := h p hp
  simp at hcp
  rcases hcp with rfl | rfl
  · exact this.1
  · exact this.2

theorem hexOk_spec (s : Str) : hexOk s = true ↔ (∀ c ∈ s, isHex c = true) ∧ s.length % 2 = 0 := by
  simp [hexOk]

theorem hexOk_cons2 (a b : Char) (r : Str) :
    hexOk (a :: b :: r) = true ↔ isHex a = true ∧ isHex b = true ∧ hexOk r = true := by
  have : (r.length + 1 + 1) % 2 = r.length % 2 := by omega
  simp only [hexOk_spec, List.mem_cons, forall_eq_or_imp, List.length_cons, and_assoc, this]

theorem hexOk_induction {P : (s : Str) → hexOk s = true → Prop} (nil : P [] rfl)
    (pair : ∀ a b r (ha : isHex a = true) (hb : isHex b = true) (hr : hexOk r = true), P r hr →
      P (a :: b :: r) ((hexOk_cons2 a b r).mpr ⟨ha, hb, hr⟩)) :
    ∀ s h, P s h
  | [], _ => nil
  | [_], h => by simp [hexOk] at h
  | a :: b :: r, h =>
    have ⟨ha, hb, hr⟩ := (hexOk_cons2 a b r).mp h
    pair a b r ha hb hr (hexOk_induction nil pair r hr)

theorem hexOk_iff (s : Str) : hexOk s = true ↔ ∃ n, HexLex s n := by
  constructor
  · intro h
    induction s, h using hexOk_induction with
    | nil => exact ⟨0, [], rfl, fun _ h => absurd h List.not_mem_nil, rfl⟩
    | pair a b r ha hb _ ih =>
      obtain ⟨_, ps, rfl, hps, _⟩ := ih
      exact ⟨_, (a, b) :: ps, rfl, List.forall_mem_cons.mpr ⟨⟨ha, hb⟩, hps⟩, rfl⟩
  · rintro ⟨n, ps, rfl, hps, -⟩
    rw [hexOk_spec]
    refine ⟨flatPairs_all ps hps, ?_⟩
    rw [flatPairs_length]; omega

theorem hex_len (s : Str) (n : Nat) (h : HexLex s n) : Val.len? (.atom (.hex s)) = some n := by
  obtain ⟨ps, rfl, -, rfl⟩ := h
  simp only [Val.len?, flatPairs_length]
  congr 1; omega

theorem hexUp_idem (s : Str) (h : ∀ c ∈ s, isHex c = true) : hexUp (hexUp s) = hexUp s := by
  simp only [hexUp, List.map_map]
  exact List.map_congr_left fun c hc => (isHex_toUpper c (h c hc)).2

/-- `str(HexBinary)` is the upper-cased literal: it is again a hexBinary literal of the same length,
    and (Python `==` of the model, which compares upper-cased literals) it equals the original -/
theorem hex_roundtrip (de : DtVal → DtVal → Bool) (s : Str) (h : hexOk s = true) :
    hexOk (hexUp s) = true ∧ AVal.pyEq de (.hex (hexUp s)) (.hex s) = true ∧
    Val.len? (.atom (.hex (hexUp s))) = Val.len? (.atom (.hex s)) := by
  obtain ⟨hall, hlen⟩ := (hexOk_spec s).mp h
  refine ⟨?_, ?_, ?_⟩
  · rw [hexOk_spec]
    refine ⟨?_, by simpa [hexUp] using hlen⟩
    intro c hc
    simp only [hexUp, List.mem_map] at hc
    obtain ⟨x, hx, rfl⟩ := hc
    exact (isHex_toUpper x (hall x hx)).1
  · simp only [AVal.pyEq, hexUp_idem s hall, beq_self_eq_true]
  · simp [Val.len?, hexUp]

theorem hexOctets_flat (p : Char × Char) (r : Str) :
    hexOctets (p.1 :: p.2 :: r) = (16 * hexVal p.1 + hexVal p.2) :: hexOctets r := rfl

theorem octet_inj {a b c d : Nat} (hb : b < 16) (hd : d < 16) (h : 16 * a + b = 16 * c + d) : a = c ∧ b = d := by
  omega

/-- the model's equality of hexBinary values (upper-cased literals) is equality of the octet sequences
    (Python compares `decode()`) -/
theorem hex_eq_iff_octets (a b : Str) (ha : hexOk a = true) (hb : hexOk b = true) :
    hexUp a = hexUp b ↔ hexOctets a = hexOctets b := by
  induction a, ha using hexOk_induction generalizing b with
  | nil => cases b, hb using hexOk_induction <;> simp [hexUp, hexOctets]
  | pair x y r hx hy _ ih =>
    cases b, hb using hexOk_induction with
    | nil => simp [hexUp, hexOctets]
    | pair x' y' r' hx' hy' hr' =>
      simp only [hexUp, List.map_cons, List.cons.injEq, hexOctets] at ih ⊢
      rw [ih r' hr', toUpper_eq_iff_hexVal _ _ hx hx', toUpper_eq_iff_hexVal _ _ hy hy']
      constructor
      · rintro ⟨e1, e2, e3⟩; rw [e1, e2, e3]; exact ⟨rfl, rfl⟩
      · rintro ⟨e1, e3⟩
        obtain ⟨e1, e2⟩ := octet_inj (hexVal_lt _ hy) (hexVal_lt _ hy') e1
        exact ⟨e1, e2, e3⟩
theorem hexOctets_length (s : Str) (h : hexOk s = true) :
    (hexOctets s).length = s.length / 2 ∧ ∀ o ∈ hexOctets s, o < 256 := by
  induction s, h using hexOk_induction with
  | nil => exact ⟨rfl, fun _ h => absurd h List.not_mem_nil⟩
  | pair a b r ha hb _ ih =>
    refine ⟨by simp only [hexOctets, List.length_cons, ih.1]; omega, fun o ho => ?_⟩
    rcases List.mem_cons.mp ho with rfl | ho
    · have l1 := hexVal_lt _ ha
      have l2 := hexVal_lt _ hb
      omega
    · exact ih.2 o ho

/-! ## xs:base64Binary -/

/-- xs:base64Binary lexical space on a text without blanks (XSD Part 2 §3.2.16):
    ((B64 B64 B64 B64)* (B64 B64 B64 B64 | B64 B64 B16 '=' | B64 B04 '=' '='))?  with the number of octets -/
def B64Quad (q : Str) : Prop :=
  ∃ a b c d, q = [a, b, c, d] ∧ isB64 a = true ∧ isB64 b = true ∧ isB64 c = true ∧ isB64 d = true
def B64Final (q : Str) (k : Nat) : Prop :=
  ∃ a b c d, q = [a, b, c, d] ∧ isB64 a = true ∧
    ((isB64 b = true ∧ isB64 c = true ∧ isB64 d = true ∧ k = 3) ∨
     (isB64 b = true ∧ c ∈ "AEIMQUYcgkosw048".toList ∧ d = '=' ∧ k = 2) ∨
     (b ∈ "AQgw".toList ∧ c = '=' ∧ d = '=' ∧ k = 1))
def B64Lex (t : Str) (n : Nat) : Prop :=
  (t = [] ∧ n = 0) ∨
  ∃ (qs : List Str) (fin : Str) (k : Nat), t = qs.flatten ++ fin ∧ (∀ q ∈ qs, B64Quad q) ∧ B64Final fin k ∧
    n = 3 * qs.length + k

theorem isB64_ne_eq (c : Char) (h : isB64 c = true) : c ≠ '=' :=
  fun h' => absurd (h' ▸ h) (by decide +kernel)

theorem b16_ne_eq (c : Char) (h : c ∈ "AEIMQUYcgkosw048".toList) : c ≠ '=' :=
  fun h' => absurd (h' ▸ h) (by decide +kernel)

theorem b64Final_iff (a b c d : Char) :
    ((isB64 a && isB64 b && isB64 c && isB64 d) ||
     (isB64 a && isB64 b && "AEIMQUYcgkosw048".toList.contains c && d == '=') ||
     (isB64 a && "AQgw".toList.contains b && c == '=' && d == '=')) = true ↔
    ∃ k, B64Final [a, b, c, d] k := by
  constructor
  · intro h
    simp only [Bool.or_eq_true, Bool.and_eq_true, List.contains_iff_mem, beq_iff_eq] at h
    rcases h with (⟨⟨⟨h1, h2⟩, h3⟩, h4⟩ | ⟨⟨⟨h1, h2⟩, h3⟩, h4⟩) | ⟨⟨⟨h1, h2⟩, h3⟩, h4⟩
    · exact ⟨3, a, b, c, d, rfl, h1, Or.inl ⟨h2, h3, h4, rfl⟩⟩
    · exact ⟨2, a, b, c, d, rfl, h1, Or.inr (Or.inl ⟨h2, h3, h4, rfl⟩)⟩
    · exact ⟨1, a, b, c, d, rfl, h1, Or.inr (Or.inr ⟨h2, h3, h4, rfl⟩)⟩
  · rintro ⟨k, a', b', c', d', heq, h1, h⟩
    simp only [List.cons.injEq, and_true] at heq
    obtain ⟨rfl, rfl, rfl, rfl⟩ := heq
    simp only [Bool.or_eq_true, Bool.and_eq_true, List.contains_iff_mem, beq_iff_eq]
    rcases h with ⟨h2, h3, h4, -⟩ | ⟨h2, h3, h4, -⟩ | ⟨h2, h3, h4, -⟩
    · exact Or.inl (Or.inl ⟨⟨⟨h1, h2⟩, h3⟩, h4⟩)
    · exact Or.inl (Or.inr ⟨⟨⟨h1, h2⟩, h3⟩, h4⟩)
    · exact Or.inr ⟨⟨⟨h1, h2⟩, h3⟩, h4⟩

/-- non-empty part of `B64Lex`, without the octet count -/
def B64Shape (t : Str) : Prop :=
  ∃ (qs : List Str) (fin : Str) (k : Nat), t = qs.flatten ++ fin ∧ (∀ q ∈ qs, B64Quad q) ∧ B64Final fin k

theorem b64Groups_sound (fuel : Nat) (t : Str) (h : b64Groups fuel t = true) : B64Shape t := by
  fun_induction b64Groups fuel t with
  | case1 => cases h
  | case2 _ a b c d =>
    obtain ⟨k, hk⟩ := (b64Final_iff a b c d).mp h
    exact ⟨[], _, k, rfl, fun _ h => absurd h List.not_mem_nil, hk⟩
  | case3 => cases h
  | case4 fuel a b c d r _ ih =>
    simp only [Bool.and_eq_true] at h
    obtain ⟨⟨⟨⟨h1, h2⟩, h3⟩, h4⟩, h5⟩ := h
    obtain ⟨qs, fin, k, heq, hqs, hfin⟩ := ih h5
    refine ⟨[a, b, c, d] :: qs, fin, k, by rw [heq]; rfl, ?_, hfin⟩
    intro q hq
    rcases List.mem_cons.mp hq with rfl | hq
    · exact ⟨a, b, c, d, rfl, h1, h2, h3, h4⟩
    · exact hqs q hq
  | case5 => cases h

theorem b64Final_length {fin : Str} {k : Nat} (h : B64Final fin k) : fin.length = 4 := by
  obtain ⟨a, b, c, d, rfl, -⟩ := h; rfl

theorem b64Quads_length (qs : List Str) (h : ∀ q ∈ qs, B64Quad q) : qs.flatten.length = 4 * qs.length := by
  induction qs with
  | nil => rfl
  | cons q qs ih =>
    obtain ⟨a, b, c, d, rfl, -⟩ := h q (by simp)
    have := ih (fun x hx => h x (by simp [hx]))
    simp only [List.flatten_cons, List.length_append, List.length_cons, List.length_nil, this]
    omega

theorem b64Groups_complete (qs : List Str) (fin : Str) (k : Nat) (hqs : ∀ q ∈ qs, B64Quad q)
    (hfin : B64Final fin k) (fuel : Nat) (hf : qs.length ≤ fuel) :
    b64Groups fuel (qs.flatten ++ fin) = true := by
  induction qs generalizing fuel with
  | nil =>
    have hk : ∃ k, B64Final fin k := ⟨k, hfin⟩
    obtain ⟨a, b, c, d, rfl, -⟩ := hfin
    rw [List.flatten_nil, List.nil_append, b64Groups]
    exact (b64Final_iff a b c d).mpr hk
  | cons q qs ih =>
    obtain ⟨a, b, c, d, rfl, h1, h2, h3, h4⟩ := hqs q (List.mem_cons_self ..)
    obtain ⟨f, rfl⟩ : ∃ f, fuel = f + 1 := ⟨fuel - 1, by simp at hf; omega⟩
    have ih' := ih (fun x hx => hqs x (List.mem_cons_of_mem _ hx)) f (by simpa using hf)
    obtain ⟨e, r, he⟩ : ∃ e r, qs.flatten ++ fin = e :: r := by
      obtain ⟨a', b', c', d', rfl, -⟩ := hfin
      cases qs.flatten <;> exact ⟨_, _, rfl⟩
    rw [he] at ih'
    rw [List.flatten_cons, List.append_assoc, he]
    simpa only [List.cons_append, List.nil_append, b64Groups, h1, h2, h3, h4, Bool.true_and] using ih'

theorem b64Groups_iff (t : Str) : b64Groups t.length t = true ↔ B64Shape t := by
  constructor
  · exact b64Groups_sound _ t
  · rintro ⟨qs, fin, k, rfl, hqs, hfin⟩
    apply b64Groups_complete qs fin k hqs hfin
    rw [List.length_append, b64Quads_length qs hqs]; omega

theorem b64Lex_iff (t : Str) : (∃ n, B64Lex t n) ↔ (t = [] ∨ B64Shape t) := by
  constructor
  · rintro ⟨n, ⟨rfl, -⟩ | ⟨qs, fin, k, h1, h2, h3, -⟩⟩
    · exact Or.inl rfl
    · exact Or.inr ⟨qs, fin, k, h1, h2, h3⟩
  · rintro (rfl | ⟨qs, fin, k, h1, h2, h3⟩)
    · exact ⟨0, Or.inl ⟨rfl, rfl⟩⟩
    · exact ⟨_, Or.inr ⟨qs, fin, k, h1, h2, h3, rfl⟩⟩

theorem b64Shape_ne_nil {t : Str} (h : B64Shape t) : t ≠ [] := by
  obtain ⟨qs, fin, k, rfl, -, hfin⟩ := h
  intro h0
  have := congrArg List.length h0
  rw [List.length_append, b64Final_length hfin] at this
  simp at this

/-- `Base64Binary(value)` accepts exactly the base64Binary literals (blanks removed) -/
theorem parseB64_iff (s t : Str) :
    parseB64 s = some t ↔ (t = s.filter (· != ' ') ∧ ∃ n, B64Lex t n) := by
  rw [b64Lex_iff, ← b64Groups_iff, ← List.isEmpty_iff]
  unfold parseB64
  simp only
  generalize s.filter (· != ' ') = u
  constructor
  · intro h
    split at h
    · cases h; exact ⟨rfl, .inl ‹_›⟩
    · split at h
      · cases h; exact ⟨rfl, .inr ‹_›⟩
      · cases h
  · rintro ⟨rfl, h | h⟩
    · rw [if_pos h]
    · rw [if_pos h]; split <;> rfl

/-- `len()` of a Base64Binary (the length facets) is the number of octets of the literal -/
theorem b64_len (t : Str) (n : Nat) (h : B64Lex t n) : b64Len t = n := by
  rcases h with ⟨rfl, rfl⟩ | ⟨qs, fin, k, rfl, hqs, hfin, rfl⟩
  · rfl
  · have hl := b64Quads_length qs hqs
    obtain ⟨a, b, c, d, rfl, h1, h⟩ := hfin
    have hlen : (qs.flatten ++ [a, b, c, d]).length = 4 * qs.length + 4 := by
      simp [hl]
    have hrev : (qs.flatten ++ [a, b, c, d]).reverse = d :: c :: b :: a :: qs.flatten.reverse := by
      simp
    unfold b64Len
    simp only [hlen, hrev, List.drop_succ_cons, List.drop_zero, List.head?_cons, Option.map_some,
      Option.getD_some, beq_iff_eq]
    rw [if_neg (Nat.succ_ne_zero _), Nat.mul_comm 4, Nat.add_div_right _ (by decide), Nat.mul_div_cancel _ (by decide),
      Nat.succ_mul, Nat.mul_comm]
    rcases h with ⟨h2, h3, h4, rfl⟩ | ⟨h2, h3, rfl, rfl⟩ | ⟨h2, rfl, rfl, rfl⟩
    · rw [if_neg (isB64_ne_eq c h3), if_neg (isB64_ne_eq d h4)]
    · rw [if_neg (b16_ne_eq c h3), if_pos rfl]; rfl
    · rw [if_pos rfl]; rfl

/-- `str(Base64Binary)` is the stored literal; decoding it again gives the same value -/
theorem b64_roundtrip (s t : Str) (h : parseB64 s = some t) : parseB64 t = some t := by
  obtain ⟨ht, hn⟩ := (parseB64_iff s t).mp h
  refine (parseB64_iff t t).mpr ⟨?_, hn⟩
  rw [ht, List.filter_filter]
  simp

end XsVerif.Datatypes
