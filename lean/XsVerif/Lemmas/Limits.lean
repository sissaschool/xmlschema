/-
  Helper lemmas for C11 (Model/Limits.lean): the parse folds over the events of a forest, the frame
  budget of the descent, the limit record.
-/
import XsVerif.Model.Limits

namespace XsVerif.Limits

theorem eagerGo_others (j : Nat) (rest : List Ev) (l e : Int) :
    eagerGo (List.replicate j Ev.other ++ rest) l e = eagerGo rest l e := by
  induction j with
  | zero => simp
  | succ n ih => simpa [List.replicate_succ, eagerGo] using ih

/-- the loop gets through a forest exactly when the forest is within both budgets; the level budget
    is then given back and the element budget reduced by the number of elements -/
theorem eagerGo_events_ok (f : Forest) (rest : List Ev) (l e : Int) (hl : 0 ≤ l) (he : 0 ≤ e) :
    eagerGo (f.events ++ rest) l e = .ok ↔
      (f.depth : Int) ≤ l ∧ (f.size : Int) ≤ e ∧ eagerGo rest l (e - f.size) = .ok := by
  induction f generalizing rest l e with
  | nil j => simp [Forest.events, Forest.depth, Forest.size, eagerGo_others, hl, he]
  | cons j c s ihc ihs =>
    simp only [Forest.events, Forest.depth, Forest.size, List.append_assoc, List.cons_append, eagerGo_others]
    rw [eagerGo]
    by_cases a1 : l - 1 < 0
    · simp [a1]; omega
    by_cases a2 : e - 1 < 0
    · simp [a1, a2]; omega
    have e1 : l - 1 + 1 = l := by omega
    have e2 : e - 1 - c.size - s.size = e - ↑(c.size + 1 + s.size) := by omega
    rw [if_neg a1, if_neg a2, ihc _ _ _ (by omega) (by omega), eagerGo, e1]
    constructor
    · rintro ⟨h1, h2, h3⟩
      obtain ⟨h4, h5, h6⟩ := (ihs _ _ _ hl (by omega)).1 h3
      exact ⟨by omega, by omega, e2 ▸ h6⟩
    · rintro ⟨h1, h2, h3⟩
      exact ⟨by omega, by omega, (ihs _ _ _ hl (by omega)).2 ⟨by omega, by omega, e2 ▸ h3⟩⟩

theorem eagerGo_eq_lazyGo (evs : List Ev) (l e : Int) (h : (evs.count .start : Int) ≤ e) :
    eagerGo evs l e = lazyGo evs l := by
  induction evs generalizing l e with
  | nil => rfl
  | cons ev k ih =>
    cases ev
    · rw [List.count_cons_self] at h
      have a2 : ¬ (e - 1 < 0) := by omega
      rw [eagerGo, lazyGo, if_neg a2, ih _ _ (by omega)]
    · exact ih _ _ (by simpa using h)
    · exact ih _ _ (by simpa using h)

theorem count_start_events (f : Forest) : f.events.count .start = f.size := by
  induction f with
  | nil j => simp [Forest.events, Forest.size, List.count_replicate]
  | cons j c s ihc ihs =>
    simp [Forest.events, Forest.size, List.count_replicate, ihc, ihs]
    omega

theorem descendFits_iff (tail : Nat) (f : Forest) (free : Int) :
    descendFits tail f free = true ↔ (2 * f.depth + tail : Int) ≤ free := by
  fun_induction descendFits tail f free
  case case1 => simp [Forest.depth]
  case case2 j c s free h =>
    simp only [framesPerLevel, Forest.depth] at h ⊢
    constructor
    · intro x; cases x
    · intro x; omega
  case case3 j c s free h ihc ihs =>
    simp only [framesPerLevel] at h ihc ⊢
    simp only [Forest.depth, Bool.and_eq_true, ihc, ihs]
    omega

theorem Limits.get_put (l : Limits) (a b : Limit) (v : Int) :
    (l.put a v).get b = if b = a then v else l.get b := by
  cases a <;> cases b <;> rfl

end XsVerif.Limits
