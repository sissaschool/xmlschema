/-
  C17 — decoded data denotes the document (`decodeT_root`): in stacked mode with the repointing rule `.repaired`, for
  a document `WellScoped` in the mapper's namespaces, the keys of the data tree built by the decoder (`decodeT`), read
  with nothing but the declarations the data itself reports, are the expanded names of the XML nodes.
  `decode_distinct` (every mode): the items of distinct siblings are distinct objects.
-/
import XsVerif.Model.NsMapper
import XsVerif.Lemmas.NsMapper
import XsVerif.Lemmas.NsStack
import XsVerif.Lemmas.NsSpec
import XsVerif.Lemmas.NsInv
import XsVerif.Lemmas.NsCollapse
import XsVerif.Lemmas.NsEncode
namespace XsVerif.Props.C17
open XsVerif.NsMapper XsVerif.NsMapper.Map XsVerif.NsMapper.Stack

theorem bind_empty_map (m : Map) (hn : Map.Nodup m) : Scope.bind Scope.empty m = m.get := by
  rw [show Scope.empty = Map.get [] from rfl, ← get_update_bind]
  funext k
  rcases get_update_cases [] m k with ⟨h, e⟩ | ⟨v, h, e⟩
  · rw [e, (get_eq_none_iff m k).mpr fun hk => let ⟨d, hd, hdk⟩ := List.mem_map.mp hk; h d hd hdk]
    rfl
  · rw [e, get_of_mem hn h]

theorem scope_bind_congr : ∀ (l : Xmlns) (s1 s2 : Scope), (∀ k, (∀ d ∈ l, d.1 ≠ k) → s1 k = s2 k) →
    Scope.bind s1 l = Scope.bind s2 l := by
  intro l
  induction l with
  | nil => exact fun s1 s2 h => funext fun k => h k nofun
  | cons d t ih =>
    refine fun s1 s2 h => ih _ _ fun k hk => ?_
    show (if d.1 = k then some d.2 else s1 k) = if d.1 = k then some d.2 else s2 k
    by_cases e : d.1 = k
    · rw [if_pos e, if_pos e]
    · rw [if_neg e, if_neg e]
      exact h k (List.forall_mem_cons.mpr ⟨e, hk⟩)

theorem readItem_node (s : Scope) (id : Nat) (key : PName) (isMap : Bool) (xmlns : Xmlns) (attrs : List PName)
    (ch : List Item) :
    readItem s (.node id key isMap xmlns attrs ch) =
      (id, readElem (s.bind xmlns) key, attrs.map (readAttr (s.bind xmlns))) :: readItems (s.bind xmlns) ch := rfl

theorem readable_node_congr {tab : Nat → String → Bool} {s s' : Scope} {id : Nat} {key : PName} {isMap : Bool}
    {xmlns : Xmlns} {attrs : List PName} {ch : List Item} (h : s.bind xmlns = s'.bind xmlns)
    (hr : Readable tab s' (.node id key isMap xmlns attrs ch)) : Readable tab s (.node id key isMap xmlns attrs ch) := by
  obtain ⟨h1, h2, h3, h4⟩ := hr
  exact ⟨h1, h ▸ h2, h ▸ h3, h ▸ h4⟩

theorem readElem_get (ns : Map) (n : PName) : readElem ns.get n = resolveElem ns n := by
  cases n <;> rfl

theorem readAttr_get (ns : Map) (n : PName) : readAttr ns.get n = resolveAttr ns n := by
  cases n <;> rfl

theorem not_mem_of_any_snd_false {l : Xmlns} {u x : String} (h : l.any (fun d => d.2 = u) = false) :
    (x, u) ∉ l := by
  intro hm
  have := List.any_eq_false.mp h (x, u) hm
  simp at this

/-- a key read in scope `s'` reads the same in any scope `s` that has the bindings of `s'` to the namespace of the
    name, and no default namespace where `s'` has none -/
theorem readElem_mono {s s' : Scope} {key : PName} {q : QN} (h : readElem s' key = some q)
    (hsome : ∀ p, s' p = some q.ns → s p = some q.ns) (hnone : s' "" = none → s "" = none) :
    readElem s key = some q := by
  obtain ⟨u, l⟩ := q
  rcases readElem_some_cases h with rfl | ⟨p, rfl, hp, hne⟩ | ⟨rfl, hd | ⟨hd, rfl⟩⟩
  · rfl
  · simp only [readElem, hsome p hp, if_neg hne]
  · simp only [readElem, hsome "" hd]
  · simp only [readElem, hnone hd]

/-- a key that resolves in the scope of an element whose own declarations do not bind the name's namespace
    resolves to the same name in the parent's scope -/
theorem resolveElem_parent {ns0 : Map} {decl : Xmlns} {key : PName} {q : QN}
    (h : resolveElem (Map.update ns0 decl) key = some q) (ha : decl.any (fun d => d.2 = q.ns) = false) :
    resolveElem ns0 key = some q := by
  rw [← readElem_get] at h ⊢
  refine readElem_mono h (fun p hp => ?_) fun hn => ?_
  · rcases get_update_cases ns0 decl p with ⟨_, e⟩ | ⟨v, hv, e⟩
    · exact e ▸ hp
    · cases e.symm.trans hp
      exact absurd hv (not_mem_of_any_snd_false ha)
  · rcases get_update_cases ns0 decl "" with ⟨_, e⟩ | ⟨v, _, e⟩
    · exact e ▸ hn
    · cases e.symm.trans hn

theorem readElem_empty_of_unbound {M : Map} {key : PName} {q : QN}
    (h : resolveElem M key = some q) (ha : M.any (fun d => d.2 = q.ns) = false) :
    readElem Scope.empty key = some q :=
  readElem_mono (readElem_get M key ▸ h) (fun _ hp => absurd (mem_of_get hp) (not_mem_of_any_snd_false ha))
    fun _ => rfl

/-- scope with which the reader arrives at an item of level `L` whose parent has the declarations `ns0` in scope -/
def scopeAt (L : Nat) (ns0 : Map) : Scope := if L = 0 then Scope.empty else ns0.get

/-- the declarations the item of an element at level `L` reports (`get_effective_xmlns`) -/
def xmOf (L : Nat) (ns0 : Map) (decl : Xmlns) : Xmlns := if L = 0 then Map.update ns0 decl else decl

theorem bind_xmOf {L : Nat} {ns0 : Map} (decl : Xmlns) (hn : Map.Nodup ns0) :
    (scopeAt L ns0).bind (xmOf L ns0 decl) = (Map.update ns0 decl).get := by
  unfold scopeAt xmOf
  by_cases hL : L = 0
  · simp only [hL, if_true]
    exact bind_empty_map _ (nodup_update hn decl)
  · simp only [hL, if_false]
    exact (get_update_bind ns0 decl).symm

theorem readElem_scopeAt_pruned {L : Nat} {ns0 : Map} {decl : Xmlns} {key : PName} {q : QN}
    (h : resolveElem (Map.update ns0 decl) key = some q)
    (ha : (xmOf L ns0 decl).any (fun d => d.2 = q.ns) = false) : readElem (scopeAt L ns0) key = some q := by
  unfold scopeAt
  unfold xmOf at ha
  by_cases hL : L = 0
  · simp only [hL, if_true] at ha ⊢
    exact readElem_empty_of_unbound h ha
  · simp only [hL, if_false] at ha ⊢
    rw [readElem_get]
    exact resolveElem_parent h ha

theorem reported_eq_xmOf {L : Nat} {r3 : SetResult} {E : Mapper} {ns0 : Map} {decl : Xmlns} (hm : r3.m = E)
    (hE : E.ns = Map.update ns0 decl) (hret : r3.ret = if decl.isEmpty then none else some decl) :
    reported L r3 = xmOf L ns0 decl := by
  unfold reported xmOf
  by_cases hL : L = 0
  · simp only [hL, if_true, hm, hE]
  · simp only [hL, if_false, hret]
    cases decl <;> rfl

theorem good_of_ready {L : Nat} {base : List Ctx} {ns0 rev0 : Map} {seen : List Nat} {m : Mapper}
    (hr : Ready L base ns0 rev0 seen m) (hi : Inv m) : Good ns0 rev0 ∧ ∀ c ∈ base, Good c.ns c.rev := by
  rcases hr with ⟨h1, h2, h3⟩ | ⟨c, h1, _, h3, h4, _⟩
  · exact ⟨h2 ▸ h3 ▸ hi.1, h1 ▸ hi.2⟩
  · exact ⟨h3 ▸ h4 ▸ hi.2 c (h1 ▸ List.mem_cons_self), fun c' hc' => hi.2 c' (h1 ▸ List.mem_cons_of_mem _ hc')⟩

/-- the item of one element (`keep_result_dict`) -/
def nodeItem (prune : Bool) (id : Nat) (tag : QN) (key : PName) (xm : Xmlns) (as : List PName)
    (items : List Item) : Item :=
  if keptItem prune tag xm as items then .node id key true xm as items else .node id key false [] [] []

theorem decodeT_eq (v : Variant) (a : AttrRule) (prune : Bool) (mode : Mode) (L id : Nat) (tag : QN)
    (attrs : List QN) (decl : Xmlns) (ch : List Tree) (m : Mapper) :
    decodeT v a prune mode L (.node id tag attrs decl ch) m =
      ((setContext v mode (decodeTList v a prune mode (L + 1) ch (setContext v mode m id L decl).m).1 id L decl).m,
       nodeItem prune id tag (mapQName (setContext v mode m id L decl).m tag)
         (reported L (setContext v mode (decodeTList v a prune mode (L + 1) ch
           (setContext v mode m id L decl).m).1 id L decl))
         (attrs.map (mapAttr a (setContext v mode (decodeTList v a prune mode (L + 1) ch
           (setContext v mode m id L decl).m).1 id L decl).m))
         (decodeTList v a prune mode (L + 1) ch (setContext v mode m id L decl).m).2) := by
  simp only [decodeT, nodeItem]
  split <;> rfl

theorem decodeTList_cons_eq (v : Variant) (a : AttrRule) (prune : Bool) (mode : Mode) (L : Nat) (t : Tree)
    (ts : List Tree) (m : Mapper) :
    decodeTList v a prune mode L (t :: ts) m =
      ((decodeTList v a prune mode L ts (decodeT v a prune mode L t m).1).1,
       (decodeT v a prune mode L t m).2 :: (decodeTList v a prune mode L ts (decodeT v a prune mode L t m).1).2) :=
  rfl

theorem decodeTList_nil_of (v : Variant) (a : AttrRule) (prune : Bool) (mode : Mode) (L : Nat) (ts : List Tree)
    (m : Mapper) (h : (decodeTList v a prune mode L ts m).2 = []) : ts = [] := by
  cases ts with
  | nil => rfl
  | cons t ts => rw [decodeTList_cons_eq] at h; cases h

/-- the keys a consistent mapper state produces for the tag and the attributes of an element resolve back in the
    namespaces of that state, under the side conditions `WellScoped` puts on the element -/
theorem mapped_keys_resolve (a : AttrRule) {E : Mapper} (hg : Good E.ns E.rev) (tag : QN) (attrs : List QN)
    (hw1 : tag.ns = "" → DefaultUnset E.ns)
    (hw2 : a = .current → ∀ x ∈ attrs, x.ns ≠ "" → E.ns.get "" ≠ some x.ns) :
    resolveElem E.ns (mapQName E tag) = some tag ∧ ∀ x ∈ attrs, resolveAttr E.ns (mapAttr a E x) = some x := by
  refine ⟨roundtrip_elem_grows E tag _ hg.1 (grows_refl _) hw1, fun x hx => ?_⟩
  cases a with
  | current => exact roundtrip_attr_grows_of_default E x _ hg.1 (grows_refl _) (hw2 rfl x hx)
  | repaired => exact roundtrip_attrR_grows E x _ hg.1 hg.2 (grows_refl _)

/-- the item built for an element from keys that resolve to its names in its own scope denotes the element, given
    that the items of the children denote the children -/
theorem nodeItem_denotes (prune : Bool) (tab : Nat → String → Bool) (id : Nat) (tag : QN) (attrs : List QN)
    (decl : Xmlns) (ch : List Tree) (L : Nat) (ns0 : Map) (key : PName) (f : QN → PName) (items : List Item)
    (hn0 : Map.Nodup ns0) (hkey : resolveElem (Map.update ns0 decl) key = some tag)
    (hattr : ∀ x ∈ attrs, resolveAttr (Map.update ns0 decl) (f x) = some x)
    (hlen : items = [] → ch = [])
    (hread : readItems (Map.update ns0 decl).get items = docNamesList ch)
    (hrd : UnqualDeclaredList tab (Map.update ns0 decl) ch → ReadableList tab (Map.update ns0 decl).get items) :
    readItem (scopeAt L ns0) (nodeItem prune id tag key (xmOf L ns0 decl) (attrs.map f) items) =
      docNames (.node id tag attrs decl ch) ∧
    (UnqualDeclared tab ns0 (.node id tag attrs decl ch) →
      Readable tab (scopeAt L ns0) (nodeItem prune id tag key (xmOf L ns0 decl) (attrs.map f) items)) := by
  have hbind : (scopeAt L ns0).bind (xmOf L ns0 decl) = (Map.update ns0 decl).get := bind_xmOf decl hn0
  unfold nodeItem
  by_cases hkp : keptItem prune tag (xmOf L ns0 decl) (attrs.map f) items = true
  · rw [if_pos hkp]
    have hattrs : (attrs.map f).map (readAttr (Map.update ns0 decl).get) = attrs.map some := by
      rw [List.map_map]
      exact List.map_congr_left fun x hx => (readAttr_get _ _).trans (hattr x hx)
    refine ⟨?_, fun ht => ⟨(fun h => nomatch h), ?_, fun k hk => ?_, ?_⟩⟩
    · rw [readItem_node, hbind, readElem_get, hkey, hattrs, hread]; rfl
    · rw [hbind, readElem_get, hkey]; exact Option.some_ne_none _
    · rw [hbind]
      obtain ⟨x, hx, rfl⟩ := List.mem_map.mp hk
      have hx' := hattr x hx
      refine ⟨by rw [readAttr_get, hx']; exact Option.some_ne_none _, fun l hl => ?_⟩
      -- an unprefixed key is that of an attribute in no namespace
      rw [hl] at hx'
      cases hx'
      exact ht.1 _ hx rfl
    · rw [hbind]; exact hrd ht.2
  · rw [if_neg hkp]
    -- the item was dropped: no attributes, no children, and no reported declaration binds the tag's namespace
    have hkp' := Bool.eq_false_iff.mpr hkp
    unfold keptItem at hkp'
    simp only [Bool.or_eq_false_iff, Bool.not_eq_false', List.isEmpty_iff, List.map_eq_nil_iff] at hkp'
    obtain ⟨⟨⟨_, hattrs⟩, hitems⟩, hany⟩ := hkp'
    have hch := hlen hitems
    subst hattrs; subst hch
    have hk' : readElem (scopeAt L ns0) key = some tag := readElem_scopeAt_pruned hkey hany
    refine ⟨?_, fun _ => ⟨fun _ => ⟨rfl, rfl, rfl⟩, ?_, (fun _ h => nomatch h), trivial⟩⟩
    · rw [readItem_node]
      show (id, readElem (scopeAt L ns0) _, []) :: [] = _
      rw [hk']; rfl
    · show readElem (scopeAt L ns0) _ ≠ none
      rw [hk']; exact Option.some_ne_none _

/-- what `decodeTList_main` says of a list of siblings, for one element -/
def DecSpec (a : AttrRule) (prune : Bool) (tab : Nat → String → Bool) (t : Tree) : Prop :=
  SibDistinct t → DeclsNodup t → ∀ (L : Nat) (m : Mapper) (base : List Ctx) (ns0 rev0 : Map)
    (seen : List Nat), Below L base → Ready L base ns0 rev0 seen m → Inv m → WellScoped a ns0 t →
    Tree.id t ∉ seen →
    Ready L base ns0 rev0 (Tree.id t :: seen) (decodeT .repaired a prune .stacked L t m).1 ∧
    Inv (decodeT .repaired a prune .stacked L t m).1 ∧
    readItem (scopeAt L ns0) (decodeT .repaired a prune .stacked L t m).2 = docNames t ∧
    (UnqualDeclared tab ns0 t → Readable tab (scopeAt L ns0) (decodeT .repaired a prune .stacked L t m).2)

theorem decodeTList_main (a : AttrRule) (prune : Bool) (tab : Nat → String → Bool) :
    ∀ (ts : List Tree), SibDistinctList ts → (ts.map Tree.id).Nodup → DeclsNodupList ts →
      ∀ (L : Nat) (m : Mapper) (base : List Ctx) (ns0 rev0 : Map) (seen : List Nat), Below L base →
      Ready L base ns0 rev0 seen m → Inv m → WellScopedList a ns0 ts → (∀ t ∈ ts, Tree.id t ∉ seen) →
      Ready L base ns0 rev0 ((ts.map Tree.id).reverse ++ seen) (decodeTList .repaired a prune .stacked L ts m).1 ∧
      Inv (decodeTList .repaired a prune .stacked L ts m).1 ∧
      readItems (scopeAt L ns0) (decodeTList .repaired a prune .stacked L ts m).2 = docNamesList ts ∧
      (UnqualDeclaredList tab ns0 ts →
        ReadableList tab (scopeAt L ns0) (decodeTList .repaired a prune .stacked L ts m).2) := by
  intro ts
  induction ts using Tree.rec_1 (motive_1 := DecSpec a prune tab) with
  | node id tag attrs decl ch ih =>
    intro hd hk L m base ns0 rev0 seen hb hr hi hw hid
    obtain ⟨hg0, hgb⟩ := good_of_ready hr hi
    have i1 : Inv (entered .repaired ns0 rev0 base id L decl) := entered_inv id L hg0 hgb hk.1 (Or.inl rfl)
    have hEns := entered_ns .repaired ns0 rev0 base id L decl
    rw [decodeT_eq, enter_spec .repaired id decl hb hr hid]
    obtain ⟨hr2, i2, hrd2, hrb2⟩ := ih hd.2 hd.1 hk.2 (L + 1)
      (entered .repaired ns0 rev0 base id L decl) _ _ _ [] (entered_stack_below .repaired hb ns0 rev0 id decl)
      (Or.inl ⟨rfl, rfl, rfl⟩) i1 (hEns ▸ hw.2.2) (fun _ _ h => nomatch h)
    obtain ⟨h3, h4⟩ := exit_spec .repaired ns0 rev0 id decl hb hr2
    have hsc : scopeAt (L + 1) (entered .repaired ns0 rev0 base id L decl).ns = (Map.update ns0 decl).get := by
      rw [hEns]; rfl
    rw [hsc] at hrd2 hrb2
    rw [hEns] at hrb2
    obtain ⟨hkey, hattr⟩ := mapped_keys_resolve a i1.1 tag attrs (hEns ▸ hw.1) (hEns ▸ hw.2.1)
    rw [hEns] at hkey hattr
    have hstep := nodeItem_denotes prune tab id tag attrs decl ch L ns0 _ _ _ hg0.2 hkey hattr
      (decodeTList_nil_of _ _ _ _ _ _ _) hrd2 hrb2
    rw [reported_eq_xmOf h3 hEns h4, h3]
    exact ⟨entered_ready .repaired ns0 rev0 base id L decl seen, i1, hstep.1, hstep.2⟩

  | nil => exact fun _ _ _ _ _ _ _ _ _ _ hr hi _ _ => ⟨hr, hi, rfl, fun _ => trivial⟩
  | cons t ts iht ihts =>
    intro hd hn hk L m base ns0 rev0 seen hb hr hi hw hs
    obtain ⟨hn1, hn2⟩ := List.nodup_cons.mp hn
    obtain ⟨hr1, i1, hd1, hb1⟩ := iht hd.1 hk.1 L m base ns0 rev0 seen hb hr hi hw.1
      (hs t List.mem_cons_self)
    obtain ⟨hr2, i2, hd2, hb2⟩ := ihts hd.2 hn2 hk.2 L _ base ns0 rev0
      (Tree.id t :: seen) hb hr1 i1 hw.2 (unseen_tail hn1 hs)
    rw [decodeTList_cons_eq]
    refine ⟨?_, i2, ?_, fun h => ⟨hb1 h.1, hb2 h.2⟩⟩
    · rw [List.map_cons, List.reverse_cons, List.append_assoc]; exact hr2
    · show readItem _ _ ++ readItems _ _ = _
      rw [hd1, hd2]; rfl

/-- what `decodeTList_distinct_aux` says of a list of siblings, for one element -/
def DistinctSpec (v : Variant) (a : AttrRule) (prune : Bool) (mode : Mode) (t : Tree) : Prop :=
  SibDistinct t → ∀ (L : Nat) (m : Mapper),
    ItemDistinct (decodeT v a prune mode L t m).2 ∧ Item.id (decodeT v a prune mode L t m).2 = Tree.id t

theorem decodeTList_distinct_aux (v : Variant) (a : AttrRule) (prune : Bool) (mode : Mode) :
    ∀ (ts : List Tree), SibDistinctList ts → ∀ (L : Nat) (m : Mapper),
      ItemDistinctList (decodeTList v a prune mode L ts m).2 ∧
      (decodeTList v a prune mode L ts m).2.map Item.id = ts.map Tree.id := by
  intro ts
  induction ts using Tree.rec_1 (motive_1 := DistinctSpec v a prune mode) with
  | node id tag attrs decl ch ih =>
    intro hd L m
    obtain ⟨h1, h2⟩ := ih hd.2 (L + 1) (setContext v mode m id L decl).m
    rw [decodeT_eq]
    unfold nodeItem
    split
    · exact ⟨⟨h2 ▸ hd.1, h1⟩, rfl⟩
    · exact ⟨⟨List.nodup_nil, trivial⟩, rfl⟩
  | nil => exact fun _ _ _ => ⟨trivial, rfl⟩
  | cons t ts iht ihts =>
    intro hd L m
    obtain ⟨h1, h2⟩ := iht hd.1 L m
    obtain ⟨h3, h4⟩ := ihts hd.2 L (decodeT v a prune mode L t m).1
    rw [decodeTList_cons_eq]
    exact ⟨⟨h1, h3⟩, by rw [List.map_cons, List.map_cons, h2, h4]⟩

theorem decode_distinct (a : AttrRule) (prune : Bool) (mode : Mode) (v : Variant) (t : Tree) (L : Nat) (m : Mapper)
    (hd : SibDistinct t) : ItemDistinct (decodeT v a prune mode L t m).2 :=
  (decodeTList_distinct_aux v a prune mode [t] ⟨hd, trivial⟩ L m).1.1

/-- the decoded data denotes the document and is readable for the encoder: for the latter, in addition, every
    attribute in no namespace is declared by its element's type or occurs where the default namespace is unset -/
theorem decodeT_root (a : AttrRule) (prune : Bool) (tab : Nat → String → Bool) (t : Tree) (m0 : Mapper)
    (hi : Inv m0) (h0 : m0.stack = []) (hk : DeclsNodup t) (hd : SibDistinct t) (hw : WellScoped a m0.ns t) :
    readItem Scope.empty (decodeT .repaired a prune .stacked 0 t m0).2 = docNames t ∧
    (UnqualDeclared tab m0.ns t → Readable tab Scope.empty (decodeT .repaired a prune .stacked 0 t m0).2) := by
  obtain ⟨_, _, h3, h4⟩ := decodeTList_main a prune tab [t] ⟨hd, trivial⟩
    (List.pairwise_singleton _ _) ⟨hk, trivial⟩ 0 m0 [] m0.ns m0.rev []
    (fun _ h => nomatch h) (Or.inl ⟨h0, rfl, rfl⟩) hi ⟨hw, trivial⟩ (fun _ _ h => nomatch h)
  exact ⟨(List.append_nil _).symm.trans (h3.trans (List.append_nil _)), fun ht => (h4 ⟨ht, trivial⟩).1⟩

end XsVerif.Props.C17
