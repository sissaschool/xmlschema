/-
  C01: the child loop of `XsdGroup.raw_decode` (port: `childStep`, `stopFirst`,
  `childErrors`) over a flat `sequence` with occurrence 1..1, simulated by the run automaton
  `runSeq` — for every word, with the fuel of the port never exhausted.
-/
import XsVerif.Lemmas.VisitorExactSeq

namespace XsVerif.CM
open XsVerif.Wildcard


/-- consume the occurrences of one leaf: `c` occurrences so far, `k` decides the rest of the word -/
def runLeaf (l : LeafSpec) (k : List QN → Bool) : Nat → List QN → Bool
  | c, [] => decide (l.lo ≤ c) && k []
  | c, q :: w =>
    if l.names.contains q && l.hi != some 0 then
      (if ltHi (c + 1) l.hi then runLeaf l k (c + 1) w else k w)
    else decide (l.lo ≤ c) && k (q :: w)

def runSeq : List LeafSpec → List QN → Bool
  | [], w => w.isEmpty
  | l :: rest, w => runLeaf l (runSeq rest) 0 w


def loopFrom (A : Arena) (n root i0 : Nat) (w : List QN) (L : LoopSt) : LoopSt :=
  (w.zipIdx i0).foldl (fun L (x : QN × Nat) => childStep A {} n root x.2 x.1 (4 * A.size + 8) L) L

/-- (no error at all, fuel exhausted) at the end of the child loop -/
def finishOk (A : Arena) (L : LoopSt) : Bool × Bool :=
  match L.s.element with
  | none => (L.errors.isEmpty, L.fuelOut || L.s.fuelOut)
  | some _ => (L.errors.isEmpty && (stopFirst A {} (4 * A.size + 8) L.s).1.isNone,
               L.fuelOut || L.s.fuelOut || (stopFirst A {} (4 * A.size + 8) L.s).2)

def res (A : Arena) (n root i0 : Nat) (w : List QN) (L : LoopSt) : Bool × Bool :=
  finishOk A (loopFrom A n root i0 w L)

theorem res_nil (A : Arena) (n root i0 : Nat) (L : LoopSt) : res A n root i0 [] L = finishOk A L := rfl

theorem res_cons (A : Arena) (n root i0 : Nat) (q : QN) (w : List QN) (L : LoopSt) :
    res A n root i0 (q :: w) L = res A n root (i0 + 1) w (childStep A {} n root i0 q (4 * A.size + 8) L) := rfl

theorem childErrors_res (A : Arena) (n root : Nat) (w : List QN)
    (hne : ((A.node root).kind == .choice && (A.node root).content.isEmpty && (A.node root).lo != 0) = false) :
    verdict A n root w = (res A n root 0 w { s := ocFix {} (init A n root) }).1 ∧
    (childErrors A n root w).fuelOut = (res A n root 0 w { s := ocFix {} (init A n root) }).2 := by
  unfold verdict childErrors res finishOk loopFrom
  simp only [hne, Bool.false_eq_true, if_false]
  generalize List.foldl _ _ _ = L'
  cases h : L'.s.element with
  | none => simp
  | some e =>
    simp only
    rcases h2 : stopFirst A {} (4 * A.size + 8) L'.s with ⟨a, b⟩
    cases a <;> simp


theorem childStep_none (A : Arena) (n root i : Nat) (q : QN) (f : Nat) (L : LoopSt) (h : L.s.element = none) :
    ∃ t, childStep A {} n root i q (f + 1) L = { L with errors := L.errors ++ t, broken := true } ∧
      (L.broken = false → t ≠ []) := by
  rw [childStep_ended A {} n root i q f h]
  split
  · exact ⟨_, rfl, fun _ => List.cons_ne_nil _ _⟩
  · split
    · rename_i hb
      refine ⟨[], ?_, fun h => by rw [h] at hb; cases hb⟩
      cases L; simp_all
    · exact ⟨_, rfl, fun _ => List.cons_ne_nil _ _⟩

theorem res_dead (A : Arena) (n root : Nat) : ∀ (w : List QN) (i0 : Nat) (L : LoopSt), L.s.element = none →
    L.fuelOut = false → L.s.fuelOut = false → (L.errors = [] → L.broken = false) →
    res A n root i0 w L = (L.errors.isEmpty && w.isEmpty, false) := by
  intro w
  induction w with
  | nil =>
    intro i0 L h1 h2 h3 _
    simp [res_nil, finishOk, h1, h2, h3]
  | cons q w ih =>
    intro i0 L h1 h2 h3 h4
    obtain ⟨t, e, ht⟩ := childStep_none A n root i0 q (4 * A.size + 7) L h1
    rw [res_cons, show 4 * A.size + 8 = 4 * A.size + 7 + 1 from rfl, e,
      ih (i0 + 1) { L with errors := L.errors ++ t, broken := true } h1 h2 h3]
    · -- an error was there already or has just been added
      have hne : L.errors ++ t ≠ [] := fun h =>
        have := List.append_eq_nil_iff.mp h
        ht (h4 this.1) this.2
      simp [hne]
    · intro h
      have := List.append_eq_nil_iff.mp h
      exact absurd this.2 (ht (h4 this.1))

theorem res_cleared (A : Arena) (n root i0 : Nat) (w : List QN) (L : LoopSt) (s' : St) (e : ChildErr)
    (hfo : L.fuelOut = false) :
    res A n root i0 w { L with s := ocFix {} (clear n root s'), errors := L.errors ++ [e], broken := true } =
      (false, false) := by
  refine (res_dead A n root w i0
    { L with s := ocFix {} (clear n root s'), errors := L.errors ++ [e], broken := true } rfl hfo rfl
    (by intro h; simp at h)).trans ?_
  simp


theorem advanceO_none (A : Arena) (s : St) (b : Bool) : advanceO A {} s b = advance A s b := rfl
theorem visitorMatchO_none (A : Arena) (s : St) (q : QN) : visitorMatchO A {} s q = (visitorMatch A s q, s) := rfl

theorem stopFirst_succ (A : Arena) (oc : OC) (f : Nat) (s : St) :
    stopFirst A oc (f + 1) s =
      match s.element with
      | none => (none, false)
      | some _ =>
        match (advanceO A oc s false).errs with
        | e :: _ => (some e, (advanceO A oc s false).st.fuelOut)
        | [] => if (advanceO A oc s false).st.fuelOut then (none, true)
                else stopFirst A oc f (advanceO A oc s false).st := by
  rw [stopFirst]
  cases s.element with
  | none => rfl
  | some e => cases advanceO A oc s false <;> rfl

/-- the run automaton from position `j`, with `c` occurrences of the leaf there already consumed -/
def runAt (ls : List LeafSpec) (j c : Nat) (w : List QN) : Bool :=
  match ls[j]? with
  | some l => runLeaf l (runSeq (ls.drop (j + 1))) c w
  | none => w.isEmpty

theorem runSeq_drop (ls : List LeafSpec) (j : Nat) (w : List QN) : runSeq (ls.drop j) w = runAt ls j 0 w := by
  unfold runAt
  cases h : ls[j]? with
  | some l =>
    obtain ⟨hlt, rfl⟩ := List.getElem?_eq_some_iff.mp h
    rw [List.drop_eq_getElem_cons hlt]; rfl
  | none => rw [List.drop_eq_nil_of_le (List.getElem?_eq_none_iff.mp h)]; rfl

section
variable {A : Arena} {n root : Nat} {ls : List LeafSpec} {F : FlatA A n root .seq 1 (some 1) ls}

theorem stopFirst_at : ∀ (fuel j c : Nat) (m : Bool) (s : St), At F j c m s → ls.length - j + 1 ≤ fuel →
    (stopFirst A {} fuel s).2 = false ∧ (stopFirst A {} fuel s).1.isNone = runAt ls j c [] := by
  intro fuel
  induction fuel with
  | zero => intro j c m s _ h; omega
  | succ f ih =>
    intro j c m s hat hf
    rw [stopFirst_succ]
    rcases hat with ⟨l, I, _⟩ | ⟨hj, hel, _⟩
    · have hj := (List.getElem?_eq_some_iff.mp I.hl).1
      simp only [I.elem, advanceO_none, runAt, I.hl, runLeaf]
      rw [runSeq_drop]
      obtain ⟨hfo, herr, hnext⟩ := I.adv_nomatch
      by_cases hlo : l.lo ≤ c
      · obtain ⟨h1, h2⟩ := ih (j + 1) 0 m _ (hnext hlo) (by omega)
        simp only [herr.mpr hlo, hfo, Bool.false_eq_true, if_false, h1, h2, hlo, decide_true, Bool.true_and, and_self]
      · cases he : (advance A s false).errs with
        | nil => exact absurd (herr.mp he) hlo
        | cons a b => simp [hfo, hlo]
    · simp [hel, runAt, hj]

theorem childStep_at (hok : ∀ l ∈ ls, l.okRange = true) (q : QN) (w : List QN) (i0 i1 : Nat)
    (ihw : ∀ (j c : Nat) (m : Bool) (L : LoopSt), At F j c m L.s → L.errors = [] → L.broken = false →
      L.fuelOut = false → res A n root i1 w L = (runAt ls j c w, false)) :
    ∀ (fuel j c : Nat) (m : Bool) (L : LoopSt), At F j c m L.s → L.errors = [] → L.broken = false →
      L.fuelOut = false → ls.length - j + 1 ≤ fuel →
      res A n root i1 w (childStep A {} n root i0 q fuel L) = (runAt ls j c (q :: w), false) := by
  intro fuel
  induction fuel with
  | zero => intro j c m L _ _ _ _ h; omega
  | succ f ih =>
    intro j c m L hat hLe hLb hLf hf
    rcases hat with ⟨l, I, hc⟩ | ⟨hj, hel, hfo⟩
    · have hj := (List.getElem?_eq_some_iff.mp I.hl).1
      simp only [runAt, I.hl, runLeaf]
      rw [runSeq_drop, runSeq_drop]
      cases hm : l.names.contains q && l.hi != some 0 with
      | true =>
        have hc' : ltHi c l.hi = true := (ltHi_eq_bne hc).trans (Bool.and_eq_true _ _ ▸ hm).2
        rw [childStep_matched A {} n root i0 q f I.elem
          ((visitorMatchO_none A L.s q).trans (by rw [I.visitorMatch, hm])), hLe, advanceO_none]
        simp only [if_true]
        cases hst : ltHi (c + 1) l.hi with
        | true =>
          obtain ⟨he, hat⟩ := I.adv_match_stay hc' hst
          rw [he]
          refine Eq.trans (ihw j (c + 1) true _ hat rfl hLb hLf) ?_
          simp only [runAt, I.hl, if_true]
        | false =>
          obtain ⟨he, hat⟩ := I.adv_match_leave (hok l I.mem) hc' hst
          rw [he]
          refine Eq.trans (ihw (j + 1) 0 true _ hat rfl hLb hLf) ?_
          simp only [Bool.false_eq_true, if_false]
      | false =>
        rw [childStep_unmatched A {} n root i0 q f I.elem
          ((visitorMatchO_none A L.s q).trans (by rw [I.visitorMatch, hm])), advanceO_none]
        simp only [Bool.false_eq_true, if_false]
        obtain ⟨_, herr, hnext⟩ := I.adv_nomatch
        by_cases hlo : l.lo ≤ c
        · rw [herr.mpr hlo]
          refine (ih (j + 1) 0 m { L with s := (advance A L.s false).st } (hnext hlo) hLe hLb hLf (by omega)).trans ?_
          simp only [hlo, decide_true, Bool.true_and]
        · cases he : (advance A L.s false).errs with
          | nil => exact absurd (herr.mp he) hlo
          | cons a b =>
            refine (res_cleared A n root i1 w L _ ⟨i0, a.particle, a.occurs⟩ hLf).trans ?_
            simp only [hlo, decide_false, Bool.false_and]
    · obtain ⟨t, e, ht⟩ := childStep_none A n root i0 q f L hel
      rw [e, res_dead A n root w i1 { L with errors := L.errors ++ t, broken := true } hel hLf hfo
        (fun h => absurd (List.append_eq_nil_iff.mp h).2 (ht hLb))]
      simp only [runAt, hj, hLe, List.nil_append, List.isEmpty_cons]
      cases t with
      | nil => exact absurd rfl (ht hLb)
      | cons a b => rfl

theorem seq_at (hok : ∀ l ∈ ls, l.okRange = true) (hlen : ls.length + 1 ≤ n) :
    ∀ (w : List QN) (i0 : Nat) (j c : Nat) (m : Bool) (L : LoopSt), At F j c m L.s → L.errors = [] →
      L.broken = false → L.fuelOut = false → res A n root i0 w L = (runAt ls j c w, false) := by
  have hsz : A.size = n := F.size
  intro w
  induction w with
  | nil =>
    intro i0 j c m L hat hLe _ hLf
    obtain ⟨h1, h2⟩ := stopFirst_at (4 * A.size + 8) j c m L.s hat (by omega)
    rcases hat with ⟨l, I, _⟩ | ⟨hj, hel, hfo⟩
    · simp [res_nil, finishOk, I.elem, hLe, hLf, I.fo, h1, h2]
    · simp [res_nil, finishOk, hel, hLe, hLf, hfo, runAt, hj]
  | cons q w ih =>
    intro i0 j c m L hat hLe hLb hLf
    rw [res_cons]
    exact childStep_at hok q w i0 (i0 + 1) (ih (i0 + 1)) _ j c m L hat hLe hLb hLf (by omega)

end
end XsVerif.CM
