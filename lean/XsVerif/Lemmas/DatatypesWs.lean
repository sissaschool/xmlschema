/-
  Helper lemmas for C02: the shape of white-space collapse (`_REGEX_SPACES.sub(' ', text).strip(' ')`,
  simple_types.py:454-470) for a class of white characters that holds the blank.
  Core Lean only.
-/
import XsVerif.Model.Datatypes

namespace XsVerif.Datatypes

/-- normal form of `squeeze`: every white character is a blank and no two white characters are adjacent;
    `prevW` = the character before the text is white (so the text must not start with one) -/
def sqz (W : Char → Bool) : Bool → Str → Bool
  | _, [] => true
  | prevW, c :: cs => if W c then (c == ' ' && !prevW && sqz W true cs) else sqz W false cs

theorem sqz_squeeze (W : Char → Bool) (hsp : W ' ' = true) (s : Str) (b : Bool) :
    sqz W b (squeeze W b s) = true := by
  induction s generalizing b with
  | nil => simp [squeeze, sqz]
  | cons c cs ih =>
    by_cases hc : W c = true
    · cases b with
      | true => simp only [squeeze, hc, if_true]; exact ih true
      | false => simp [squeeze, hc, sqz, hsp, ih true]
    · simp only [squeeze, hc, sqz, Bool.false_eq_true, if_false]; exact ih false

theorem sqz_mono (W : Char → Bool) (t : Str) (h : sqz W true t = true) : sqz W false t = true := by
  cases t with
  | nil => rfl
  | cons c cs =>
    by_cases hc : W c = true
    · simp [sqz, hc] at h
    · simpa [sqz, hc] using h

theorem sqz_of_any (W : Char → Bool) (b : Bool) (t : Str) (h : sqz W b t = true) : sqz W false t = true := by
  cases b with
  | true => exact sqz_mono W t h
  | false => exact h

theorem sqz_lstrip (W : Char → Bool) (b : Bool) (t : Str) (h : sqz W b t = true) :
    sqz W true (lstrip W t) = true := by
  induction t generalizing b with
  | nil => rfl
  | cons c cs ih =>
    by_cases hc : W c = true
    · simp only [lstrip, List.dropWhile_cons, hc, if_true]
      simp only [sqz, hc, if_true, Bool.and_eq_true] at h
      exact ih true h.2
    · simp only [lstrip, List.dropWhile_cons, hc, Bool.false_eq_true, if_false]
      simp only [sqz, hc, Bool.false_eq_true, if_false] at h ⊢
      exact h

theorem rstrip_cons (W : Char → Bool) (c : Char) (cs : Str) :
    rstrip W (c :: cs) = if rstrip W cs = [] ∧ W c = true then [] else c :: rstrip W cs := by
  rw [rstrip]
  cases rstrip W cs with
  | nil => by_cases h : W c = true <;> simp [h]
  | cons d r => simp

theorem sqz_rstrip (W : Char → Bool) (b : Bool) (t : Str) (h : sqz W b t = true) :
    sqz W b (rstrip W t) = true := by
  induction t generalizing b with
  | nil => rfl
  | cons c cs ih =>
    rw [rstrip_cons]
    split
    · rfl
    · simp only [sqz] at h ⊢
      split
      · rename_i hc
        rw [if_pos hc, Bool.and_eq_true] at h
        exact Bool.and_eq_true _ _ ▸ ⟨h.1, ih true h.2⟩
      · rename_i hc
        rw [if_neg hc] at h
        exact ih false h

theorem rstrip_last (W : Char → Bool) (t : Str) : ∀ x, (rstrip W t).getLast? = some x → W x = false := by
  induction t with
  | nil => simp [rstrip]
  | cons c cs ih =>
    intro x hx
    rw [rstrip_cons] at hx
    split at hx
    · cases hx
    · rename_i hn
      cases hr : rstrip W cs with
      | nil => rw [hr] at hx hn; cases hx; simpa [hr] using hn
      | cons d r => rw [hr] at hx ih; exact ih x (by simpa using hx)

theorem rstrip_fix (W : Char → Bool) (t : Str) (h : ∀ x, t.getLast? = some x → W x = false) :
    rstrip W t = t := by
  induction t with
  | nil => rfl
  | cons c cs ih =>
    simp only [rstrip]
    cases cs with
    | nil =>
      have := h c (by simp)
      simp [rstrip, this]
    | cons d r =>
      have i := ih (fun x hx => h x (by simpa [List.getLast?_cons_cons] using hx))
      rw [i]

theorem squeeze_fix (W : Char → Bool) (b : Bool) (t : Str) (h : sqz W b t = true) : squeeze W b t = t := by
  induction t generalizing b with
  | nil => rfl
  | cons c cs ih =>
    by_cases hc : W c = true
    · simp only [sqz, hc, if_true, Bool.and_eq_true, beq_iff_eq, Bool.not_eq_true'] at h
      obtain ⟨⟨h1, h2⟩, h3⟩ := h
      subst h2
      subst h1
      simp only [squeeze, hc, if_true, Bool.false_eq_true, if_false, ih true h3]
    · simp only [sqz, hc, Bool.false_eq_true, if_false] at h
      simp only [squeeze, hc, Bool.false_eq_true, if_false, ih false h]

theorem lstrip_fix (W : Char → Bool) (t : Str) (h : sqz W true t = true) : lstrip W t = t := by
  cases t with
  | nil => rfl
  | cons c cs =>
    by_cases hc : W c = true
    · simp [sqz, hc] at h
    · simp [lstrip, hc]

theorem sqz_spec (W : Char → Bool) (b : Bool) (t : Str) (h : sqz W b t = true) :
    (∀ c ∈ t, W c = true → c = ' ') ∧ (b = true → ∀ x, t.head? = some x → W x = false) ∧
    (∀ pre a c post, t = pre ++ a :: c :: post → ¬ (W a = true ∧ W c = true)) := by
  induction t generalizing b with
  | nil => simp
  | cons x xs ih =>
    obtain ⟨b', hb', hx⟩ : ∃ b', sqz W b' xs = true ∧ (W x = true → x = ' ' ∧ b = false ∧ b' = true) := by
      simp only [sqz] at h
      split at h
      · simp only [Bool.and_eq_true, beq_iff_eq, Bool.not_eq_true'] at h
        exact ⟨true, h.2, fun _ => ⟨h.1.1, h.1.2, rfl⟩⟩
      · rename_i hx; exact ⟨false, h, fun hw => absurd hw hx⟩
    obtain ⟨i1, i2, i3⟩ := ih b' hb'
    refine ⟨fun c hc hw => ?_, fun hb y hy => ?_, fun pre a c post e hw => ?_⟩
    · rcases List.mem_cons.mp hc with rfl | hc
      · exact (hx hw).1
      · exact i1 c hc hw
    · cases hy
      cases hw : W x
      · rfl
      · exact absurd (hx hw).2.1 (by simp [hb])
    · cases pre with
      | nil =>
        cases e
        have := i2 (hx hw.1).2.2 c rfl
        exact absurd hw.2 (by simp [this])
      | cons p ps => exact i3 ps a c post (List.cons.inj e).2 hw

theorem wsCollapse_sqz (W : Char → Bool) (hsp : W ' ' = true) (s : Str) :
    sqz W true (wsCollapse W s) = true := by
  unfold wsCollapse strip
  exact sqz_rstrip W true _ (sqz_lstrip W false _ (sqz_squeeze W hsp s false))

theorem wsCollapse_last (W : Char → Bool) (s : Str) : ∀ x, (wsCollapse W s).getLast? = some x → W x = false :=
  rstrip_last W _

theorem strip_squeeze_fix (W W' : Char → Bool) (t : Str) (h : sqz W true t = true) (h' : sqz W' true t = true)
    (hl : ∀ x, t.getLast? = some x → W' x = false) : strip W' (squeeze W false t) = t := by
  unfold strip
  rw [squeeze_fix W false t (sqz_mono W t h), lstrip_fix W' t h', rstrip_fix W' t hl]

theorem wsCollapse_fix (W : Char → Bool) (t : Str) (h1 : sqz W true t = true)
    (h2 : ∀ x, t.getLast? = some x → W x = false) : wsCollapse W t = t :=
  strip_squeeze_fix W W t h1 h1 h2

theorem splitWs_squeeze (W : Char → Bool) (hsp : W ' ' = true) (s : Str) (b : Bool) (cur : Str)
    (hb : b = true → cur = []) : splitWs W cur (squeeze W b s) = splitWs W cur s := by
  induction s generalizing b cur with
  | nil => simp [squeeze]
  | cons c cs ih =>
    by_cases hc : W c = true
    · cases b with
      | true =>
        have := hb rfl; subst this
        simp only [squeeze, hc, if_true, splitWs, List.isEmpty_nil]
        exact ih true [] (fun _ => rfl)
      | false =>
        simp only [squeeze, hc, if_true, splitWs, hsp, Bool.false_eq_true, if_false]
        rw [ih true [] (fun _ => rfl)]
    · simp only [squeeze, hc, splitWs, Bool.false_eq_true, if_false]
      exact ih false (c :: cur) (by simp)

theorem splitWs_lstrip (W : Char → Bool) (s : Str) : splitWs W [] (lstrip W s) = splitWs W [] s := by
  induction s with
  | nil => rfl
  | cons c cs ih =>
    by_cases hc : W c = true
    · simp [lstrip, List.dropWhile, hc, splitWs] at *; exact ih
    · simp [lstrip, List.dropWhile, hc]

theorem splitWs_rstrip (W : Char → Bool) (s : Str) (cur : Str) :
    splitWs W cur (rstrip W s) = splitWs W cur s := by
  induction s generalizing cur with
  | nil => rfl
  | cons c cs ih =>
    rw [rstrip_cons]
    split
    · -- `c` and all of `cs` are white: no further word starts
      rename_i h
      simp only [splitWs, h.2, if_true]
      rw [← ih [], h.1]
      cases cur <;> rfl
    · simp only [splitWs, ih]

theorem sqz_congr (W W' : Char → Bool) (b : Bool) (t : Str) (h : ∀ c ∈ t, W c = W' c) :
    sqz W b t = sqz W' b t := by
  induction t generalizing b with
  | nil => rfl
  | cons c cs ih =>
    have hc := h c (by simp)
    have hcs : ∀ x ∈ cs, W x = W' x := fun x hx => h x (by simp [hx])
    simp only [sqz, hc, ih _ hcs]

theorem mem_squeeze (W : Char → Bool) (b : Bool) (s : Str) : ∀ c ∈ squeeze W b s, c ∈ s ∨ c = ' ' := by
  induction s generalizing b with
  | nil => simp [squeeze]
  | cons x xs ih =>
    intro c hc
    simp only [squeeze] at hc
    have step : ∀ b', c ∈ squeeze W b' xs → c ∈ x :: xs ∨ c = ' ' := fun b' h =>
      (ih b' c h).imp_left (List.mem_cons_of_mem _)
    split at hc
    · split at hc
      · exact step _ hc
      · rcases List.mem_cons.mp hc with rfl | hc
        · exact .inr rfl
        · exact step _ hc
    · rcases List.mem_cons.mp hc with rfl | hc
      · exact .inl (List.mem_cons_self ..)
      · exact step _ hc

theorem mem_rstrip (W : Char → Bool) (s : Str) : ∀ c ∈ rstrip W s, c ∈ s := by
  induction s with
  | nil => simp [rstrip]
  | cons x xs ih =>
    intro c hc
    rw [rstrip_cons] at hc
    split at hc
    · cases hc
    · exact (List.mem_cons.mp hc).elim (· ▸ List.mem_cons_self ..) fun h => List.mem_cons_of_mem _ (ih c h)

theorem mem_wsCollapse (W : Char → Bool) (s : Str) : ∀ c ∈ wsCollapse W s, c ∈ s ∨ c = ' ' := by
  intro c hc
  unfold wsCollapse strip lstrip at hc
  exact mem_squeeze W false s c ((List.dropWhile_sublist W).subset (mem_rstrip W _ c hc))

theorem xmlWs_sub_epWs (c : Char) (h : isXmlWs c = true) : isEpWs c = true := by
  simp only [isXmlWs, Bool.or_eq_true, beq_iff_eq] at h
  rcases h with ((rfl | rfl) | rfl) | rfl <;> decide +kernel

/-- a text that xmlschema has collapsed and that contains no white space outside the XSD class is left
    unchanged by elementpath's `collapse_white_spaces` -/
theorem epCollapse_collapsed (s : Str) (h : ∀ c ∈ s, isEpWs c = true → isXmlWs c = true) :
    epCollapse (wsCollapse isXmlWs s) = wsCollapse isXmlWs s := by
  have hq := wsCollapse_sqz isXmlWs (by decide) s
  have hl := wsCollapse_last isXmlWs s
  obtain ⟨h1, -, -⟩ := sqz_spec isXmlWs true _ hq
  have hmem := mem_wsCollapse isXmlWs s
  generalize wsCollapse isXmlWs s = t at *
  -- on the characters of `t` the three classes coincide: white means blank
  have hb : ∀ c ∈ t, isEpWs c = true → c = ' ' := fun c hc he =>
    (hmem c hc).elim (fun hs => h1 c hc (h c hs he)) id
  have e1 : ∀ c ∈ t, isXmlWs c = isEpWs c := fun c hc =>
    Bool.eq_iff_iff.mpr ⟨xmlWs_sub_epWs c, fun he => by rw [hb c hc he]; decide⟩
  have e2 : ∀ c ∈ t, isXmlWs c = (c == ' ') := fun c hc =>
    Bool.eq_iff_iff.mpr ⟨fun hx => by rw [h1 c hc hx]; rfl, fun he => by rw [eq_of_beq he]; decide⟩
  refine strip_squeeze_fix isEpWs (· == ' ') t ?_ ?_ fun x hx => ?_
  · rw [← sqz_congr isXmlWs isEpWs true t e1]; exact hq
  · rw [← sqz_congr isXmlWs (· == ' ') true t e2]; exact hq
  · rw [← e2 x (List.mem_of_getLast? hx)]; exact hl x hx

end XsVerif.Datatypes
