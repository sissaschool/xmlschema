/-
  Lemmas for C14: normalisation preserves the language, soundness of inclusion certificates and of
  both answers of `inclDecide`, the language of a repeated symbol (leaf
  particles), and `rep` is monotone in its range.
-/
import XsVerif.Lemmas.Rx
import XsVerif.Model.Incl

namespace XsVerif.Rx
variable {L σ : Type} (m : L → σ → Bool)

theorem altList_iff (r : Rx L) (w : List σ) : (∃ x ∈ altList r, Lang m x w) ↔ Lang m r w := by
  have single (r : Rx L) : (∃ x ∈ [r], Lang m x w) ↔ Lang m r w := by simp
  induction r with
  | alt r s ihr ihs =>
    simp only [altList, List.mem_append, Lang, ← ihr, ← ihs, or_and_right, exists_or]
  | empty => exact single _
  | eps => exact single _
  | sym a => exact single _
  | cat r s _ _ => exact single _
  | rep r lo hi _ => exact single _
  | shuffle r s _ _ => exact single _

theorem ofAltList_iff (l : List (Rx L)) (w : List σ) :
    Lang m (ofAltList l) w ↔ ∃ x ∈ l, Lang m x w := by
  induction l with
  | nil => simp [ofAltList, Lang]
  | cons a t ih =>
    cases t with
    | nil => simp [ofAltList]
    | cons b t' =>
      simp only [ofAltList, Lang] at ih ⊢
      rw [ih]
      simp

theorem mem_dedupL [DecidableEq L] (l : List (Rx L)) (x : Rx L) : x ∈ dedupL l ↔ x ∈ l := by
  induction l with
  | nil => exact Iff.rfl
  | cons a t ih =>
    simp only [dedupL]
    split
    · rename_i h
      rw [ih, List.mem_cons]
      exact ⟨.inr, fun hx => hx.elim (fun e => e ▸ List.contains_iff_mem.mp h) id⟩
    · rw [List.mem_cons, List.mem_cons, ih]

theorem mkAlt_iff [DecidableEq L] (r s : Rx L) (w : List σ) :
    Lang m (mkAlt r s) w ↔ Lang m r w ∨ Lang m s w := by
  unfold mkAlt
  rw [ofAltList_iff, ← altList_iff m r, ← altList_iff m s, ← exists_or]
  refine exists_congr fun x => ?_
  rw [mem_dedupL, List.mem_filter, List.mem_append, ← or_and_right]
  -- an alternative with a word is not one of those filtered out
  refine ⟨fun h => ⟨h.1.1, h.2⟩, fun h => ⟨⟨h.1, ?_⟩, h.2⟩⟩
  cases he : isEmpty x with
  | false => rfl
  | true => exact absurd h.2 (isEmpty_sound m x he w)

theorem isEps_eq {r : Rx L} (h : isEps r = true) : r = .eps := by
  cases r <;> simp [isEps] at h ⊢

/-- the shape shared by `mkCat` and `mkShuffle` -/
theorem mkOp_iff (op : Rx L → Rx L → Rx L) (r s : Rx L) (w : List σ)
    (hne : Lang m (op r s) w → ∃ u v, Lang m r u ∧ Lang m s v)
    (hl : Lang m (op .eps s) w ↔ Lang m s w) (hr : Lang m (op r .eps) w ↔ Lang m r w) :
    Lang m (if isEmpty r || isEmpty s then .empty else if isEps r then s else if isEps s then r
      else op r s) w ↔ Lang m (op r s) w := by
  by_cases h0 : (isEmpty r || isEmpty s) = true
  · rw [if_pos h0]
    refine ⟨False.elim, fun h => ?_⟩
    obtain ⟨u, v, hu, hv⟩ := hne h
    rcases Bool.or_eq_true _ _ ▸ h0 with h0 | h0
    · exact isEmpty_sound m r h0 u hu
    · exact isEmpty_sound m s h0 v hv
  · rw [if_neg h0]
    by_cases h1 : isEps r = true
    · rw [if_pos h1, isEps_eq h1]; exact hl.symm
    · rw [if_neg h1]
      by_cases h2 : isEps s = true
      · rw [if_pos h2, isEps_eq h2]; exact hr.symm
      · rw [if_neg h2]

theorem mkCat_iff (r s : Rx L) (w : List σ) : Lang m (mkCat r s) w ↔ Lang m (.cat r s) w := by
  refine mkOp_iff m .cat r s w ?_ ⟨?_, fun h => ⟨[], w, rfl, rfl, h⟩⟩
    ⟨?_, fun h => ⟨w, [], (List.append_nil w).symm, h, rfl⟩⟩
  · rintro ⟨u, v, _, hu, hv⟩; exact ⟨u, v, hu, hv⟩
  · rintro ⟨_, _, rfl, rfl, hv⟩; exact hv
  · rintro ⟨_, _, rfl, hu, rfl⟩; rwa [List.append_nil]

theorem mkShuffle_iff (r s : Rx L) (w : List σ) :
    Lang m (mkShuffle r s) w ↔ Lang m (.shuffle r s) w := by
  refine mkOp_iff m .shuffle r s w ?_ ⟨?_, fun h => ⟨[], w, interleave_nil_left.mpr rfl, rfl, h⟩⟩
    ⟨?_, fun h => ⟨w, [], interleave_nil_right.mpr rfl, h, rfl⟩⟩
  · rintro ⟨u, v, _, hu, hv⟩; exact ⟨u, v, hu, hv⟩
  · rintro ⟨_, _, hi, rfl, hv⟩; rwa [← interleave_nil_left.mp hi]
  · rintro ⟨_, _, hi, hu, rfl⟩; rwa [← interleave_nil_right.mp hi]

theorem norm_iff [DecidableEq L] (r : Rx L) : ∀ w, Lang m (norm r) w ↔ Lang m r w := by
  induction r with
  | empty => exact fun _ => Iff.rfl
  | eps => exact fun _ => Iff.rfl
  | sym a => exact fun _ => Iff.rfl
  | rep r lo hi _ => exact fun _ => Iff.rfl
  | cat r s ihr ihs => intro w; simp only [norm, mkCat_iff, Lang, ihr, ihs]
  | alt r s ihr ihs => intro w; simp only [norm, mkAlt_iff, Lang, ihr, ihs]
  | shuffle r s ihr ihs => intro w; simp only [norm, mkShuffle_iff, Lang, ihr, ihs]

theorem step_iff [DecidableEq L] (c : σ) (r : Rx L) (w : List σ) :
    Lang m (step m c r) w ↔ Lang m r (c :: w) := by
  unfold step
  rw [norm_iff, deriv_iff]

/-- a closed set of pairs is a simulation: inclusion holds for every pair in it, on every word over
    the alphabet the closure was computed for. -/
theorem closed_sound [DecidableEq L] (sig : List σ) (S : List (Rx L × Rx L))
    (h : closedB m sig S = true) :
    ∀ w : List σ, (∀ c ∈ w, c ∈ sig) → ∀ d b, (d, b) ∈ S → Lang m d w → Lang m b w := by
  unfold closedB at h
  rw [List.all_eq_true] at h
  intro w
  induction w with
  | nil =>
    intro _ d b hmem hd
    have := h (d, b) hmem
    simp only [Bool.and_eq_true, Bool.or_eq_true, Bool.not_eq_true'] at this
    rcases this.1 with hn | hn
    · have := (nullable_iff m d).mpr hd
      rw [hn] at this; cases this
    · exact (nullable_iff m b).mp hn
  | cons c w ih =>
    intro hw d b hmem hd
    have hp := h (d, b) hmem
    simp only [Bool.and_eq_true, List.all_eq_true, Bool.or_eq_true] at hp
    have hc := hp.2 c (hw c (by simp))
    have hd' : Lang m (step m c d) w := (step_iff m c d w).mpr hd
    rcases hc with he | hc
    · exact absurd hd' (isEmpty_sound m _ he w)
    · have hmem' : (step m c d, step m c b) ∈ S := by simpa using hc
      have := ih (fun x hx => hw x (by simp [hx])) _ _ hmem' hd'
      exact (step_iff m c b w).mp this

/-- `included` is only answered with a closed certificate that contains the start pair. -/
theorem inclDecide_included [DecidableEq L] (sig : List σ) (fuel : Nat) (d b : Rx L)
    (h : inclDecide m sig fuel d b = .included) :
    ∀ w : List σ, (∀ c ∈ w, c ∈ sig) → Lang m d w → Lang m b w := by
  unfold inclDecide inclRun at h
  split at h
  · simp at h
  · simp only at h; split at h <;> simp at h
  · rename_i S _
    simp only at h
    split at h
    · rename_i hc
      simp only [Bool.and_eq_true, Bool.or_eq_true] at hc
      intro w hw hd
      rcases hc.2 with he | hm
      · exact absurd hd (isEmpty_sound m d he w)
      · exact closed_sound m sig S hc.1 w hw d b (by simpa using hm) hd
    · simp at h

theorem inclDecide_witness [DecidableEq L] (sig : List σ) (fuel : Nat) (d b : Rx L) (w : List σ)
    (h : inclDecide m sig fuel d b = .witness w) : Lang m d w ∧ ¬ Lang m b w := by
  unfold inclDecide inclRun at h
  split at h
  · simp at h
  · rename_i w' _
    simp only at h
    split at h
    · rename_i hc
      simp only [InclVerdict.witness.injEq] at h
      subst h
      simp only [Bool.and_eq_true, Bool.not_eq_true'] at hc
      refine ⟨(accepts_iff m d w').mp hc.1, ?_⟩
      intro hb
      have := (accepts_iff m b w').mpr hb
      rw [hc.2] at this; cases this
    · simp at h
  · simp only at h; split at h <;> simp at h

/-! ### repetition of a single symbol (leaf particles) -/

theorem leHi_trans {n k : Nat} {hi : Option Nat} (h : n ≤ k) (hk : leHi k hi) : leHi n hi :=
  leHi_mono h hk

theorem rep_sym_iff (a : L) (lo : Nat) (hi : Option Nat) (w : List σ) :
    Lang m (.rep (.sym a) lo hi) w ↔ lo ≤ w.length ∧ leHi w.length hi ∧ ∀ c ∈ w, m a c = true := by
  constructor
  · rintro ⟨ws, rfl, hlo, hhi, hall⟩
    have key : ∀ ws : List (List σ), (∀ x ∈ ws, Lang m (.sym a) x) →
        ws.flatten.length = ws.length ∧ ∀ c ∈ ws.flatten, m a c = true := by
      intro ws h
      induction ws with
      | nil => exact ⟨rfl, nofun⟩
      | cons x t ih =>
        obtain ⟨c, rfl, hc⟩ := h x List.mem_cons_self
        obtain ⟨h1, h2⟩ := ih fun y hy => h y (List.mem_cons_of_mem _ hy)
        exact ⟨congrArg (· + 1) h1, fun c' hc' => (List.mem_cons.mp hc').elim (· ▸ hc) (h2 c')⟩
    obtain ⟨h1, h2⟩ := key ws hall
    rw [h1]
    exact ⟨hlo, hhi, h2⟩
  · rintro ⟨hlo, hhi, hall⟩
    refine ⟨w.map (fun c => [c]), ?_, by simpa using hlo, by simpa using hhi, fun x hx => ?_⟩
    · rw [← List.flatMap_def, List.flatMap_singleton']
    · obtain ⟨c, hc, rfl⟩ := List.mem_map.mp hx
      exact ⟨c, rfl, hall c hc⟩

theorem rep_mono_range {x : Rx L} {lo lo' : Nat} {hi hi' : Option Nat} (hlo : lo' ≤ lo)
    (hhi : ∀ n, leHi n hi → leHi n hi') : ∀ w, Lang m (.rep x lo hi) w → Lang m (.rep x lo' hi') w := by
  rintro w ⟨ws, hw, h1, h2, hall⟩
  exact ⟨ws, hw, Nat.le_trans hlo h1, hhi _ h2, hall⟩

end XsVerif.Rx
