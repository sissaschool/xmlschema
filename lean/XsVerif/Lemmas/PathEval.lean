/-
  Helper lemmas for the path evaluators of Model/PathEval.lean (C20).  Plain Lean core.
-/
import XsVerif.Model.PathEval

namespace XsVerif.PathEval
open XsVerif.Lazy XsVerif.SchemaPaths

theorem mem_pick {α : Type} : ∀ (p : Option Nat) (l : List α) (x : α), x ∈ pick p l → x ∈ l
  | none, _, _, h => h
  | some 0, _, _, h => nomatch h
  | some (_ + 1), _, _, h => List.mem_of_mem_drop (List.mem_of_mem_take h)

theorem mem_pickS : ∀ (p : Option Nat) (l : List Decl) (x : Decl), x ∈ pickS p l → x ∈ l
  | none, _, _, h => h
  | some k, l, x, h => by
    rw [pickS] at h
    split at h
    · exact h
    · exact mem_pick _ _ _ h

theorem mem_dedupC (l : List CNode) (y : CNode) (h : y ∈ dedupC l) : y ∈ l := by
  induction l with
  | nil => exact h
  | cons x xs ih =>
    rcases List.mem_cons.mp h with rfl | h
    · exact List.mem_cons_self
    · exact List.mem_cons_of_mem _ (ih (List.mem_filter.mp h).1)

theorem mem_insertC (x y : CNode) (l : List CNode) (h : y ∈ insertC x l) : y = x ∨ y ∈ l := by
  induction l with
  | nil => exact Or.inl (List.mem_singleton.mp h)
  | cons z zs ih =>
    rw [insertC] at h
    split at h
    · exact List.mem_cons.mp h
    · rcases List.mem_cons.mp h with rfl | h
      · exact Or.inr List.mem_cons_self
      · exact (ih h).imp_right (List.mem_cons_of_mem _)

theorem mem_sortC (l : List CNode) (y : CNode) (h : y ∈ sortC l) : y ∈ l := by
  induction l with
  | nil => exact h
  | cons x xs ih =>
    rcases mem_insertC x y _ h with rfl | h
    · exact List.mem_cons_self
    · exact List.mem_cons_of_mem _ (ih h)

mutual
theorem dosT_chain (ch : List String) (t : Tree) : ∀ c ∈ dosT ch t, ∃ mid, c.1 = ch ++ mid := by
  cases t with
  | node i tg ds cs =>
    intro c hc
    simp only [dosT, List.mem_cons] at hc
    rcases hc with hc | hc
    · exact ⟨[], by simp [hc]⟩
    · exact dosF_chain ch cs c hc
theorem dosF_chain (ch : List String) (ts : List Tree) : ∀ c ∈ dosF ch ts, ∃ mid, c.1 = ch ++ mid := by
  cases ts with
  | nil => intro c hc; simp [dosF] at hc
  | cons t ts =>
    intro c hc
    simp only [dosF, List.mem_append] at hc
    rcases hc with hc | hc
    · obtain ⟨mid, hm⟩ := dosT_chain (ch ++ [t.tag]) t c hc
      exact ⟨t.tag :: mid, by simp [hm]⟩
    · exact dosF_chain ch ts c hc
end

theorem sel_chain (s : Step) (L : List Tree) (f : String → List String) (x : CNode)
    (h : x ∈ (pick s.pos (L.filter fun k => nameOk s k.tag)).map fun k => (f k.tag, k)) :
    ∃ tg, x.1 = f tg ∧ nameOk s tg = true := by
  obtain ⟨k, hk, rfl⟩ := List.mem_map.mp h
  exact ⟨k.tag, rfl, (List.mem_filter.mp (mem_pick _ _ _ hk)).2⟩

/-- the nodes a step visits from `c` carry the chain of `c`, extended (for `//` only) by any tags -/
theorem visit_chain (s : Step) (c v : CNode) (h : v ∈ visit s c) :
    ∃ mid, v.1 = c.1 ++ mid ∧ (s.desc = false → mid = []) := by
  rw [visit] at h
  split at h
  · next hd =>
    obtain ⟨mid, hm⟩ := dosT_chain c.1 c.2 v h
    exact ⟨mid, hm, fun h0 => absurd (h0.symm.trans hd) Bool.false_ne_true⟩
  · cases List.mem_singleton.mp h
    exact ⟨[], (List.append_nil _).symm, fun _ => rfl⟩

/-- one step: the new chain is the old one, then (for `//`) any tags, then one tag that passes the name test -/
theorem stepI_chain (s : Step) (ctx : List CNode) (x : CNode) (h : x ∈ stepI s ctx) :
    ∃ c ∈ ctx, ∃ mid tg, x.1 = c.1 ++ mid ++ [tg] ∧ nameOk s tg = true ∧ (s.desc = false → mid = []) := by
  obtain ⟨c, hc, hx⟩ := List.mem_flatMap.mp (mem_dedupC _ _ h)
  obtain ⟨v, hv, hx⟩ := List.mem_flatMap.mp hx
  obtain ⟨tg, hxt, hn⟩ := sel_chain s _ (fun tg => v.1 ++ [tg]) x hx
  obtain ⟨mid, hm, hd⟩ := visit_chain s c v hv
  exact ⟨c, hc, mid, tg, by rw [hxt, hm], hn, hd⟩

theorem matchesB_desc_skip (s : Step) (ss : List Step) (hd : s.desc = true) :
    ∀ (mid rest : List String), matchesB (s :: ss) rest = true → matchesB (s :: ss) (mid ++ rest) = true
  | [], rest, h => by simpa using h
  | m :: mid, rest, h => by
    have ih := matchesB_desc_skip s ss hd mid rest h
    simp only [List.cons_append, matchesB, hd, Bool.true_and, ih, Bool.or_true]

theorem matchesB_step (s : Step) (ss : List Step) (mid : List String) (tg : String) (suf : List String)
    (hn : nameOk s tg = true) (hm : s.desc = false → mid = []) (hs : matchesB ss suf = true) :
    matchesB (s :: ss) (mid ++ [tg] ++ suf) = true := by
  have base : matchesB (s :: ss) (tg :: suf) = true := by
    simp only [matchesB, hn, hs, Bool.and_self, Bool.true_or]
  by_cases hd : s.desc = true
  · have := matchesB_desc_skip s ss hd mid (tg :: suf) base
    simpa using this
  · have : mid = [] := hm (by simpa using hd)
    subst this
    simpa using base

/-- every chain selected from a context extends a context chain by a suffix that matches the remaining steps -/
theorem selFrom_chain : ∀ (ss : List Step) (ctx : List CNode) (x : CNode), x ∈ selFrom ctx ss →
    ∃ c ∈ ctx, ∃ suf, x.1 = c.1 ++ suf ∧ matchesB ss suf = true
  | [] => fun ctx x h => by
    simp only [selFrom] at h
    exact ⟨x, h, [], by simp, by simp [matchesB]⟩
  | s :: ss => fun ctx x h => by
    simp only [selFrom] at h
    obtain ⟨c1, hc1, suf, hx, hs⟩ := selFrom_chain ss (stepI s ctx) x h
    obtain ⟨c, hc, mid, tg, hc1x, hn, hm⟩ := stepI_chain s ctx c1 hc1
    refine ⟨c, hc, mid ++ [tg] ++ suf, by simp [hx, hc1x], matchesB_step s ss mid tg suf hn hm hs⟩

theorem firstAbs_chain (s : Step) (t : Tree) (x : CNode) (h : x ∈ firstAbs s t) :
    ∃ mid tg, x.1 = mid ++ [tg] ∧ nameOk s tg = true ∧ (s.desc = false → mid = []) := by
  have hdoc : x ∈ docKids s t → ∃ mid tg, x.1 = mid ++ [tg] ∧ nameOk s tg = true ∧ (s.desc = false → mid = []) :=
    fun h' => by
      obtain ⟨tg, h1, h2⟩ := sel_chain s _ (fun tg => [tg]) x h'
      exact ⟨[], tg, h1, h2, fun _ => rfl⟩
  rw [firstAbs] at h
  split at h
  · next hd =>
    rcases List.mem_append.mp (mem_dedupC _ _ (mem_sortC _ _ h)) with h' | h'
    · exact hdoc h'
    · obtain ⟨v, hv, hx⟩ := List.mem_flatMap.mp h'
      obtain ⟨mid, hm⟩ := dosT_chain [t.tag] t v hv
      obtain ⟨tg, hxt, hn⟩ := sel_chain s _ (fun tg => v.1 ++ [tg]) x hx
      exact ⟨[t.tag] ++ mid, tg, by rw [hxt, hm], hn, fun h0 => absurd (h0.symm.trans hd) Bool.false_ne_true⟩
  · exact hdoc h

def Same (d g : Decl) : Prop := d.name = g.name ∧ d.ty = g.ty

theorem mem_dedup (l : List Decl) (y : Decl) : y ∈ dedup l ↔ y ∈ l := by
  induction l with
  | nil => rfl
  | cons x xs ih =>
    rw [dedup, List.mem_cons, List.mem_filter, ih, List.mem_cons]
    by_cases hy : y = x
    · exact ⟨fun _ => Or.inl hy, fun _ => Or.inl hy⟩
    · exact or_congr_right ⟨fun h => h.1, fun h => ⟨h, bne_iff_ne.mpr hy⟩⟩

theorem find?_name {l : List Decl} {n : String} {c : Decl} (h : l.find? (fun c => c.name == some n) = some c) :
    c ∈ l ∧ c.name = some n :=
  ⟨List.mem_of_find?_eq_some h, eq_of_beq (List.find?_some (p := fun c : Decl => c.name == some n) h)⟩

theorem find?_of_mem_name {l : List Decl} {n : String} {x : Decl} (hx : x ∈ l) (hn : x.name = some n) :
    ∃ c, l.find? (fun c => c.name == some n) = some c ∧ c ∈ l ∧ c.name = some n := by
  have hsome : (l.find? fun c => c.name == some n).isSome = true :=
    List.find?_isSome.mpr ⟨x, hx, by rw [hn]; exact beq_self_eq_true _⟩
  obtain ⟨c, hc⟩ := Option.isSome_iff_exists.mp hsome
  exact ⟨c, hc, find?_name hc⟩

theorem govFrom_snoc (S : Schema) (n : String) : ∀ (ns : List String) (g : Decl),
    govFrom S g (ns ++ [n]) = (govFrom S g ns).bind fun g => (S.kids g).find? (fun c => c.name == some n)
  | [], g => by
    rw [List.nil_append, govFrom, govFrom, Option.bind_some]
    cases (S.kids g).find? (fun c => c.name == some n) <;> rfl
  | m :: ms, g => by
    rw [List.cons_append, govFrom, govFrom]
    cases (S.kids g).find? (fun c => c.name == some m) with
    | none => rfl
    | some c => exact govFrom_snoc S n ms c

theorem gov_snoc (S : Schema) : ∀ (ch : List String) (n : String), ch ≠ [] →
    gov S (ch ++ [n]) = (gov S ch).bind fun g => (S.kids g).find? (fun c => c.name == some n)
  | [], _, hne => absurd rfl hne
  | r :: ns, n, _ => by
    rw [List.cons_append, gov, gov]
    cases globalGet S r with
    | none => rfl
    | some g0 => exact govFrom_snoc S n ns g0

theorem matchesB_nil_right : ∀ (p : List Step), matchesB p [] = true → p = []
  | [], _ => rfl
  | _ :: _, h => by simp [matchesB] at h

theorem matchesB_snoc (s : Step) (n : String) (hn : nameOk s n = true) :
    ∀ (p : List Step) (ch : List String), matchesB p ch = true → matchesB (p ++ [s]) (ch ++ [n]) = true
  | [], [], _ => by simp [matchesB, hn]
  | [], _ :: _, h => by simp [matchesB] at h
  | _ :: _, [], h => by simp [matchesB] at h
  | q :: qs, tg :: tgs, h => by
    simp only [matchesB, Bool.or_eq_true, Bool.and_eq_true] at h
    simp only [List.cons_append, matchesB, Bool.or_eq_true, Bool.and_eq_true]
    rcases h with ⟨h1, h2⟩ | ⟨h1, h2⟩
    · exact Or.inl ⟨h1, matchesB_snoc s n hn qs tgs h2⟩
    · exact Or.inr ⟨h1, by simpa using matchesB_snoc s n hn (q :: qs) tgs h2⟩

theorem matchesRel_cons (r : String) {p : List Step} {suf : List String} (h : matchesB p suf = true) :
    matchesRel r p (r :: suf) = true := by
  cases p with
  | nil => cases suf with
    | nil => simp only [matchesRel, beq_self_eq_true, List.isEmpty_nil, Bool.and_self]
    | cons _ _ => cases h
  | cons _ _ => simp only [matchesRel, beq_self_eq_true, h, Bool.and_self]

theorem selC_rel (t : Tree) (p : List Step) : selC false t p = selFrom [([t.tag], t)] p := by
  cases p <;> rfl

theorem namesOf_cons {s : Step} {ss : List Step} {ns : List String} (h : namesOf (s :: ss) = some ns) :
    ∃ n ms, s.name = some n ∧ namesOf ss = some ms ∧ ns = n :: ms := by
  rw [namesOf] at h
  split at h
  · next n ms hn hr =>
    split at h
    · cases h
    · cases h
      exact ⟨n, ms, hn, hr, rfl⟩
  · cases h

theorem kidsS_name (S : Schema) {s : Step} {n : String} (hp : s.pos = none) (hn : s.name = some n) :
    kidsS S s = step S n :=
  funext fun d => by rw [kidsS, hp, hn]; rfl

/-- name steps without predicates are evaluated as by the child-step model `findFrom` -/
theorem findFromP_names (S : Schema) : ∀ (p : List Step) (ns : List String) (cur : List Decl),
    (∀ s ∈ p, s.pos = none) → namesOf p = some ns → findFromP S cur p = findFrom S cur ns
  | [], _, _, _, h => by cases h; rfl
  | s :: ss, _, cur, hp, h => by
    obtain ⟨n, ms, hn, hr, rfl⟩ := namesOf_cons h
    rw [findFromP, findFrom, stepS, kidsS_name S (hp s List.mem_cons_self) hn]
    exact findFromP_names S ss ms _ (fun x hx => hp x (List.mem_cons_of_mem _ hx)) hr

end XsVerif.PathEval
