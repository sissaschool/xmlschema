/-
  Lemmas about the facet model (C14): the nearest facet of a kind is declared by some step of the
  chain; what an accepted step guarantees per facet kind; along an accepted chain the white space
  normalisations amount to the one of the type itself.
-/
import XsVerif.Model.Facets
import XsVerif.Lemmas.DatatypesWs

set_option linter.unusedSectionVars false

namespace XsVerif.Facets

section
variable {α : Type}

theorem nearest_cons_some {β : Type} (get : FSet α → Option β) (D : FSet α) (C : Chain α) (x : β)
    (h : get D = some x) : nearest get (D :: C) = some x := by
  show (match get D with | some x => some x | none => nearest get C) = some x
  rw [h]

theorem nearest_cons_none {β : Type} (get : FSet α → Option β) (D : FSet α) (C : Chain α)
    (h : get D = none) : nearest get (D :: C) = nearest get C := by
  show (match get D with | some x => some x | none => nearest get C) = nearest get C
  rw [h]

theorem nearest_mem {β : Type} (get : FSet α → Option β) :
    ∀ (C : Chain α) (x : β), nearest get C = some x → ∃ S ∈ C, get S = some x := by
  intro C
  induction C with
  | nil => intro x h; cases h
  | cons S C ih =>
    intro x h
    cases hS : get S with
    | some y =>
      rw [nearest_cons_some get S C y hS] at h
      exact ⟨S, List.mem_cons_self, hS.trans h⟩
    | none =>
      rw [nearest_cons_none get S C hS] at h
      obtain ⟨T, hT, hg⟩ := ih x h
      exact ⟨T, List.mem_cons_of_mem _ hT, hg⟩

theorem err_nil (c : Bool) (e : E) : err c e = [] ↔ c = false := by
  cases c <;> simp [err]

/-- `R`: what python's `!=` being false says of the two values -/
theorem fixedErr_nil {β : Type} {ne : β → β → Bool} {R : β → β → Prop}
    (hne : ∀ a b, ne a b = false → R a b) {base own : Option (F β)} (h : fixedErr base own ne = []) :
    ∀ f b, own = some f → base = some b → b.fixed = true → R f.v b.v := by
  intro f b hD hn hfx
  subst hD hn
  exact hne _ _ (by simpa [fixedErr, err_nil, hfx] using h)

theorem nearest_of_all {β : Type} (get : FSet α → Option β) (p : β → Bool) (q : FSet α → Bool)
    (hq : ∀ S, q S = true → optAll (get S) p = true) {C : Chain α} (h : C.all q = true) {b : β}
    (hn : nearest get C = some b) : p b = true := by
  obtain ⟨S, hS, hg⟩ := nearest_mem get C b hn
  have := hq S (List.all_eq_true.mp h S hS)
  rwa [hg] at this

theorem optAll_nearest_of_all {β : Type} (get : FSet α → Option β) (p : β → Bool) (q : FSet α → Bool)
    (hq : ∀ S, q S = true → optAll (get S) p = true) (C : Chain α) (h : C.all q = true) :
    optAll (nearest get C) p = true := by
  cases hn : nearest get C with
  | none => rfl
  | some b => exact nearest_of_all get p q hq h hn

theorem optAll_cons {β : Type} (get : FSet α → Option β) (p : β → Bool) (D : FSet α) (C : Chain α)
    (hnar : ∀ f b, get D = some f → nearest get C = some b → p f = true → p b = true)
    (h : optAll (nearest get (D :: C)) p = true) : optAll (nearest get C) p = true := by
  cases hD : get D with
  | none => rwa [nearest_cons_none get D C hD] at h
  | some f =>
    rw [nearest_cons_some get D C f hD] at h
    cases hn : nearest get C with
    | none => rfl
    | some b => exact hnar f b hD hn h

end

section
variable {α : Type} [LE α] [LT α] [DecidableLE α] [DecidableLT α] [DecidableEq α]

/-- the ten kinds of value facets: where a step declares the facet, and its validator -/
inductive Kind : {β : Type} → (FSet α → Option β) → (Val α → β → Bool) → Prop
  | length : Kind (·.length) passLength
  | minLength : Kind (·.minLength) passMinLength
  | maxLength : Kind (·.maxLength) passMaxLength
  | minInc : Kind (·.minInc) passMinInc
  | minExc : Kind (·.minExc) passMinExc
  | maxInc : Kind (·.maxInc) passMaxInc
  | maxExc : Kind (·.maxExc) passMaxExc
  | totalDigits : Kind (·.totalDigits) passTotal
  | fractionDigits : Kind (·.fractionDigits) passFraction
  | enum : Kind (·.enum) passEnum

theorem kinds_iff (G : {β : Type} → (FSet α → Option β) → Option β) (v : Val α) :
    (optAll (G (·.length)) (passLength v) && optAll (G (·.minLength)) (passMinLength v) &&
      optAll (G (·.maxLength)) (passMaxLength v) && optAll (G (·.minInc)) (passMinInc v) &&
      optAll (G (·.minExc)) (passMinExc v) && optAll (G (·.maxInc)) (passMaxInc v) &&
      optAll (G (·.maxExc)) (passMaxExc v) && optAll (G (·.totalDigits)) (passTotal v) &&
      optAll (G (·.fractionDigits)) (passFraction v) && optAll (G (·.enum)) (passEnum v)) = true ↔
    ∀ {β : Type} {get : FSet α → Option β} {pass : Val α → β → Bool}, Kind get pass →
      optAll (G get) (pass v) = true := by
  simp only [Bool.and_eq_true, and_assoc]
  constructor
  · rintro ⟨a1, a2, a3, a4, a5, a6, a7, a8, a9, a10⟩ β get pass k
    cases k
    · exact a1
    · exact a2
    · exact a3
    · exact a4
    · exact a5
    · exact a6
    · exact a7
    · exact a8
    · exact a9
    · exact a10
  · exact fun h => ⟨h .length, h .minLength, h .maxLength, h .minInc, h .minExc, h .maxInc, h .maxExc,
      h .totalDigits, h .fractionDigits, h .enum⟩

theorem valid_kinds (S : FSet α) (v : Val α) : S.valid v = true ↔
    ∀ {β : Type} {get : FSet α → Option β} {pass : Val α → β → Bool}, Kind get pass →
      optAll (get S) (pass v) = true :=
  kinds_iff (fun get => get S) v

theorem validEff_kinds (C : Chain α) (v : Val α) : validEff C v = true ↔
    ∀ {β : Type} {get : FSet α → Option β} {pass : Val α → β → Bool}, Kind get pass →
      optAll (nearest get C) (pass v) = true :=
  kinds_iff (fun get => nearest get C) v

theorem validBut_minExc {S : FSet α} {a b : Option α} {v : Val α} (h : S.validBut a b v = true) :
    optAll S.minExc (fun f => a == some f.v.ord || passMinExc v f) = true := by
  simp only [FSet.validBut, Bool.and_eq_true] at h
  exact h.1.1.1.1.1.2

theorem validBut_maxExc {S : FSet α} {a b : Option α} {v : Val α} (h : S.validBut a b v = true) :
    optAll S.maxExc (fun f => b == some f.v.ord || passMaxExc v f) = true := by
  simp only [FSet.validBut, Bool.and_eq_true] at h
  exact h.1.1.1.2

theorem accepts_iff (C : Chain α) (D : FSet α) : accepts C D = true ↔
    fixedErrs C D = [] ∧ wsErrs C D = [] ∧ lengthErrs C D = [] ∧ boundErrs C D = [] ∧
    digitsErrs C D = [] ∧ enumErrs C D = [] ∧ crossLengthErrs C D = [] ∧ crossBoundErrs D = [] ∧
    crossDigitsErrs C D = [] := by
  simp only [accepts, checkStep, List.isEmpty_iff, List.append_eq_nil_iff, and_assoc]

theorem validChain_imp_validEff (C : Chain α) (v : Val α) (h : validChain C v = true) :
    validEff C v = true :=
  (validEff_kinds C v).2 fun k =>
    optAll_nearest_of_all _ _ _ (fun S hS => (valid_kinds S v).1 hS k) C h

theorem validChain_nearest {β : Type} {get : FSet α → Option β} {pass : Val α → β → Bool}
    (k : Kind get pass) {C : Chain α} {x : Val α} (hx : validChain C x = true) {b : β}
    (hn : nearest get C = some b) : pass x b = true :=
  nearest_of_all get (pass x) (·.valid x) (fun S hS => (valid_kinds S x).1 hS k) hx hn

theorem eff_imp_step (C : Chain α) (D : FSet α) (v : Val α) (hv : validEff (D :: C) v = true) :
    D.valid v = true :=
  (valid_kinds D v).2 fun {β get pass} k => by
    have h := (validEff_kinds (D :: C) v).1 hv k
    cases hD : get D with
    | none => rfl
    | some f => rwa [nearest_cons_some get D C f hD] at h

theorem lengthErrs_nil {C : Chain α} {D : FSet α} (h : lengthErrs C D = []) :
    (∀ f b, D.length = some f → nearest (·.length) C = some b → f.v = b.v) ∧
    (∀ f b, D.minLength = some f → nearest (·.minLength) C = some b → b.v ≤ f.v) ∧
    (∀ f b, D.maxLength = some f → nearest (·.maxLength) C = some b → f.v ≤ b.v) := by
  simp only [lengthErrs, List.append_eq_nil_iff] at h
  refine ⟨fun f b hD hn => ?_, fun f b hD hn => ?_, fun f b hD hn => ?_⟩
  · simpa [hD, hn, err_nil] using h.1.1
  · simpa [hD, hn, err_nil] using h.1.2
  · simpa [hD, hn, err_nil] using h.2

theorem digitsErrs_nil {C : Chain α} {D : FSet α} (h : digitsErrs C D = []) :
    (∀ f b, D.totalDigits = some f → nearest (·.totalDigits) C = some b → f.v ≤ b.v) ∧
    (∀ f b, D.fractionDigits = some f → nearest (·.fractionDigits) C = some b → f.v ≤ b.v) := by
  simp only [digitsErrs, List.append_eq_nil_iff] at h
  refine ⟨fun f b hD hn => ?_, fun f b hD hn => ?_⟩
  · simpa [hD, hn, err_nil] using h.1
  · simpa [hD, hn, err_nil] using h.2

theorem boundErrs_nil {C : Chain α} {D : FSet α} (h : boundErrs C D = []) :
    (∀ f, D.minInc = some f → validChain C f.v = true) ∧
    (∀ f, D.maxInc = some f → validChain C f.v = true) ∧
    (∀ f, D.minExc = some f → validChainBut C (some f.v.ord) none f.v = true) ∧
    (∀ f, D.maxExc = some f → validChainBut C none (some f.v.ord) f.v = true) := by
  simp only [boundErrs, List.append_eq_nil_iff] at h
  refine ⟨fun f hD => ?_, fun f hD => ?_, fun f hD => ?_, fun f hD => ?_⟩
  · simpa [hD, err_nil] using h.1.1.1
  · simpa [hD, err_nil] using h.1.2
  · have := h.1.1.2
    simp only [hD, List.append_eq_nil_iff, err_nil] at this
    simpa using this.1
  · have := h.2
    simp only [hD, List.append_eq_nil_iff, err_nil] at this
    simpa using this.1

theorem enumErrs_nil {C : Chain α} {D : FSet α} (h : enumErrs C D = []) (l : List (Val α))
    (hD : D.enum = some l) : ∀ e ∈ l, validChain C e = true := by
  simpa [enumErrs, hD, err_nil] using h

theorem stored_of_accepts (C : Chain α) (D : FSet α) (h : accepts C D = true) : stored C D = D := by
  have he := ((accepts_iff C D).1 h).2.2.2.2.2.1
  have : D.enum.map (fun l => l.filter (validChain C)) = D.enum := by
    cases hD : D.enum with
    | none => rfl
    | some l => rw [Option.map_some, List.filter_eq_self.mpr (enumErrs_nil he l hD)]
  unfold stored
  rw [this]

theorem passLength_mono {v : Val α} {f b : F Nat} (h : f.v = b.v) (hp : passLength v f = true) :
    passLength v b = true := by
  rw [passLength, ← h]; exact hp

theorem passMinLength_mono {v : Val α} {f b : F Nat} (h : b.v ≤ f.v) (hp : passMinLength v f = true) :
    passMinLength v b = true := by
  simp only [passMinLength, Bool.not_eq_true', decide_eq_false_iff_not] at hp ⊢; omega

theorem passMaxLength_mono {v : Val α} {f b : F Nat} (h : f.v ≤ b.v) (hp : passMaxLength v f = true) :
    passMaxLength v b = true := by
  simp only [passMaxLength, Bool.not_eq_true', decide_eq_false_iff_not] at hp ⊢; omega

theorem passTotal_mono {v : Val α} {f b : F Nat} (h : f.v ≤ b.v) (hp : passTotal v f = true) :
    passTotal v b = true := by
  simp only [passTotal, decide_eq_true_eq] at hp ⊢; omega

theorem passFraction_mono {v : Val α} {f b : F Nat} (h : f.v ≤ b.v) (hp : passFraction v f = true) :
    passFraction v b = true := by
  simp only [passFraction, decide_eq_true_eq] at hp ⊢; omega

variable [Std.IsLinearOrder α] [Std.LawfulOrderLT α]

/-! A bound `f` that passes the base facet `b` of its kind (it is a value of the base type) leaves
    `b` implied: the four transitivities. -/

theorem passMinInc_trans {v : Val α} {f b : F (Val α)} (hb : passMinInc f.v b = true)
    (hp : passMinInc v f = true) : passMinInc v b = true := by
  simp only [passMinInc, Bool.not_eq_true', decide_eq_false_iff_not, Std.not_lt] at *
  exact Std.le_trans hb hp

theorem passMaxInc_trans {v : Val α} {f b : F (Val α)} (hb : passMaxInc f.v b = true)
    (hp : passMaxInc v f = true) : passMaxInc v b = true := by
  simp only [passMaxInc, Bool.not_eq_true', decide_eq_false_iff_not, Std.not_lt] at *
  exact Std.le_trans hp hb

theorem passMinExc_trans {v : Val α} {f b : F (Val α)}
    (hb : (some f.v.ord == some b.v.ord || passMinExc f.v b) = true)
    (hp : passMinExc v f = true) : passMinExc v b = true := by
  simp only [passMinExc, Bool.or_eq_true, beq_iff_eq, Option.some.injEq, Bool.not_eq_true',
    decide_eq_false_iff_not, Std.not_le] at *
  rcases hb with hb | hb
  · rw [← hb]; exact hp
  · exact Std.lt_trans hb hp

theorem passMaxExc_trans {v : Val α} {f b : F (Val α)}
    (hb : (some f.v.ord == some b.v.ord || passMaxExc f.v b) = true)
    (hp : passMaxExc v f = true) : passMaxExc v b = true := by
  simp only [passMaxExc, Bool.or_eq_true, beq_iff_eq, Option.some.injEq, Bool.not_eq_true',
    decide_eq_false_iff_not, Std.not_le] at *
  rcases hb with hb | hb
  · rw [← hb]; exact hp
  · exact Std.lt_trans hp hb

theorem step_narrows {C : Chain α} {D : FSet α} (h : accepts C D = true) {β : Type}
    {get : FSet α → Option β} {pass : Val α → β → Bool} (k : Kind get pass) {v : Val α} {f b : β}
    (hD : get D = some f) (hn : nearest get C = some b) (hp : pass v f = true) : pass v b = true := by
  rw [accepts_iff] at h
  obtain ⟨_, _, hl, hb, hd, he, _, _, _⟩ := h
  obtain ⟨l1, l2, l3⟩ := lengthErrs_nil hl
  obtain ⟨d1, d2⟩ := digitsErrs_nil hd
  obtain ⟨b1, b2, b3, b4⟩ := boundErrs_nil hb
  -- a bound of `D` is a value of the base type, hence passes the nearest base facet of its kind
  cases k
  · exact passLength_mono (l1 f b hD hn) hp
  · exact passMinLength_mono (l2 f b hD hn) hp
  · exact passMaxLength_mono (l3 f b hD hn) hp
  · exact passMinInc_trans (validChain_nearest .minInc (b1 f hD) hn) hp
  · exact passMinExc_trans (nearest_of_all (b := b) _ _ _ (fun _ => validBut_minExc) (b3 f hD) hn) hp
  · exact passMaxInc_trans (validChain_nearest .maxInc (b2 f hD) hn) hp
  · exact passMaxExc_trans (nearest_of_all (b := b) _ _ _ (fun _ => validBut_maxExc) (b4 f hD) hn) hp
  · exact passTotal_mono (d1 f b hD hn) hp
  · exact passFraction_mono (d2 f b hD hn) hp
  · -- an enumeration value is a value of the base type
    have hmem : v ∈ f := by simpa [passEnum] using hp
    exact validChain_nearest .enum (enumErrs_nil he f hD v hmem) hn

end

/-! ### white space: accepted steps only move along preserve → replace → collapse -/

open XsVerif.Datatypes in
section
variable {α : Type} [LE α] [LT α] [DecidableLE α] [DecidableLT α] [DecidableEq α]

theorem wsErrs_nil_rank {C : Chain α} {D : FSet α} (h : wsErrs C D = []) {f b : F Ws}
    (hD : D.ws = some f) (hn : nearest (·.ws) C = some b) : wsRank b.v ≤ wsRank f.v := by
  simp only [wsErrs, hD, hn, Option.map_some] at h
  generalize f.v = x at h ⊢
  generalize b.v = y at h ⊢
  revert h
  cases x <;> cases y <;> decide

theorem ws_monotone (C : Chain α) (D : FSet α) (h : accepts C D = true) :
    wsRank (effWs C) ≤ wsRank (effWs (D :: C)) := by
  unfold effWs
  cases hD : D.ws with
  | none => rw [nearest_cons_none _ D C hD]; exact Nat.le_refl _
  | some f =>
    rw [nearest_cons_some _ D C f hD]
    cases hn : nearest (·.ws) C with
    | none => exact Nat.zero_le _
    | some b => exact wsErrs_nil_rank ((accepts_iff C D).1 h).2.1 hD hn

theorem wsReplace_fix (W : Char → Bool) (t : Str)
    (h : ∀ c ∈ t, W c = true → c = ' ') : wsReplace W t = t := by
  refine (List.map_congr_left fun c hc => ?_).trans (List.map_id t)
  by_cases hw : W c = true
  · rw [if_pos hw]; exact (h c hc hw).symm
  · rw [if_neg hw]; rfl

theorem wsReplace_ws (W : Char → Bool) (s : Str) :
    ∀ c ∈ wsReplace W s, W c = true → c = ' ' := by
  intro c hc hw
  obtain ⟨d, _, rfl⟩ := List.mem_map.mp hc
  by_cases hd : W d = true
  · exact if_pos hd
  · rw [if_neg hd] at hw ⊢; exact absurd hw hd

theorem normalize_absorb (W : Char → Bool) (hsp : W ' ' = true) (b d : Ws) (h : wsRank b ≤ wsRank d)
    (s : Str) : normalize W b (normalize W d s) = normalize W d s := by
  cases b <;> cases d <;> simp [wsRank] at h <;> simp only [normalize]
  · exact wsReplace_fix W _ (wsReplace_ws W s)
  · exact wsReplace_fix W _ (sqz_spec W true _ (wsCollapse_sqz W hsp s)).1
  · exact wsCollapse_fix W _ (wsCollapse_sqz W hsp s) (by unfold wsCollapse strip; exact rstrip_last W _)

/-- on a type whose steps were all accepted, the text that reaches the validators is the text
    normalised once with the type's own white space value -/
theorem normChain_eq : ∀ (C : Chain α), Accepted C → ∀ s,
    normChain C s = normalize isXmlWs (effWs C) s := by
  intro C
  induction C with
  | nil => intro _ s; rfl
  | cons D C ih =>
    intro hacc s
    show normChain C _ = _
    rw [ih hacc.2]
    exact normalize_absorb _ (by decide) _ _ (ws_monotone C D hacc.1) s
end

end XsVerif.Facets
