/-
  A string outside any finite list of strings exists.
-/
namespace XsVerif

def freshLen (l : List String) : Nat := (l.map String.length).foldr max 0 + 1

def fresh (l : List String) : String := String.ofList (List.replicate (freshLen l) 'z')

theorem length_lt_freshLen {l : List String} {s : String} (h : s ∈ l) : s.length < freshLen l := by
  induction l with
  | nil => cases h
  | cons a t ih =>
    simp only [freshLen, List.map_cons, List.foldr_cons] at *
    rcases List.mem_cons.mp h with rfl | h'
    · omega
    · have := ih h'; omega

theorem fresh_length (l : List String) : (fresh l).length = freshLen l := by
  simp [fresh]

theorem fresh_not_mem (l : List String) : fresh l ∉ l := by
  intro h
  have := length_lt_freshLen h
  rw [fresh_length] at this
  omega

end XsVerif
