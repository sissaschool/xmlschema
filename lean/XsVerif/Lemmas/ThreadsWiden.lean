/-
  Helper lemmas for the statement-level model of xsi:type widening (Model/ThreadsWiden.lean).
-/
import XsVerif.Model.ThreadsWiden
import XsVerif.Lemmas.Threads

namespace XsVerif.Threads.XW
open XsVerif.Threads


theorem mem_add (f g : Fact) (s : Sh) : f ∈ add g s ↔ f ∈ s ∨ f = g := by
  unfold add
  split
  · rename_i h
    have hg : g ∈ s := by simpa using h
    exact ⟨Or.inl, fun h => h.elim id fun h => h ▸ hg⟩
  · simp

theorem subset_add (g : Fact) (s : Sh) : s ⊆ add g s := fun f h => (mem_add f g s).2 (Or.inl h)

theorem self_add (g : Fact) (s : Sh) : g ∈ add g s := (mem_add g g s).2 (Or.inr rfl)

theorem mem_selOf (s : Sh) (e : El) (i : Idn) : i ∈ selOf s e ↔ Fact.selBy e i ∈ s := by
  unfold selOf
  rw [List.mem_filterMap]
  refine ⟨?_, fun h => ⟨_, h, if_pos rfl⟩⟩
  rintro ⟨f, hf, h⟩
  cases f with
  | selBy e' j =>
    by_cases he : e' = e
    · rw [he] at hf
      exact Option.some.inj ((if_pos he).symm.trans h) ▸ hf
    · exact nomatch (if_neg he).symm.trans h
  | _ => cases h

theorem stepTh_sub (sch : Sch) (v : Variant) (s : Sh) (th : Th) : s ⊆ (stepTh sch v s th).1 := by
  unfold stepTh
  split
  · split <;> exact List.Subset.refl s
  · split <;> exact List.Subset.refl s
  · exact List.Subset.refl s
  · split <;> exact List.Subset.refl s
  · exact subset_add _ s
  · exact subset_add _ s
  · exact subset_add _ s
  · split <;> exact List.Subset.refl s
  · exact List.Subset.refl s
  · split
    · exact List.Subset.refl s
    · split <;> exact List.Subset.refl s
  · exact List.Subset.refl s

theorem exec_inv (sch : Sch) (v : Variant) {G : Sh → Prop} {T : Nat → Sh → Th → Prop}
    (hstep : ∀ t s th, G s → T t s th →
      G (stepTh sch v s th).1 ∧ T t (stepTh sch v s th).1 (stepTh sch v s th).2)
    (hmono : ∀ t s s' th, s ⊆ s' → T t s th → T t s' th) (sched : List Nat) :
    ∀ c : Cfg, (G c.sh ∧ ∀ t, T t c.sh (c.th t)) →
      G (exec sch v sched c).sh ∧ ∀ t, T t (exec sch v sched c).sh ((exec sch v sched c).th t) :=
  sched_inv (I := fun c : Cfg => G c.sh ∧ ∀ t, T t c.sh (c.th t)) (fun _ => rfl) (fun _ _ _ => rfl)
    (fun u c h =>
      have h' := hstep u c.sh (c.th u) h.1 (h.2 u)
      ⟨h'.1, forall_upd h'.2 fun x _ => hmono x _ _ _ (stepTh_sub sch v c.sh (c.th u)) (h.2 x)⟩)
    sched

theorem exec_th (sch : Sch) (v : Variant) {T : Nat → Th → Prop}
    (hstep : ∀ t s th, T t th → T t (stepTh sch v s th).2) (sched : List Nat) :
    ∀ c : Cfg, (∀ t, T t (c.th t)) → ∀ t, T t ((exec sch v sched c).th t) :=
  sched_inv (I := fun c : Cfg => ∀ t, T t (c.th t)) (fun _ => rfl) (fun _ _ _ => rfl)
    (fun u c h => forall_upd (hstep u c.sh (c.th u) (h u)) fun x _ => h x) sched

/-! ### A. lower bound: whatever a thread's own walk has widened is seen by that thread -/

def Bound (sch : Sch) (s : Sh) (p : Pair) : Prop :=
  ∀ e, e ∈ sch.sel p → Fact.selBy e (sch.idOf p) ∈ s ∧ Fact.elem (sch.idOf p) e ∈ s

def Closed (sch : Sch) (s : Sh) : Prop := ∀ p, Fact.xsi p ∈ s → Bound sch s p

def PcOk (sch : Sch) (s : Sh) (seen : List Pair) : PC → Prop
  | .loopRd p rest => ∀ e, e ∈ sch.sel p →
      e ∈ rest ∨ (Fact.selBy e (sch.idOf p) ∈ s ∧ Fact.elem (sch.idOf p) e ∈ s)
  | .loopSet p e rest => ∀ e', e' ∈ sch.sel p →
      e' = e ∨ e' ∈ rest ∨ (Fact.selBy e' (sch.idOf p) ∈ s ∧ Fact.elem (sch.idOf p) e' ∈ s)
  | .loopAdd p e rest => Fact.elem (sch.idOf p) e ∈ s ∧ ∀ e', e' ∈ sch.sel p →
      e' = e ∨ e' ∈ rest ∨ (Fact.selBy e' (sch.idOf p) ∈ s ∧ Fact.elem (sch.idOf p) e' ∈ s)
  | .pub p => Bound sch s p
  | .cIter e _ todo done => ∀ p, p ∈ seen → e ∈ sch.sel p → sch.idOf p ∈ done ∨ sch.idOf p ∈ todo
  | .chk p ord => ∀ e, e ∈ sch.sel p → e ∈ ord
  | _ => True

structure ThOk (sch : Sch) (s : Sh) (th : Th) : Prop where
  tasks : ∀ p ord, Task.widen p ord ∈ th.tasks → ∀ e, e ∈ sch.sel p → e ∈ ord
  seen : ∀ p, p ∈ th.seen → Fact.xsi p ∈ s ∧ Bound sch s p
  pc : PcOk sch s th.seen th.pc
  obs : ∀ o, o ∈ th.obs → ∀ p, p ∈ o.seen → o.e ∈ sch.sel p → sch.idOf p ∈ o.ids

/-- every element of `sel p` is still to be visited (`rest`) or bound to the identity of `p`: the loop invariant of
    `update_elements` -/
def Cov (sch : Sch) (s : Sh) (p : Pair) (rest : List El) : Prop :=
  ∀ e, e ∈ sch.sel p → e ∈ rest ∨ (Fact.selBy e (sch.idOf p) ∈ s ∧ Fact.elem (sch.idOf p) e ∈ s)

theorem cov_cons {sch : Sch} {s : Sh} {p : Pair} {e : El} {rest : List El} :
    Cov sch s p (e :: rest) ↔ ∀ e', e' ∈ sch.sel p →
      e' = e ∨ e' ∈ rest ∨ (Fact.selBy e' (sch.idOf p) ∈ s ∧ Fact.elem (sch.idOf p) e' ∈ s) := by
  simp only [Cov, List.mem_cons, or_assoc]

theorem Cov.mono {sch : Sch} {s s' : Sh} (h : s ⊆ s') {p : Pair} {rest : List El} (hc : Cov sch s p rest) :
    Cov sch s' p rest :=
  fun e he => (hc e he).imp_right fun hd => ⟨h hd.1, h hd.2⟩

theorem Cov.bound {sch : Sch} {s : Sh} {p : Pair} (hc : Cov sch s p []) : Bound sch s p :=
  fun e he => (hc e he).resolve_left List.not_mem_nil

theorem Cov.done {sch : Sch} {s : Sh} {p : Pair} {e : El} {rest : List El} (hc : Cov sch s p (e :: rest))
    (he : Fact.selBy e (sch.idOf p) ∈ s ∧ Fact.elem (sch.idOf p) e ∈ s) : Cov sch s p rest :=
  fun e' he' => (hc e' he').elim
    (fun hm => (List.mem_cons.1 hm).elim (fun h => Or.inr (h ▸ he)) Or.inl) Or.inr

theorem Bound.mono {sch : Sch} {s s' : Sh} (h : s ⊆ s') {p : Pair} (hb : Bound sch s p) : Bound sch s' p :=
  fun e he => ⟨h (hb e he).1, h (hb e he).2⟩

theorem PcOk.mono {sch : Sch} {s s' : Sh} (h : s ⊆ s') {seen : List Pair} {pc : PC}
    (hp : PcOk sch s seen pc) : PcOk sch s' seen pc := by
  cases pc with
  | loopRd p rest => exact Cov.mono h hp
  | loopSet p e rest => exact cov_cons.1 (Cov.mono h (cov_cons.2 hp))
  | loopAdd p e rest => exact ⟨h hp.1, cov_cons.1 (Cov.mono h (cov_cons.2 hp.2))⟩
  | pub p => exact Bound.mono h hp
  | _ => exact hp

theorem ThOk.mono {sch : Sch} {s s' : Sh} {th : Th} (h : s ⊆ s') (ht : ThOk sch s th) : ThOk sch s' th :=
  ⟨ht.tasks, fun p hp => ⟨h (ht.seen p hp).1, Bound.mono h (ht.seen p hp).2⟩, PcOk.mono h ht.pc, ht.obs⟩

theorem mem_shift {i j : Idn} {done r : List Idn} (h : i ∈ done ∨ i ∈ j :: r) : i ∈ done ++ [j] ∨ i ∈ r := by
  simpa [or_assoc] using h

theorem stepTh_ok (sch : Sch) (v : Variant) (hv : v.addInside = false) (s : Sh) (th : Th)
    (hc : Closed sch s) (ht : ThOk sch s th) :
    Closed sch (stepTh sch v s th).1 ∧ ThOk sch (stepTh sch v s th).1 (stepTh sch v s th).2 := by
  have ⟨htasks, hseen, hpc, hobs⟩ := ht
  have grow : ∀ g, (∀ q, Fact.xsi q ∈ s → Bound sch (add g s) q) ∧ ThOk sch (add g s) th :=
    fun g => ⟨fun q hq => (hc q hq).mono (subset_add g s), ht.mono (subset_add g s)⟩
  have sel : ∀ q, q ∈ th.seen → ∀ e, e ∈ sch.sel q → sch.idOf q ∈ selOf s e :=
    fun q hq e he => (mem_selOf s e _).2 ((hseen q hq).2 e he).1
  have move : ∀ {pc}, PcOk sch s th.seen pc → ThOk sch s { th with pc := pc } := fun h => ⟨htasks, hseen, h, hobs⟩
  unfold stepTh
  split <;> rename_i hp <;> rw [hp] at hpc
  · -- idle
    split <;> rename_i hts <;> rw [hts] at htasks
    · exact ⟨hc, ht⟩
    · exact ⟨hc, fun q o hq => htasks q o (List.mem_cons_of_mem _ hq), hseen,
        htasks _ _ (List.mem_cons_self ..), hobs⟩
    · exact ⟨hc, fun q o hq => htasks q o (List.mem_cons_of_mem _ hq), hseen, trivial, hobs⟩
  · -- chk
    split
    · rename_i p ord hin
      have hx : Fact.xsi p ∈ s := by simpa using hin
      exact ⟨hc, htasks, List.forall_mem_cons.2 ⟨⟨hx, hc p hx⟩, hseen⟩, trivial, hobs⟩
    · exact ⟨hc, move fun e he => Or.inl (hpc e he)⟩
  · -- loopRd []
    exact ⟨hc, move (Cov.bound hpc)⟩
  · -- loopRd (e :: rest)
    split
    · rename_i hin
      rw [hv]
      exact ⟨hc, move ⟨by simpa using hin, cov_cons.1 hpc⟩⟩
    · exact ⟨hc, move (cov_cons.1 hpc)⟩
  · -- loopSet
    rename_i p e rest
    have ⟨hc', ht'⟩ := grow (.elem (sch.idOf p) e)
    refine ⟨fun q hq => ((mem_add _ _ _).1 hq).elim (hc' q) nofun, ht'.tasks, ht'.seen, ?_, hobs⟩
    exact ⟨self_add _ _, PcOk.mono (subset_add _ s) hpc⟩
  · -- loopAdd
    rename_i p e rest
    have ⟨hc', ht'⟩ := grow (.selBy e (sch.idOf p))
    refine ⟨fun q hq => ((mem_add _ _ _).1 hq).elim (hc' q) nofun, ht'.tasks, ht'.seen, ?_, hobs⟩
    exact (Cov.mono (subset_add _ s) (cov_cons.2 hpc.2)).done ⟨self_add _ _, subset_add _ s hpc.1⟩
  · -- pub
    rename_i p
    have ⟨hc', ht'⟩ := grow (.xsi p)
    have hb := Bound.mono (subset_add (.xsi p) s) hpc
    exact ⟨fun q hq => ((mem_add _ _ _).1 hq).elim (hc' q) fun h => Fact.xsi.inj h ▸ hb, htasks,
      List.forall_mem_cons.2 ⟨⟨self_add _ _, hb⟩, ht'.seen⟩, trivial, hobs⟩
  · -- cRd
    split
    · rename_i e hemp
      refine ⟨hc, htasks, hseen, trivial, forall_mem_snoc hobs fun q hq he => ?_⟩
      have := sel q hq e he
      rw [List.isEmpty_iff.1 hemp] at this
      exact absurd this List.not_mem_nil
    · exact ⟨hc, move trivial⟩
  · -- cIterNew
    exact ⟨hc, move fun q hq he => Or.inr (sel q hq _ he)⟩
  · -- cIter
    split
    · exact ⟨hc, move trivial⟩
    · split
      · exact ⟨hc, htasks, hseen, trivial,
          forall_mem_snoc hobs fun q hq he => (hpc q hq he).resolve_right List.not_mem_nil⟩
      · exact ⟨hc, move fun q hq he => mem_shift (hpc q hq he)⟩
  · exact ⟨hc, ht⟩

structure CInv (sch : Sch) (c : Cfg) : Prop where
  closed : Closed sch c.sh
  ths : ∀ t, ThOk sch c.sh (c.th t)

theorem cinv_exec (sch : Sch) (v : Variant) (hv : v.addInside = false) (sched : List Nat) (c : Cfg)
    (h : CInv sch c) : CInv sch (exec sch v sched c) :=
  have h' := exec_inv sch v (fun _ => stepTh_ok sch v hv) (fun _ _ _ _ => ThOk.mono) sched c ⟨h.closed, h.ths⟩
  ⟨h'.1, h'.2⟩

theorem cinv_init (sch : Sch) (s₀ : Sh) (h₀ : Closed sch s₀) (prog : Nat → List Task) (hw : WF sch prog) :
    CInv sch (init s₀ prog) :=
  ⟨h₀, fun t => ⟨fun p ord hp e he => (hw t p ord hp e).2 he, nofun, trivial, nofun⟩⟩

/-! ### B. upper bound: nothing out of thin air — every fact was there initially or is generated by a pair
        that some thread's program widens -/

def Src (prog : Nat → List Task) (p : Pair) : Prop := ∃ t ord, Task.widen p ord ∈ prog t

def Gen (sch : Sch) (P : Pair → Prop) : Fact → Prop
  | .xsi p => P p
  | .elem i e => ∃ p, P p ∧ sch.idOf p = i ∧ e ∈ sch.sel p
  | .selBy e i => ∃ p, P p ∧ sch.idOf p = i ∧ e ∈ sch.sel p

theorem Gen.mem {sch : Sch} {P : Pair → Prop} {s : Sh} (h : ∀ p, P p → Fact.xsi p ∈ s ∧ Bound sch s p) :
    ∀ {f : Fact}, Gen sch P f → f ∈ s
  | .xsi p, hp => (h p hp).1
  | .elem _ e, ⟨p, hp, rfl, he⟩ => ((h p hp).2 e he).2
  | .selBy e _, ⟨p, hp, rfl, he⟩ => ((h p hp).2 e he).1

def PcSrc (sch : Sch) (P : Pair → Prop) : PC → Prop
  | .chk p ord => P p ∧ ∀ e, e ∈ ord → e ∈ sch.sel p
  | .pub p => P p
  | .loopRd p rest => P p ∧ ∀ e, e ∈ rest → e ∈ sch.sel p
  | .loopSet p e rest => P p ∧ ∀ e', e' ∈ e :: rest → e' ∈ sch.sel p
  | .loopAdd p e rest => P p ∧ ∀ e', e' ∈ e :: rest → e' ∈ sch.sel p
  | _ => True

structure UOk (sch : Sch) (P : Pair → Prop) (th : Th) : Prop where
  tasks : ∀ p ord, Task.widen p ord ∈ th.tasks → P p ∧ ∀ e, e ∈ ord → e ∈ sch.sel p
  pc : PcSrc sch P th.pc

def Fed (sch : Sch) (P : Pair → Prop) (s₀ s : Sh) : Prop := ∀ f, f ∈ s → f ∈ s₀ ∨ Gen sch P f

theorem Fed.add {sch : Sch} {P : Pair → Prop} {s₀ s : Sh} (h : Fed sch P s₀ s) (g : Fact) (hg : Gen sch P g) :
    Fed sch P s₀ (add g s) :=
  fun f hf => ((mem_add _ _ _).1 hf).elim (h f) fun h1 => Or.inr (h1 ▸ hg)

theorem stepTh_fed (sch : Sch) (v : Variant) (P : Pair → Prop) (s₀ s : Sh) (th : Th)
    (hf : Fed sch P s₀ s) (hu : UOk sch P th) :
    Fed sch P s₀ (stepTh sch v s th).1 ∧ UOk sch P (stepTh sch v s th).2 := by
  have ⟨htasks, hpc⟩ := hu
  unfold stepTh
  split <;> rename_i hp <;> rw [hp] at hpc
  · split <;> rename_i hts <;> rw [hts] at htasks
    · exact ⟨hf, hu⟩
    · exact ⟨hf, fun q o hq => htasks q o (List.mem_cons_of_mem _ hq), htasks _ _ (List.mem_cons_self ..)⟩
    · exact ⟨hf, fun q o hq => htasks q o (List.mem_cons_of_mem _ hq), trivial⟩
  · split
    · exact ⟨hf, htasks, trivial⟩
    · exact ⟨hf, htasks, hpc⟩
  · exact ⟨hf, htasks, hpc.1⟩
  · split
    · refine ⟨hf, htasks, ?_⟩
      cases v.addInside
      · exact hpc
      · exact ⟨hpc.1, fun e h => hpc.2 e (List.mem_cons_of_mem _ h)⟩
    · exact ⟨hf, htasks, hpc⟩
  · exact ⟨hf.add _ ⟨_, hpc.1, rfl, hpc.2 _ (List.mem_cons_self ..)⟩, htasks, hpc⟩
  · exact ⟨hf.add _ ⟨_, hpc.1, rfl, hpc.2 _ (List.mem_cons_self ..)⟩, htasks, hpc.1,
      fun e h => hpc.2 e (List.mem_cons_of_mem _ h)⟩
  · exact ⟨hf.add _ hpc, htasks, trivial⟩
  · split <;> exact ⟨hf, htasks, trivial⟩
  · exact ⟨hf, htasks, trivial⟩
  · split
    · exact ⟨hf, htasks, trivial⟩
    · split <;> exact ⟨hf, htasks, trivial⟩
  · exact ⟨hf, hu⟩

theorem uok_init {sch : Sch} {prog : Nat → List Task} (hw : WF sch prog) (s₀ : Sh) (t : Nat) :
    UOk sch (Src prog) ((init s₀ prog).th t) :=
  ⟨fun p ord hp => ⟨⟨t, ord, hp⟩, fun e => (hw t p ord hp e).1⟩, trivial⟩

theorem fed_exec (sch : Sch) (v : Variant) (s₀ : Sh) (prog : Nat → List Task) (hw : WF sch prog)
    (sched : List Nat) :
    let c := exec sch v sched (init s₀ prog)
    Fed sch (Src prog) s₀ c.sh ∧ ∀ t, UOk sch (Src prog) (c.th t) :=
  exec_inv sch v (T := fun _ _ => UOk sch (Src prog)) (fun _ => stepTh_fed sch v _ s₀) (fun _ _ _ _ _ h => h)
    sched _ ⟨fun _ => Or.inl, uok_init hw s₀⟩

/-! ### C. completion: a thread never forgets a widening of its program -/

def PC.pair : PC → List Pair
  | .chk p _ | .pub p | .loopRd p _ | .loopSet p _ _ | .loopAdd p _ _ => [p]
  | _ => []

def pairs (l : List Task) : List Pair :=
  l.filterMap fun
    | .widen p _ => some p
    | .child _ => none

def Th.pairs (th : Th) : List Pair := th.seen.reverse ++ (th.pc.pair ++ XW.pairs th.tasks)

theorem stepTh_pairs (sch : Sch) (v : Variant) (s : Sh) (th : Th) : (stepTh sch v s th).2.pairs = th.pairs := by
  unfold stepTh Th.pairs
  split <;> rename_i hp
  · split <;> rename_i hts
    · rfl
    · rw [hp, hts]; rfl
    · rw [hp, hts]; rfl
  · rw [hp]
    split
    · rw [List.reverse_cons, List.append_assoc]; rfl
    · rfl
  · rw [hp]; rfl
  · rw [hp]
    split
    · cases v.addInside <;> rfl
    · rfl
  · rw [hp]; rfl
  · rw [hp]; rfl
  · rw [hp, List.reverse_cons, List.append_assoc]; rfl
  · rw [hp]
    split <;> rfl
  · rw [hp]; rfl
  · rw [hp]
    split
    · rfl
    · split <;> rfl
  · rfl

theorem seen_of_finished (sch : Sch) (v : Variant) (s₀ : Sh) (prog : Nat → List Task) (sched : List Nat) (t : Nat)
    (hfin : ((exec sch v sched (init s₀ prog)).th t).finished = true) {p : Pair} {ord : List El}
    (hp : Task.widen p ord ∈ prog t) : p ∈ ((exec sch v sched (init s₀ prog)).th t).seen := by
  have h := exec_th sch v (T := fun t th => th.pairs = pairs (prog t))
    (fun _ s th h => (stepTh_pairs sch v s th).trans h) sched (init s₀ prog) (fun _ => rfl) t
  simp only [Th.finished, Bool.and_eq_true, List.isEmpty_iff, beq_iff_eq] at hfin
  rw [Th.pairs, hfin.1, hfin.2] at h
  exact List.mem_reverse.1 ((List.append_nil _).symm.trans h ▸ List.mem_filterMap.2 ⟨_, hp, rfl⟩)

/-! ### D. the snapshot iteration never raises -/

theorem stepTh_noerr (sch : Sch) (v : Variant) (hv : v.live = false) (s : Sh) (th : Th)
    (h : th.pc ≠ .err) : (stepTh sch v s th).2.pc ≠ .err := by
  unfold stepTh
  split
  · split
    · exact h
    · simp
    · simp
  · split <;> simp
  · simp
  · split
    · cases v.addInside <;> simp
    · simp
  · simp
  · simp
  · simp
  · split <;> simp
  · simp
  · simp only [hv, Bool.false_and, Bool.false_eq_true, if_false]
    split <;> simp
  · exact h

theorem noerr_exec (sch : Sch) (v : Variant) (hv : v.live = false) (sched : List Nat) (c : Cfg)
    (h : ∀ t, (c.th t).pc ≠ .err) (t : Nat) : ((exec sch v sched c).th t).pc ≠ .err :=
  exec_th sch v (fun _ => stepTh_noerr sch v hv) sched c h t

/-! ### E. what a `child` task iterates over: at least the bindings of the build, at most the current set -/

def Seen (s₀ s : Sh) (e : El) (l : List Idn) : Prop :=
  (∀ i, Fact.selBy e i ∈ s₀ → i ∈ l) ∧ (∀ i, i ∈ l → Fact.selBy e i ∈ s)

theorem Seen.mono {s₀ s s' : Sh} (h : s ⊆ s') {e : El} {l : List Idn} (hs : Seen s₀ s e l) : Seen s₀ s' e l :=
  ⟨hs.1, fun i hi => h (hs.2 i hi)⟩

theorem seen_selOf {s₀ s : Sh} (h : s₀ ⊆ s) (e : El) : Seen s₀ s e (selOf s e) :=
  ⟨fun i hi => (mem_selOf s e i).2 (h hi), fun i => (mem_selOf s e i).1⟩

def SPc (s₀ s : Sh) : PC → Prop
  | .cIter e _ todo done => Seen s₀ s e (done ++ todo)
  | _ => True

structure SOk (s₀ s : Sh) (th : Th) : Prop where
  pc : SPc s₀ s th.pc
  obs : ∀ o, o ∈ th.obs → Seen s₀ s o.e o.ids

theorem SOk.mono {s₀ s s' : Sh} {th : Th} (h : s ⊆ s') (ht : SOk s₀ s th) : SOk s₀ s' th := by
  refine ⟨?_, fun o ho => (ht.obs o ho).mono h⟩
  have hp := ht.pc
  cases hpc : th.pc with
  | cIter e n todo done => rw [hpc] at hp; exact hp.mono h
  | _ => trivial

theorem stepTh_sok (sch : Sch) (v : Variant) (s₀ s : Sh) (th : Th) (h₀ : s₀ ⊆ s) (ht : SOk s₀ s th) :
    s₀ ⊆ (stepTh sch v s th).1 ∧ SOk s₀ (stepTh sch v s th).1 (stepTh sch v s th).2 := by
  refine ⟨fun _ hf => stepTh_sub sch v s th (h₀ hf), ?_⟩
  have hobs := ht.obs
  have grow : ∀ g o, o ∈ th.obs → Seen s₀ (add g s) o.e o.ids := fun g o ho => (hobs o ho).mono (subset_add g s)
  have hpc := ht.pc
  unfold stepTh
  split <;> rename_i hp <;> rw [hp] at hpc
  · split
    · exact ht
    · exact ⟨trivial, hobs⟩
    · exact ⟨trivial, hobs⟩
  · split <;> exact ⟨trivial, hobs⟩
  · exact ⟨trivial, hobs⟩
  · split
    · cases v.addInside <;> exact ⟨trivial, hobs⟩
    · exact ⟨trivial, hobs⟩
  · exact ⟨trivial, grow _⟩
  · exact ⟨trivial, grow _⟩
  · exact ⟨trivial, grow _⟩
  · split
    · rename_i e hemp
      exact ⟨trivial, forall_mem_snoc hobs (List.isEmpty_iff.1 hemp ▸ seen_selOf h₀ e)⟩
    · exact ⟨trivial, hobs⟩
  · exact ⟨seen_selOf h₀ _, hobs⟩
  · have hpc : Seen s₀ s _ (_ ++ _) := hpc
    split
    · exact ⟨trivial, hobs⟩
    · split
      · rw [List.append_nil] at hpc
        exact ⟨trivial, forall_mem_snoc hobs hpc⟩
      · rw [List.append_cons] at hpc
        exact ⟨hpc, hobs⟩
  · exact ht

theorem sok_exec (sch : Sch) (v : Variant) (s₀ : Sh) (prog : Nat → List Task) (sched : List Nat) :
    let c := exec sch v sched (init s₀ prog)
    s₀ ⊆ c.sh ∧ ∀ t, SOk s₀ c.sh (c.th t) :=
  exec_inv sch v (fun _ => stepTh_sok sch v s₀) (fun _ _ _ _ => SOk.mono) sched _
    ⟨List.Subset.refl s₀, fun _ => ⟨trivial, nofun⟩⟩

/-! ### F. the live iteration does not raise when no element can be bound to two different identities -/

theorem selOf_add (s : Sh) (e : El) (f : Fact) :
    selOf (add f s) e = if f ∈ s then selOf s e else selOf s e ++ selOf [f] e := by
  unfold add
  by_cases h : f ∈ s
  · simp [h]
  · rw [if_neg h, if_neg (by simpa using h)]
    exact List.filterMap_append ..

/-- an identity that can ever be bound to `e`: bound by the build, or generated by a widened pair -/
def Pot (sch : Sch) (P : Pair → Prop) (s₀ : Sh) (e : El) (i : Idn) : Prop :=
  Fact.selBy e i ∈ s₀ ∨ ∃ p, P p ∧ sch.idOf p = i ∧ e ∈ sch.sel p

def OneId (sch : Sch) (P : Pair → Prop) (s₀ : Sh) : Prop := ∀ e i j, Pot sch P s₀ e i → Pot sch P s₀ e j → i = j

def Len1 (s : Sh) : Prop := ∀ e, (selOf s e).length ≤ 1

theorem pot_of_fed {sch : Sch} {P : Pair → Prop} {s₀ s : Sh} (hf : Fed sch P s₀ s) {e : El} {i : Idn}
    (h : i ∈ selOf s e) : Pot sch P s₀ e i :=
  (hf _ ((mem_selOf s e i).1 h)).imp_right id

theorem len1_add {sch : Sch} {P : Pair → Prop} {s₀ s : Sh} (ho : OneId sch P s₀) (hf : Fed sch P s₀ s)
    (hl : Len1 s) (f : Fact) (hg : Gen sch P f) : Len1 (add f s) := by
  intro e
  rw [selOf_add]
  split
  · exact hl e
  · rename_i hn
    cases hnew : selOf [f] e with
    | nil => rw [List.append_nil]; exact hl e
    | cons j r =>
      -- `f` makes `j` a member of `selected_by`; a member already there would be `j` itself, and `f` no new fact
      obtain rfl : Fact.selBy e j = f :=
        List.mem_singleton.1 ((mem_selOf [f] e j).1 (hnew ▸ List.mem_cons_self ..))
      have hnil : selOf s e = [] := List.eq_nil_iff_forall_not_mem.2 fun a ha =>
        hn (ho e a j (pot_of_fed hf ha) (Or.inr hg) ▸ (mem_selOf s e a).1 ha)
      rw [← hnew, hnil]
      exact List.length_filterMap_le ..

def LPc (s : Sh) : PC → Prop
  | .cIterNew e => selOf s e ≠ []
  | .cIter e n _ _ => n = 1 ∧ selOf s e ≠ []
  | .err => False
  | _ => True

theorem selOf_ne_nil_mono {s s' : Sh} (h : s ⊆ s') {e : El} (hn : selOf s e ≠ []) : selOf s' e ≠ [] :=
  have ⟨a, ha⟩ := List.exists_mem_of_ne_nil _ hn
  List.ne_nil_of_mem ((mem_selOf s' e a).2 (h ((mem_selOf s e a).1 ha)))

theorem LPc.mono {s s' : Sh} (h : s ⊆ s') {pc : PC} (hp : LPc s pc) : LPc s' pc := by
  cases pc with
  | cIterNew e => exact selOf_ne_nil_mono h hp
  | cIter e n todo done => exact ⟨hp.1, selOf_ne_nil_mono h hp.2⟩
  | _ => exact hp

theorem length_eq_one {s : Sh} (hl : Len1 s) {e : El} (hn : selOf s e ≠ []) : (selOf s e).length = 1 :=
  Nat.le_antisymm (hl e) (List.length_pos_iff.2 hn)

theorem stepTh_live (sch : Sch) (v : Variant) (P : Pair → Prop) (s₀ : Sh) (ho : OneId sch P s₀) (s : Sh) (th : Th)
    (hg : Fed sch P s₀ s ∧ Len1 s) (ht : UOk sch P th ∧ LPc s th.pc) :
    (Fed sch P s₀ (stepTh sch v s th).1 ∧ Len1 (stepTh sch v s th).1) ∧
      UOk sch P (stepTh sch v s th).2 ∧ LPc (stepTh sch v s th).1 (stepTh sch v s th).2.pc := by
  obtain ⟨⟨hf, hl⟩, hu, hp⟩ := And.intro hg ht
  have hu' := stepTh_fed sch v P s₀ s th hf hu
  suffices Len1 (stepTh sch v s th).1 ∧ LPc (stepTh sch v s th).1 (stepTh sch v s th).2.pc from
    ⟨⟨hu'.1, this.1⟩, hu'.2, this.2⟩
  have hpc := hu.pc
  unfold stepTh
  split <;> rename_i h0 <;> rw [h0] at hp hpc
  · split
    · exact ⟨hl, h0 ▸ hp⟩
    · exact ⟨hl, trivial⟩
    · exact ⟨hl, trivial⟩
  · split <;> exact ⟨hl, trivial⟩
  · exact ⟨hl, trivial⟩
  · split
    · cases v.addInside <;> exact ⟨hl, trivial⟩
    · exact ⟨hl, trivial⟩
  · exact ⟨len1_add ho hf hl _ ⟨_, hpc.1, rfl, hpc.2 _ (List.mem_cons_self ..)⟩, trivial⟩
  · exact ⟨len1_add ho hf hl _ ⟨_, hpc.1, rfl, hpc.2 _ (List.mem_cons_self ..)⟩, trivial⟩
  · exact ⟨len1_add ho hf hl _ hpc, trivial⟩
  · split
    · exact ⟨hl, trivial⟩
    · rename_i hne
      exact ⟨hl, fun h => hne (h ▸ rfl)⟩
  · exact ⟨hl, length_eq_one hl hp, hp⟩
  · -- the size of the set is still the size at the creation of the iterator
    rw [length_eq_one hl hp.2, hp.1, bne_self_eq_false, Bool.and_false, if_neg Bool.false_ne_true]
    split
    · exact ⟨hl, trivial⟩
    · exact ⟨hl, rfl, hp.2⟩
  · exact hp.elim

theorem live_exec (sch : Sch) (v : Variant) (s₀ : Sh) (prog : Nat → List Task) (hw : WF sch prog)
    (hone : OneId sch (Src prog) s₀) (hlen : Len1 s₀) (sched : List Nat) (t : Nat) :
    LPc (exec sch v sched (init s₀ prog)).sh ((exec sch v sched (init s₀ prog)).th t).pc :=
  ((exec_inv sch v (fun _ => stepTh_live sch v _ s₀ hone) (fun _ _ _ _ h ht => ⟨ht.1, ht.2.mono h⟩) sched
    (init s₀ prog) ⟨⟨fun _ => Or.inl, hlen⟩, fun t => ⟨uok_init hw s₀ t, trivial⟩⟩).2 t).2

end XsVerif.Threads.XW
