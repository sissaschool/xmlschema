/-
  Lemmas on Model/Modes.lean: what the generator run yields and raises in each mode, and what the loop of
  `decode` makes of the items.
-/
import XsVerif.Model.Modes

namespace XsVerif.Modes
variable {D : Type}

@[simp] theorem errsOf_append (a b : List (Item D)) : errsOf (a ++ b) = errsOf a ++ errsOf b := by
  induction a with
  | nil => rfl
  | cons i k ih =>
    cases i with
    | err e => exact congrArg (e :: ·) ih
    | data d => exact ih

@[simp] theorem dataOf_append (a b : List (Item D)) : dataOf (a ++ b) = dataOf a ++ dataOf b := by
  induction a with
  | nil => rfl
  | cons i k ih =>
    cases i with
    | err e => exact ih
    | data d => exact congrArg (d :: ·) ih

@[simp] theorem errsOf_map_err (l : List Err) : errsOf (l.map (Item.err (D := D))) = l := by
  induction l with
  | nil => rfl
  | cons e k ih => exact congrArg (e :: ·) ih

@[simp] theorem dataOf_map_err (l : List Err) : dataOf (l.map (Item.err (D := D))) = [] := by
  induction l with
  | nil => rfl
  | cons e k ih => exact ih

@[simp] theorem cons_items (i : Item D) (g : Gen D) : (g.cons i).items = i :: g.items := rfl
@[simp] theorem cons_raised (i : Item D) (g : Gen D) : (g.cons i).raised = g.raised := rfl
@[simp] theorem prepend_items (l : List (Item D)) (g : Gen D) : (g.prepend l).items = l ++ g.items := rfl
@[simp] theorem prepend_raised (l : List (Item D)) (g : Gen D) : (g.prepend l).raised = g.raised := rfl

theorem gen_lax_raised (s : List (Step D)) (b : List Err) : (gen .lax s b).raised = none := by
  induction s generalizing b with
  | nil => rfl
  | cons st k ih =>
    cases st with
    | stop => rfl
    | _ => exact ih _

theorem gen_skip_raised (s : List (Step D)) (b : List Err) : (gen .skip s b).raised = none := by
  induction s generalizing b with
  | nil => rfl
  | cons st k ih =>
    cases st with
    | stop => rfl
    | direct e sk => cases sk <;> exact ih b
    | _ => exact ih _

theorem gen_data (m : Mode) (hm : m ≠ .strict) (s : List (Step D)) (b : List Err) :
    dataOf (gen m s b).items = results s := by
  induction s generalizing b with
  | nil => rfl
  | cons st k ih =>
    cases st with
    | stop => rfl
    | flush => simp [gen, results, ih]
    | result d => exact congrArg (d :: ·) (ih b)
    | collect e =>
      cases m with
      | strict => exact absurd rfl hm
      | _ => exact ih _
    | direct e sk =>
      cases m with
      | strict => exact absurd rfl hm
      | lax => exact ih _
      | skip => cases sk <;> exact ih b

theorem gen_skip_errs (s : List (Step D)) : errsOf (gen .skip s []).items = skipDirects s := by
  induction s with
  | nil => rfl
  | cons st k ih =>
    cases st with
    | stop => rfl
    | direct e sk =>
      cases sk with
      | true => exact congrArg (e :: ·) ih
      | false => exact ih
    | _ => exact ih

/-- after a `direct` nothing is flushed any more (`tail2`): the lax run yields the remaining events,
    whatever the buffer holds. -/
theorem tail_lax_errs (s : List (Step D)) (b : List Err) (h : tail2 s = true) :
    errsOf (gen .lax s b).items = events s := by
  induction s generalizing b with
  | nil => rfl
  | cons st k ih =>
    cases st with
    | direct e sk => exact congrArg (e :: ·) (ih _ h)
    | result d => exact ih b h
    | stop => rfl
    | _ => cases h

/-- **lax run of a disciplined script** (collected errors are pending exactly while the buffer is not
    empty): the errors yielded are the pending buffer followed by the error events of the script, in
    call order. -/
theorem gen_lax_errs (s : List (Step D)) (b : List Err) (h : wf s (!b.isEmpty) = true) :
    errsOf (gen .lax s b).items = b ++ events s := by
  induction s generalizing b with
  | nil => cases b with
    | nil => rfl
    | cons => cases h
  | cons st k ih =>
    cases st with
    | collect e => exact (ih (b ++ [e]) (by cases b <;> exact h)).trans (List.append_assoc ..)
    | flush =>
      refine (errsOf_append ..).trans ?_
      rw [errsOf_map_err]
      exact congrArg (b ++ ·) (ih [] h)
    | direct e sk =>
      cases b with
      | nil => exact congrArg (e :: ·) (tail_lax_errs k _ (Bool.and_eq_true_iff.mp h).1)
      | cons => cases h
    | result d =>
      cases b with
      | nil => exact ih [] h
      | cons => cases h
    | stop =>
      cases b with
      | nil => rfl
      | cons => cases h

/-- **strict run**: nothing is ever collected, so the buffer stays empty; the run stops at the first error
    event, which it raises. -/
theorem gen_strict_raised (s : List (Step D)) : (gen .strict s []).raised = (events s).head? := by
  induction s with
  | nil => rfl
  | cons st k ih =>
    cases st with
    | flush => exact ih
    | result d => exact ih
    | _ => rfl

theorem gen_strict_errs (s : List (Step D)) : errsOf (gen .strict s []).items = [] := by
  induction s with
  | nil => rfl
  | cons st k ih =>
    cases st with
    | flush => exact ih
    | result d => exact ih
    | _ => rfl

theorem gen_strict_data (s : List (Step D)) (h : events s = []) :
    dataOf (gen .strict s []).items = results s := by
  induction s with
  | nil => rfl
  | cons st k ih =>
    cases st with
    | flush => exact ih h
    | result d => exact congrArg (d :: ·) (ih h)
    | stop => rfl
    | _ => cases h

theorem decodeLoop_lax (l : List (Item D)) (ds : List D) (es : List Err) :
    decodeLoop .lax l ds es = .ok (ds ++ dataOf l, es ++ errsOf l) := by
  induction l generalizing ds es with
  | nil => simp only [decodeLoop, dataOf, errsOf, List.append_nil]
  | cons i k ih =>
    cases i <;> simp only [decodeLoop, dataOf, errsOf, ih, List.append_assoc, List.singleton_append]

theorem decodeLoop_skip (l : List (Item D)) (ds : List D) (es : List Err) :
    decodeLoop .skip l ds es = .ok (ds ++ dataOf l, es) := by
  induction l generalizing ds es with
  | nil => simp only [decodeLoop, dataOf, List.append_nil]
  | cons i k ih => cases i <;> simp only [decodeLoop, dataOf, ih, List.append_assoc, List.singleton_append]

theorem decodeLoop_strict_noerr (l : List (Item D)) (ds : List D) (es : List Err)
    (h : errsOf l = []) : decodeLoop .strict l ds es = .ok (ds ++ dataOf l, es) := by
  induction l generalizing ds es with
  | nil => simp only [decodeLoop, dataOf, List.append_nil]
  | cons i k ih =>
    cases i with
    | err e => cases h
    | data d => simp only [decodeLoop, dataOf, ih _ _ h, List.append_assoc, List.singleton_append]

theorem wf_of_tail2 (s : List (Step D)) (h : tail2 s = true) : wf s false = true := by
  induction s with
  | nil => rfl
  | cons st k ih =>
    cases st with
    | direct e sk => exact (Bool.and_eq_true ..).mpr ⟨h, ih h⟩
    | result d => exact ih h
    | stop => rfl
    | _ => cases h

theorem wf_collects (l : List Err) (k : List (Step D)) (p : Bool) :
    wf (l.map .collect ++ .flush :: k) p = wf k false := by
  induction l generalizing p with
  | nil => rfl
  | cons e r ih => exact ih true

theorem events_collects (l : List Err) (k : List (Step D)) : events (l.map .collect ++ k) = l ++ events k := by
  induction l with
  | nil => rfl
  | cons e r ih => exact congrArg (e :: ·) ih

theorem results_collects (l : List Err) (k : List (Step D)) : results (l.map .collect ++ k) = results k := by
  induction l with
  | nil => rfl
  | cons e r ih => exact ih

theorem tail2_directs (l : List Err) (b : Bool) : tail2 (l.map (Step.direct (D := D) · b)) = true := by
  induction l with
  | nil => rfl
  | cons e r ih => exact ih

theorem events_directs (l : List Err) (b : Bool) : events (l.map (Step.direct (D := D) · b)) = l := by
  induction l with
  | nil => rfl
  | cons e r ih => exact congrArg (e :: ·) ih

theorem results_directs (l : List Err) (b : Bool) : results (l.map (Step.direct (D := D) · b)) = [] := by
  induction l with
  | nil => rfl
  | cons e r ih => exact ih

end XsVerif.Modes
