/-
  DataElementConverter: one-level round trip (element_encode ∘ element_decode) and the contracts `LevelOK`/`ScopedOK`.
-/
import XsVerif.Lemmas.Tree
import XsVerif.Model.DataElement

namespace XsVerif.Conv.DE
open XsVerif.Conv

/-- shape of the content that `XsdGroup.raw_decode` produces (groups.py:983-1075) as far as this converter
    depends on it: character data parts are not `None`, two parts are never adjacent (the decoder merges
    them, groups.py:1069-1071) … -/
def altOk {α : Type} : Bool → List (Item α) → Bool
  | _, [] => true
  | prevCd, .cdata _ v :: r => !prevCd && !v.isNull && altOk true r
  | _, .child _ _ _ :: r => altOk false r

def hasChild {α : Type} : List (Item α) → Bool
  | [] => false
  | .cdata _ _ :: r => hasChild r
  | .child _ _ _ :: _ => true

/-- what `element_decode` may be given for a valid element (one level) -/
structure WF1 {α : Type} (m : Mapper) (f : Facts) (hd : Hd) (its : List (Item α)) : Prop where
  attrsUm : ∀ kv ∈ hd.attrs, m.umA (m.mpA kv.1) = kv.1
  attrsNodup : ((hd.attrs.map fun kv => (m.mpA kv.1, kv.2)).map (·.1)).Nodup
  attrsNodup' : (hd.attrs.map (·.1)).Nodup
  textOk : ∀ t, hd.text = some t → t.isNull = false
  textAlone : hd.text.isSome = true → its = []
  noGroup : f.hasGroup = false → its = []
  /-- … and a lone character data part is handed over as `text` (elements.py:757-758) -/
  notAlone : its = [] ∨ hasChild its = true
  alt : altOk false its = true
  kidsName : ∀ nm s v, Item.child nm s v ∈ its → isDigits (m.mp nm) = false

/-- every converted child is a DataElement carrying its own (extended) name and no tail yet -/
def Inv (nm : String) (v : J) : Prop := ∃ value attrib kids xmlns, v = .elem nm value attrib kids .null xmlns

def Kids (its : List (Item J)) : Prop := ∀ nm s v, Item.child nm s v ∈ its → Inv nm v

/-- a child comes back from `element_encode` with the tail that `element_decode` attached to it -/
def R (v v' : J) : Prop := v' = v ∨ ∃ t, v' = setTail t v

/-- `norm1`: cdata parts renumbered from 1, `single` flags cleared -/
def norm1 {α : Type} (_f : Facts) (hd : Hd) (its : List (Item α)) : Hd × List (Item α) := (hd, renum 1 its)

theorem enc_setTail (m : Mapper) (f : Facts) (nm : String) (t v : J) :
    enc m f nm (setTail t v) = enc m f nm v := by
  cases v <;> rfl

theorem encR (m : Mapper) (f : Facts) (nm : String) (v v' : J) (h : R v v') : enc m f nm v' = enc m f nm v := by
  rcases h with rfl | ⟨t, rfl⟩
  · rfl
  · exact enc_setTail m f nm t v

/-- the children that the loop of `element_decode` ends with when `x` is the last child so far: a character
    data part becomes the tail of the child before it (dataobjects.py:549) -/
def kidsFrom (x : J) : List (Item J) → List J
  | [] => [x]
  | .cdata _ t :: r => kidsFrom (setTail t x) r
  | .child _ _ v :: r => x :: kidsFrom v r

theorem kidsFrom_cons (x : J) : ∀ its : List (Item J), ∃ a l, kidsFrom x its = a :: l
  | [] => ⟨x, [], rfl⟩
  | .cdata _ t :: r => kidsFrom_cons (setTail t x) r
  | .child _ _ v :: r => ⟨x, kidsFrom v r, rfl⟩

theorem modifyLast_snoc (g : J → J) (l : List J) (x : J) : modifyLast g (l ++ [x]) = l ++ [g x] := by
  induction l with
  | nil => rfl
  | cons a l ih =>
    cases l with
    | nil => rfl
    | cons b l => exact congrArg (a :: ·) ih

theorem decStep_cdata (m : Mapper) (val : J) (kids : List J) (x : J) (i : Nat) (t : J) :
    decStep m (val, kids ++ [x]) (.cdata i t) = some (val, kids ++ [setTail t x]) := by
  cases kids with
  | nil => rfl
  | cons b l => exact congrArg (fun ks => some (val, ks)) (modifyLast_snoc (setTail t) (b :: l) x)

theorem decStep_child (m : Mapper) (st : J × List J) {nm : String} (s : Bool) {v : J} (hv : Inv nm v)
    (hd : isDigits (m.mp nm) = false) : decStep m st (.child nm s v) = some (st.1, st.2 ++ [v]) := by
  obtain ⟨a, b, c, d, rfl⟩ := hv
  rw [decStep, if_neg (by rw [hd]; exact Bool.false_ne_true)]

theorem decLoop_from (m : Mapper) (val : J) (its : List (Item J)) :
    ∀ (kids : List J) (x : J),
      (∀ nm s v, Item.child nm s v ∈ its → Inv nm v ∧ isDigits (m.mp nm) = false) →
      decLoop m (val, kids ++ [x]) its = some (val, kids ++ kidsFrom x its) := by
  induction its with
  | nil => intros; rfl
  | cons it r ih =>
    intro kids x hk
    have hk' := fun nm s v h => hk nm s v (List.mem_cons_of_mem _ h)
    cases it with
    | cdata i t =>
      rw [decLoop, decStep_cdata]
      exact ih kids _ hk'
    | child nm s v =>
      obtain ⟨hv, hd⟩ := hk nm s v List.mem_cons_self
      rw [decLoop, decStep_child m _ s hv hd]
      refine (ih (kids ++ [x]) v hk').trans ?_
      rw [List.append_assoc]
      rfl

theorem eq_null_of_isNull {t : J} (h : t.isNull = true) : t = .null := by
  cases t <;> first | rfl | cases h

/-- `tl` is the tail that the last child so far carries -/
theorem encKids_from (its : List (Item J)) :
    ∀ (nm : String) (a : J) (b : List (String × J)) (c : List J) (d : List (String × String))
      (tl : J) (k : Nat), altOk (!tl.isNull) its = true →
      (∀ nm s v, Item.child nm s v ∈ its → Inv nm v) →
      ∃ post, encKids k (kidsFrom (.elem nm a b c tl d) its) = .ok post ∧
        ItemsRel R (.child nm false (.elem nm a b c .null d) ::
          if tl.isNull then renum k its else .cdata k tl :: renum (k + 1) its) post := by
  induction its with
  | nil =>
    intro nm a b c d tl k _ _
    cases htl : tl.isNull
    · exact ⟨_, by simp only [kidsFrom, encKids, htl, Bool.false_eq_true, if_false]; rfl,
        .cons (.child _ _ _ _ (.inr ⟨tl, rfl⟩)) (.cons (.cdata _ _) .nil)⟩
    · cases eq_null_of_isNull htl
      exact ⟨_, rfl, .cons (.child _ _ _ _ (.inl rfl)) .nil⟩
  | cons it r ih =>
    intro nm a b c d tl k h hk
    have hk' := fun nm s v h => hk nm s v (List.mem_cons_of_mem _ h)
    cases it with
    | cdata i t =>
      simp only [altOk, Bool.and_eq_true, Bool.not_eq_true', Bool.not_eq_false'] at h
      obtain ⟨⟨htl, ht⟩, hr⟩ := h
      cases eq_null_of_isNull htl
      obtain ⟨post, hp, hrel⟩ := ih nm a b c d t k (by rw [ht]; exact hr) hk'
      rw [ht] at hrel
      exact ⟨post, hp, hrel⟩
    | child nm' s' v =>
      obtain ⟨a', b', c', d', rfl⟩ := hk nm' s' v List.mem_cons_self
      cases htl : tl.isNull
      · obtain ⟨post, hp, hrel⟩ := ih nm' a' b' c' d' .null (k + 1) h hk'
        exact ⟨_, by simp only [kidsFrom, encKids, htl, Bool.false_eq_true, if_false, hp]; rfl,
          .cons (.child _ _ _ _ (.inr ⟨tl, rfl⟩)) (.cons (.cdata _ _) hrel)⟩
      · obtain ⟨post, hp, hrel⟩ := ih nm' a' b' c' d' .null k h hk'
        cases eq_null_of_isNull htl
        exact ⟨_, by simp only [kidsFrom, encKids, J.isNull, if_true, hp]; rfl,
          .cons (.child _ _ _ _ (.inl rfl)) hrel⟩

theorem unmap_attrs {α : Type} {m : Mapper} {f hd} {its : List (Item α)} (w : WF1 m f hd its) :
    dictUpdate [] ((decAttrs m hd).map fun kv => (m.umA kv.1, kv.2)) = hd.attrs := by
  rw [decAttrs, dictUpdate_nil _ w.attrsNodup]
  exact dictUpdate_unmap m hd.attrs w.attrsUm w.attrsNodup'

/-- dataobjects.py:546-549 leaves out what is not a DataElement -/
theorem decLoop_ne_none (m : Mapper) (its : List (Item J)) : ∀ st : J × List J, decLoop m st its ≠ none := by
  induction its with
  | nil => exact fun _ => nofun
  | cons it r ih =>
    intro (val, ks)
    have : ∃ st', decStep m (val, ks) it = some st' := by
      cases it with
      | cdata i v => cases ks <;> exact ⟨_, rfl⟩
      | child nm s v =>
        cases hd : isDigits (m.mp nm) <;> simp only [decStep, hd, Bool.false_eq_true, if_false, if_true] <;>
          split <;> exact ⟨_, rfl⟩
    obtain ⟨st', h⟩ := this
    rw [decLoop, h]
    exact ih st'

theorem dec_inv (m : Mapper) (f : Facts) (hd : Hd) (its : List (Item J)) : Inv hd.tag (dec m f hd its) := by
  unfold dec
  cases f.hasGroup
  · exact ⟨_, _, _, _, rfl⟩
  · simp only [if_true]
    split
    · exact ⟨_, _, _, _, rfl⟩
    · exact absurd ‹_› (decLoop_ne_none m _ _)

theorem dec_nil (m : Mapper) (f : Facts) (hd : Hd) :
    dec m f hd [] = .elem hd.tag (hd.text.getD .null) (decAttrs m hd) [] .null hd.xmlns := by
  unfold dec
  cases hd.text <;> cases f.hasGroup <;> rfl

theorem loop_from_child (m : Mapper) (val : J) (nm : String) (s : Bool) (v : J) (r : List (Item J)) (k : Nat)
    (hkk : ∀ nm' s' v', Item.child nm' s' v' ∈ Item.child nm s v :: r → Inv nm' v' ∧ isDigits (m.mp nm') = false)
    (halt : altOk false r = true) :
    ∃ ks post, decLoop m (val, []) (.child nm s v :: r) = some (val, ks) ∧ (∃ a l, ks = a :: l) ∧
      encKids k ks = .ok post ∧ ItemsRel R (renum k (.child nm s v :: r)) post := by
  obtain ⟨⟨a, b, c, d, rfl⟩, hd⟩ := hkk nm s _ List.mem_cons_self
  have hkk' := fun nm s v h => hkk nm s v (List.mem_cons_of_mem _ h)
  obtain ⟨post, hp, hrel⟩ := encKids_from r nm a b c d .null k halt fun nm s v h => (hkk' nm s v h).1
  refine ⟨_, post, ?_, kidsFrom_cons _ r, hp, hrel⟩
  rw [decLoop, decStep_child m _ s ⟨a, b, c, d, rfl⟩ hd]
  exact decLoop_from m val r [] _ hkk'

/-- **one level**: `element_encode (element_decode data)` is `norm1 data`, the children carrying their tails -/
theorem level_roundtrip {m : Mapper} {f hd} {its : List (Item J)} (w : WF1 m f hd its) (hk : Kids its) :
    ∃ its', enc m f hd.tag (dec m f hd its) = .ok (hd, its') ∧ ItemsRel R (renum 1 its) its' := by
  have hat := unmap_attrs w
  have hkk : ∀ nm s v, Item.child nm s v ∈ its → Inv nm v ∧ isDigits (m.mp nm) = false :=
    fun nm s v hm => ⟨hk nm s v hm, w.kidsName nm s v hm⟩
  obtain ⟨tag, text, attrs, xmlns⟩ := hd
  cases its with
  | nil =>
    refine ⟨[], ?_, .nil⟩
    rw [dec_nil]
    cases text with
    | none => simp only [enc, bne_self_eq_false, Bool.false_eq_true, if_false, hat]; rfl
    | some t =>
      simp only [enc, bne_self_eq_false, Bool.false_eq_true, if_false, hat, Option.getD_some, w.textOk t rfl]
  | cons it r =>
    have ht : text = none := Option.not_isSome_iff_eq_none.mp (mt w.textAlone (List.cons_ne_nil _ _))
    subst ht
    have hg : f.hasGroup = true := Bool.of_not_eq_false (mt w.noGroup (List.cons_ne_nil _ _))
    simp only [dec, hg, if_true]
    cases it with
    | child nm s v =>
      obtain ⟨ks, post, hl, ⟨a, l, rfl⟩, hp, hrel⟩ := loop_from_child m .null nm s v r 1 hkk w.alt
      refine ⟨post, ?_, hrel⟩
      rw [hl]
      simp only [enc, bne_self_eq_false, Bool.false_eq_true, if_false, hat, J.isNull, if_true, hp]
      rfl
    | cdata i t =>
      have halt := w.alt
      simp only [altOk, Bool.not_false, Bool.true_and, Bool.and_eq_true, Bool.not_eq_true'] at halt
      cases r with
      | nil => rcases w.notAlone with h | h <;> cases h
      | cons it' r' =>
        cases it' with
        | cdata _ _ => cases halt.2
        | child nm s v =>
          obtain ⟨ks, post, hl, ⟨a, l, rfl⟩, hp, hrel⟩ := loop_from_child m t nm s v r' 2
            (fun nm s v h => hkk nm s v (List.mem_cons_of_mem _ h)) halt.2
          refine ⟨.cdata 1 t :: post, ?_, .cons (.cdata _ _) hrel⟩
          rw [decLoop]
          simp only [decStep]
          rw [hl]
          simp only [enc, bne_self_eq_false, Bool.false_eq_true, if_false, hat, halt.1, hp]
          rfl

theorem altOk_shape {α} (b : Bool) (l : List (Item α)) : altOk b (shape l) = altOk b l := by
  induction l generalizing b with
  | nil => rfl
  | cons a l ih => cases a <;> simp only [shape, mapIt, List.map_cons, Item.map, altOk] <;> rw [← ih] <;> rfl

theorem hasChild_shape {α} (l : List (Item α)) : hasChild (shape l) = hasChild l := by
  induction l with
  | nil => rfl
  | cons a l ih =>
    cases a with
    | cdata _ _ => exact ih
    | child _ _ _ => rfl

theorem WF1.of_shape {m : Mapper} {f hd} {its : List (Item J)} (w : WF1 m f hd (shape its)) : WF1 m f hd its :=
  { w with
    textAlone := fun h => shape_nil (w.textAlone h)
    noGroup := fun h => shape_nil (w.noGroup h)
    notAlone := w.notAlone.imp shape_nil fun h => hasChild_shape its ▸ h
    alt := altOk_shape false its ▸ w.alt
    kidsName := fun nm s _ h => w.kidsName nm s () (mem_shape_child h) }

theorem dataelement_levelOK (m : Mapper) :
    LevelOK (conv m) Inv (fun f hd sh => WF1 m f hd sh) (fun {_} f hd its => norm1 f hd its) R where
  rt := fun _ _ _ w hk => level_roundtrip w.of_shape hk
  encR := encR m
  inv := fun _ hd _ _ _ => dec_inv m _ hd _
  natural := fun g _ _ _ => congrArg _ (renum_natural g 1 _)
  children := fun _ _ _ _ _ _ h => renum_children _ _ _ _ _ h

theorem enc_xmlns (m : Mapper) (f : Facts) (nm : String) (v : J) (hd : Hd) (its : List (Item J))
    (h : enc m f nm v = .ok (hd, its)) : hd.xmlns = xmlnsOfObj v := by
  unfold enc at h
  split at h
  · split at h
    · cases h
    · split at h
      · cases h; rfl
      · split at h <;> obtain ⟨c, _, hc⟩ := bind_pure_ok h <;> cases hc <;> rfl
  · cases h

theorem xmlnsR (v v' : J) (h : R v v') : xmlnsOfObj v' = xmlnsOfObj v := by
  rcases h with rfl | ⟨t, rfl⟩
  · rfl
  · cases v <;> rfl

theorem dataelement_scopedOK (m : NsScope → Mapper) :
    ScopedOK (sconv m) (fun _ => Inv) (fun sc f hd sh => WF1 (m sc) f hd sh)
      (fun {_} f hd its => norm1 f hd its) R :=
  ScopedOK.ofLevel (c := sconv m) (fun sc => dataelement_levelOK (m sc))
    (fun sc f nm v hd its h => enc_xmlns (m sc) f nm v hd its h) (fun _ _ _ => rfl) xmlnsR

end XsVerif.Conv.DE
