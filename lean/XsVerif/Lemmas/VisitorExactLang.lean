/-
  C01: the language of the content of a flat `sequence` of element leaves with well-formed ranges
  (`lo ≤ hi`) and pairwise disjoint names is decided by the run automaton `runSeq`; for a sequence with
  occurrence 1..1 the port's verdict is that of the run automaton and its fuel is not exhausted.
-/
import XsVerif.Lemmas.Rx
import XsVerif.Lemmas.VisitorExactSeqLoop

namespace XsVerif.CM
open XsVerif.Wildcard XsVerif.Rx

abbrev LangL := Rx.Lang Leaf.matches

def seqRx (ls : List LeafSpec) : Rx Leaf := (ofSpecs ls).toSeq

theorem seqRx_cons (l : LeafSpec) (t : List LeafSpec) :
    seqRx (l :: t) = .cat (.rep (.sym l.leaf) l.lo l.hi) (seqRx t) := rfl

def hiSub : Option Nat → Nat → Option Nat
  | none, _ => none
  | some h, c => some (h - c)

theorem lang_cat_cons (a S : Rx Leaf) (q : QN) (w : List QN) :
    LangL (.cat a S) (q :: w) ↔
      (∃ u v, w = u ++ v ∧ LangL a (q :: u) ∧ LangL S v) ∨ (LangL a [] ∧ LangL S (q :: w)) :=
  Rx.lang_cat_cons _ a S q w

theorem lang_cat_nil (a S : Rx Leaf) : LangL (.cat a S) [] ↔ LangL a [] ∧ LangL S [] :=
  Rx.lang_cat_nil _ a S

theorem lang_rep_sym_cons (l : Leaf) (lo : Nat) (hi : Option Nat) (q : QN) (u : List QN) :
    LangL (.rep (.sym l) lo hi) (q :: u) ↔
      (l.matches q = true ∧ hiPos hi = true ∧ loLeHi lo hi = true ∧ LangL (.rep (.sym l) (lo - 1) (hiPred hi)) u) := by
  rw [LangL, lang_rep_cons]
  simp only [lang_sym_cons]
  constructor
  · rintro ⟨⟨h1, h2⟩, u', v, rfl, ⟨hm, rfl⟩, hv⟩; exact ⟨hm, h1, h2, hv⟩
  · rintro ⟨hm, h1, h2, hv⟩; exact ⟨⟨h1, h2⟩, [], u, rfl, ⟨hm, rfl⟩, hv⟩

theorem lang_rep_sym_nil (l : Leaf) (lo : Nat) (hi : Option Nat) :
    LangL (.rep (.sym l) lo hi) [] ↔ (loLeHi lo hi = true ∧ lo = 0) := by
  rw [LangL, lang_rep_nil, loLeHi_iff]
  exact and_congr_right fun _ => or_iff_left fun ⟨_, h, _⟩ => nomatch h

theorem first_seq : ∀ (rest : List LeafSpec) (q : QN) (v : List QN), LangL (seqRx rest) (q :: v) →
    ∃ l' ∈ rest, l'.names.contains q = true := by
  intro rest
  induction rest with
  | nil => intro q v h; simp [seqRx, ofSpecs, Particles.toSeq, LangL, Lang] at h
  | cons l t ih =>
    intro q v h
    rw [seqRx_cons, lang_cat_cons] at h
    rcases h with ⟨u, v', _, h1, _⟩ | ⟨_, h2⟩
    · rw [lang_rep_sym_cons] at h1
      exact ⟨l, by simp, h1.1⟩
    · obtain ⟨l', hl', h⟩ := ih q v h2
      exact ⟨l', List.mem_cons_of_mem _ hl', h⟩

theorem lang_rep_zero (r : Rx Leaf) (u : List QN) : LangL (.rep r 0 (some 0)) u ↔ u = [] :=
  ⟨lang_rep_hi_zero _, fun h => h ▸ (lang_rep_nil _ r 0 (some 0)).mpr ⟨Nat.le_refl 0, .inl rfl⟩⟩

theorem lang_cat_rep_zero (r S : Rx Leaf) (w : List QN) : LangL (.cat (.rep r 0 (some 0)) S) w ↔ LangL S w := by
  constructor
  · rintro ⟨u, v, rfl, h1, h2⟩
    have := (lang_rep_zero r u).mp h1
    subst this; simpa using h2
  · intro h; exact ⟨[], w, rfl, (lang_rep_zero r []).mpr rfl, h⟩

/-- what is left of a leaf's range after `c` occurrences -/
def LeafSpec.rest (l : LeafSpec) (c : Nat) : Rx Leaf := .rep (.sym l.leaf) (l.lo - c) (hiSub l.hi c)

theorem nil_rest_iff (l : LeafSpec) (c : Nat) : LangL (l.rest c) [] ↔ l.lo ≤ c := by
  rw [LeafSpec.rest, lang_rep_sym_nil]
  constructor
  · rintro ⟨_, h⟩; omega
  · intro h
    have h0 : l.lo - c = 0 := by omega
    refine ⟨?_, h0⟩
    rw [h0]
    cases l.hi <;> simp [hiSub, loLeHi]

theorem lang_rest_cons (l : LeafSpec) (hok : l.okRange = true) (c : Nat) (q : QN) (u : List QN) :
    LangL (l.rest c) (q :: u) ↔ l.names.contains q = true ∧ ltHi c l.hi = true ∧ LangL (l.rest (c + 1)) u := by
  have hb : hiPos (hiSub l.hi c) = ltHi c l.hi ∧
      (ltHi c l.hi = true → loLeHi (l.lo - c) (hiSub l.hi c) = true) ∧
      hiPred (hiSub l.hi c) = hiSub l.hi (c + 1) := by
    unfold LeafSpec.okRange at hok
    cases hh : l.hi with
    | none => exact ⟨rfl, fun _ => rfl, rfl⟩
    | some v =>
      rw [hh] at hok
      simp only [loLeHi, decide_eq_true_eq] at hok
      refine ⟨?_, ?_, ?_⟩
      · simp only [hiSub, hiPos, ltHi, Nat.sub_pos_iff_lt]
      · intro _; simp only [hiSub, loLeHi, decide_eq_true_eq]; omega
      · simp only [hiSub, hiPred, Nat.sub_sub]
  rw [LeafSpec.rest, LeafSpec.rest, lang_rep_sym_cons, hb.1, hb.2.2, Nat.sub_sub]
  constructor
  · rintro ⟨hm, hp, _, hr⟩; exact ⟨hm, hp, hr⟩
  · rintro ⟨hm, hp, hr⟩; exact ⟨hm, hp, hb.2.1 hp, hr⟩

theorem lang_rest_cat_nil (l : LeafSpec) (c : Nat) (S : Rx Leaf) :
    LangL (.cat (l.rest c) S) [] ↔ l.lo ≤ c ∧ LangL S [] := by
  rw [lang_cat_nil, nil_rest_iff]

theorem lang_rest_cat_cons (l : LeafSpec) (hok : l.okRange = true) (c : Nat) (S : Rx Leaf) (q : QN) (w : List QN) :
    LangL (.cat (l.rest c) S) (q :: w) ↔
      (l.names.contains q = true ∧ ltHi c l.hi = true ∧ LangL (.cat (l.rest (c + 1)) S) w) ∨
        (l.lo ≤ c ∧ LangL S (q :: w)) := by
  rw [lang_cat_cons, nil_rest_iff]
  refine or_congr ?_ Iff.rfl
  constructor
  · rintro ⟨u, v, e, h1, hs⟩
    obtain ⟨hm, hp, hr⟩ := (lang_rest_cons l hok c q u).mp h1
    exact ⟨hm, hp, u, v, e, hr, hs⟩
  · rintro ⟨hm, hp, u, v, e, hr, hs⟩
    exact ⟨u, v, e, (lang_rest_cons l hok c q u).mpr ⟨hm, hp, hr⟩, hs⟩

theorem lang_rest_cat_full (l : LeafSpec) (hok : l.okRange = true) {c : Nat} (hc : ltHi c l.hi = true)
    (h : ltHi (c + 1) l.hi = false) (S : Rx Leaf) (w : List QN) :
    LangL (.cat (l.rest (c + 1)) S) w ↔ LangL S w := by
  have hhi : hiSub l.hi (c + 1) = some 0 := by
    cases hh : l.hi with
    | none => rw [hh] at h; cases h
    | some v =>
      rw [hh] at hc h
      simp only [ltHi, decide_eq_true_eq, decide_eq_false_iff_not] at hc h
      simp only [hiSub, Option.some.injEq]
      omega
  rw [LeafSpec.rest, Nat.sub_eq_zero_of_le (lo_le_of_over hok h), hhi, lang_cat_rep_zero]

theorem runLeaf_lang (l : LeafSpec) (rest : List LeafSpec) (k : List QN → Bool)
    (hk : ∀ v, k v = true ↔ LangL (seqRx rest) v)
    (hdis : ∀ l' ∈ rest, ∀ q, l.names.contains q = true → l'.names.contains q = false)
    (hok : l.okRange = true) :
    ∀ (w : List QN) (c : Nat), (c = 0 ∨ ltHi c l.hi = true) →
      (runLeaf l k c w = true ↔ LangL (.cat (l.rest c) (seqRx rest)) w) := by
  intro w
  induction w with
  | nil =>
    intro c _
    rw [lang_rest_cat_nil, ← hk]
    simp only [runLeaf, Bool.and_eq_true, decide_eq_true_eq]
  | cons q w ih =>
    intro c hc
    rw [lang_rest_cat_cons l hok, ← hk, runLeaf, ← ltHi_eq_bne hc]
    cases hm : l.names.contains q with
    | false => simp only [Bool.false_and, Bool.false_eq_true, if_false, Bool.and_eq_true, decide_eq_true_eq, false_and,
        false_or]
    | true =>
      -- the leaves after `l` cannot take a name of `l`
      have hS : k (q :: w) = false := by
        rw [← Bool.not_eq_true, hk]
        intro h2
        obtain ⟨l', hl', h⟩ := first_seq rest q w h2
        rw [hdis l' hl' q hm] at h; cases h
      cases hlt : ltHi c l.hi with
      | false => simp only [hS, Bool.and_false, Bool.false_eq_true, if_false, false_and, and_false, or_false]
      | true =>
        simp only [hS, Bool.true_and, if_true, true_and, Bool.and_false, Bool.false_eq_true, and_false, or_false]
        cases hst : ltHi (c + 1) l.hi with
        | true => exact ih (c + 1) (.inr hst)
        | false => rw [lang_rest_cat_full l hok hlt hst, ← hk]; simp

theorem hiSub_zero (hi : Option Nat) : hiSub hi 0 = hi := by cases hi <;> rfl

theorem disjoint_head {l : LeafSpec} {t : List LeafSpec} (h : disjointNames (l :: t) = true) :
    (∀ l' ∈ t, ∀ q, l.names.contains q = true → l'.names.contains q = false) ∧ disjointNames t = true := by
  simp only [disjointNames, Bool.and_eq_true, List.all_eq_true, Bool.not_eq_true'] at h
  refine ⟨fun l' hl' q hq => ?_, h.2⟩
  exact h.1 l' hl' q (by simpa using hq)

theorem runSeq_lang : ∀ (ls : List LeafSpec), disjointNames ls = true → (∀ l ∈ ls, l.okRange = true) →
    ∀ w, runSeq ls w = true ↔ LangL (seqRx ls) w := by
  intro ls
  induction ls with
  | nil =>
    intro _ _ w
    simp [runSeq, seqRx, ofSpecs, Particles.toSeq, LangL, Lang]
  | cons l t ih =>
    intro hd hok w
    obtain ⟨h1, h2⟩ := disjoint_head hd
    have := runLeaf_lang l t (runSeq t) (ih h2 (fun l' hl' => hok l' (List.mem_cons_of_mem _ hl'))) h1
      (hok l (by simp)) w 0 (.inl rfl)
    rw [runSeq, this, seqRx_cons, LeafSpec.rest, Nat.sub_zero, hiSub_zero]

theorem lang_rep_one (r : Rx Leaf) (w : List QN) : LangL (.rep r 1 (some 1)) w ↔ LangL r w := by
  constructor
  · rintro ⟨ws, rfl, h1, h2, hall⟩
    obtain ⟨x, rfl⟩ := List.length_eq_one_iff.mp (Nat.le_antisymm h2 h1)
    exact (congrArg (LangL r) (List.append_nil x)).mpr (hall x (List.mem_singleton_self x))
  · intro h
    exact ⟨[w], (List.append_nil w).symm, Nat.le_refl _, Nat.le_refl _, fun x hx => List.mem_singleton.mp hx ▸ h⟩


section
variable {A : Arena} {n root : Nat} {ls : List LeafSpec}

theorem init_at (F : FlatA A n root .seq 1 (some 1) ls) : At F 0 0 false (ocFix {} (init A n root)) := by
  have hn := F.nextItem_seq (by simp) { group := root, cnt := Cnt.zero n } rfl
  unfold init
  rw [show 4 * A.size + 8 = (4 * A.size + 7) + 1 from rfl, start]
  cases h : ls[0]? with
  | none =>
    simp only [h] at hn
    simp only [hn]
    exact .ended h rfl rfl
  | some l0 =>
    simp only [h] at hn
    simp only [hn, F.leaf_isGroup (List.mem_of_getElem? h)]
    refine .leaf l0 ?_ (.inl rfl)
    exact { hl := h, stack := rfl, group := rfl, idx := rfl, mtch := rfl, elem := rfl, fo := rfl,
            sized := Cnt.sized_zero n, cur := Cnt.get_zero n _, root0 := Cnt.get_zero n _,
            oid0 := Cnt.getOid_zero n _,
            bound := fun l' _ => (Cnt.get_zero n l'.id).symm ▸ (by cases l'.hi <;> simp [Rx.leHi] : Rx.leHi 0 l'.hi),
            later := fun _ l' _ _ => Cnt.get_zero n _,
            mfalse := fun _ => ⟨rfl, fun _ h => nomatch h⟩, mtrue := nofun }

/-- **the ModelVisitor port on a flat sequence = the run automaton**, and its fuel is never exhausted -/
theorem seq_exact (F : FlatA A n root .seq 1 (some 1) ls) (hok : ∀ l ∈ ls, l.okRange = true)
    (hlen : ls.length + 1 ≤ n) (w : List QN) :
    verdict A n root w = runSeq ls w ∧ (childErrors A n root w).fuelOut = false := by
  have hne : ((A.node root).kind == .choice && (A.node root).content.isEmpty && (A.node root).lo != 0) = false := by
    rw [F.root_node]; rfl
  obtain ⟨h1, h2⟩ := childErrors_res A n root w hne
  have h := seq_at hok hlen w 0 0 0 false { s := ocFix {} (init A n root) } (init_at F) rfl rfl rfl
  exact ⟨h1.trans ((congrArg Prod.fst h).trans (runSeq_drop ls 0 w).symm), h2.trans (congrArg Prod.snd h)⟩

end

end XsVerif.CM
