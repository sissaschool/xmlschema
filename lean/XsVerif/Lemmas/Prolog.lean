/-
  Helper lemmas for C13: the scanner of Model/Prolog.lean run over the rendering of each piece of the prolog
  grammar.  Fixed keywords are run through the automaton by evaluation (`rfl`; the `run_kw_*` lemmas are stated
  with an arbitrary continuation `k` so that they rewrite a rendering as it is printed); the pieces with arbitrary
  content go through `run_stay` / `run_collect`.
-/
import XsVerif.Model.Prolog

namespace XsVerif.Prolog

@[simp] theorem run_nil (st : St) : run st [] = st := rfl
@[simp] theorem run_cons (st : St) (c : Nat) (s : Bytes) : run st (c :: s) = run (step st c) s := rfl
theorem run_append (st : St) (a b : Bytes) : run st (a ++ b) = run (run st a) b := by
  simp [run, List.foldl_append]

@[simp] theorem run_done (v : Verdict) (s : Bytes) : run (.done v) s = .done v := by
  induction s with
  | nil => rfl
  | cons c s ih => exact ih

theorem run_stay {st : St} {P : Nat → Bool} (hst : ∀ c, P c = true → step st c = st) :
    ∀ {s : Bytes}, s.all P = true → run st s = st
  | [], _ => rfl
  | c :: s, h => by
    rw [List.all_cons, Bool.and_eq_true] at h
    rw [run_cons, hst c h.1, run_stay hst h.2]

theorem run_collect {g : Bytes → St} {P : Nat → Bool}
    (hg : ∀ acc c, P c = true → step (g acc) c = g (acc ++ [c])) :
    ∀ {s : Bytes}, s.all P = true → ∀ acc, run (g acc) s = g (acc ++ s)
  | [], _, acc => by rw [List.append_nil]; rfl
  | c :: s, h, acc => by
    rw [List.all_cons, Bool.and_eq_true] at h
    rw [run_cons, hg acc c h.1, run_collect hg h.2, List.append_assoc]; rfl

theorem ws_not_name {c : Nat} (h : isWs c = true) : isNameChar c = false := by
  simp only [isWs, Bool.or_eq_true, beq_iff_eq] at h
  rcases h with ((rfl | rfl) | rfl) | rfl <;> rfl

theorem ws_not_upper {c : Nat} (h : isWs c = true) : isUpper c = false := by
  simp only [isWs, Bool.or_eq_true, beq_iff_eq] at h
  rcases h with ((rfl | rfl) | rfl) | rfl <;> rfl

theorem nameStart_nameChar {c : Nat} (h : isNameStart c = true) : isNameChar c = true := by
  simp [isNameChar, h]

/-- a name character is none of the bytes the automaton reacts to: `d` is such a byte as soon as
    `isNameChar d` evaluates to `false` -/
theorem nameChar_ne {c d : Nat} (h : isNameChar c = true) (hd : isNameChar d = false) : c ≠ d :=
  fun e => by rw [e, hd] at h; cases h

theorem nameChar_not_ws {c : Nat} (h : isNameChar c = true) : isWs c = false :=
  Bool.eq_false_iff.mpr fun hw => by rw [ws_not_name hw] at h; cases h

theorem nameChar_not_quote {c : Nat} (h : isNameChar c = true) : isQuote c = false :=
  Bool.eq_false_iff.mpr fun hq => by
    simp only [isQuote, Bool.or_eq_true, beq_iff_eq] at hq
    rcases hq with rfl | rfl <;> cases h

theorem quote_byte_isQuote (q : Quote) : isQuote q.byte = true := by cases q <;> rfl

theorem name_rawOk {n : Bytes} (h : n.all isNameChar = true) : rawOk n = true := by
  simp only [rawOk, List.all_eq_true] at *
  intro c hc
  have hn := h c hc
  simp [nameChar_not_quote hn, nameChar_ne hn (d := 60) rfl, nameChar_ne hn (d := 62) rfl]

theorem isName_all {n : Bytes} (h : isName n = true) : n.all isNameChar = true := by
  cases n with
  | nil => simp [isName] at h
  | cons c cs =>
    simp only [isName, Bool.and_eq_true] at h
    simp [List.all_cons, nameStart_nameChar h.1, h.2]

theorem run_text_ws (f : Flags) (sub : Bool) (ws : Bytes) (h : ws.all isWs = true) :
    run (.text f sub) ws = .text f sub :=
  run_stay (st := .text f sub) (fun _ hc => if_pos hc) h

/-- The recursion follows `commentOk`: a dash inside the body is followed by a byte that is not a
    dash, and the two together bring the automaton back to "no trailing dash". -/
theorem run_comment_body (f : Flags) (sub : Bool) :
    ∀ body, commentOk body = true → run (.comment f sub 0) (body ++ [45, 45, 62]) = .text f sub
  | [], _ => rfl
  | [c], h => by
    have hc : c ≠ 45 := by simpa [commentOk] using h
    simp [step, hc]
  | c :: d :: cs, h => by
    simp only [commentOk, Bool.and_eq_true, Bool.not_eq_true', Bool.and_eq_false_iff,
      beq_eq_false_iff_ne] at h
    have ih := run_comment_body f sub (d :: cs) h.2
    by_cases hc : c = 45
    · have hd : d ≠ 45 := h.1.resolve_left (fun hne => hne hc)
      simp only [List.cons_append, run_cons] at ih ⊢
      simpa [step, hc, hd] using ih
    · simpa [step, hc] using ih

theorem run_comment (f : Flags) (sub : Bool) (body : Bytes) (h : commentOk body = true) :
    run (.text f sub) (commentBytes body) = .text f sub :=
  run_comment_body f sub body h

/-- as for comments: a `?` inside the data is followed by a byte that is not `>` -/
theorem run_pi_body (f : Flags) (sub : Bool) :
    ∀ body, piOk body = true → run (.pi f sub false) (body ++ [63, 62]) = .text f sub
  | [], _ => rfl
  | [c], _ => by by_cases hc : c = 63 <;> simp [step, hc]
  | c :: d :: cs, h => by
    simp only [piOk, Bool.and_eq_true, Bool.not_eq_true', Bool.and_eq_false_iff,
      beq_eq_false_iff_ne] at h
    have ih := run_pi_body f sub (d :: cs) h.2
    by_cases hc : c = 63
    · have hd : d ≠ 62 := h.1.resolve_left (fun hne => hne hc)
      simp only [List.cons_append, run_cons] at ih ⊢
      simpa [step, hc, hd] using ih
    · simpa [step, hc] using ih

theorem run_piTarget (f : Flags) (sub : Bool) (t : Bytes) (h : t.all isNameChar = true) (acc : Bytes) :
    run (.piTarget f sub acc) t = .piTarget f sub (acc ++ t) :=
  run_collect (g := .piTarget f sub) (fun _ _ hc => if_pos hc) h acc

theorem run_pi (f : Flags) (sub : Bool) (t body : Bytes) (ht : piTargetOk t = true)
    (hb : piOk body = true) : run (.text f sub) (piBytes t body) = .text f sub := by
  simp only [piTargetOk, Bool.and_eq_true, bne_iff_ne] at ht
  have e : step (.piTarget f sub t) 32 = .pi f sub false := by
    simp [step, isNameChar, isNameStart, isWs, ht.2]
  show run (.piTarget f sub []) (t ++ 32 :: (body ++ [63, 62])) = _
  rw [run_append, run_piTarget f sub t (isName_all ht.1), List.nil_append, run_cons, e,
    run_pi_body f sub body hb]

theorem run_lit {a b : St} {lit : Nat → St} (hopen : ∀ q, isQuote q = true → step a q = lit q)
    (hstay : ∀ q c, (c != q) = true → step (lit q) c = lit q) (hclose : ∀ q, step (lit q) q = b)
    (l : Lit) (h : l.wf = true) : run a l.render = b := by
  rw [Lit.render, run_cons, hopen _ (quote_byte_isQuote l.q), run_append, run_stay (hstay _) h, run_cons,
    hclose]
  rfl

/-- `SYSTEM "…"` / `PUBLIC "…" "…"`: the keyword leads from `a` to `b`, the first literal from `b` to
    `c`, and `c` passes over a space and a second literal -/
theorem run_extId {a b c : St} (hs : ∀ k, run a (kSYSTEM ++ 32 :: k) = run b k)
    (hp : ∀ k, run a (kPUBLIC ++ 32 :: k) = run b k)
    (hb : ∀ l : Lit, l.wf = true → run b l.render = c) (hc : ∀ l : Lit, l.wf = true → run c l.render = c)
    (h32 : step c 32 = c) (id : ExtId) (h : id.wf = true) : run a id.render = c := by
  cases id with
  | system s => rw [ExtId.render, hs, hb s h]
  | pub p s =>
    rw [ExtId.wf, Bool.and_eq_true] at h
    rw [ExtId.render, hp, run_append, hb p h.1, run_cons, h32, hc s h.2]

theorem step_decl_space (f : Flags) : step (.decl f) 32 = .decl f := rfl
theorem step_decl_gt (f : Flags) : step (.decl f) 62 = .text f true := rfl

theorem run_decl_raw (f : Flags) (b : Bytes) (h : rawOk b = true) : run (.decl f) b = .decl f := by
  refine run_stay (P := fun c => !isQuote c && c != 60 && c != 62) (fun c hc => ?_) h
  simp only [Bool.and_eq_true, Bool.not_eq_true', bne_iff_ne] at hc
  simp [step, hc.1.1, hc.1.2, hc.2]

theorem run_decl_name (f : Flags) (n : Bytes) (h : isName n = true) : run (.decl f) n = .decl f :=
  run_decl_raw f n (name_rawOk (isName_all h))

theorem run_decl_lit (f : Flags) (l : Lit) (h : l.wf = true) : run (.decl f) l.render = .decl f :=
  run_lit (a := .decl f) (lit := .declLit f) (fun _ hq => if_pos hq)
    (fun _ _ hc => if_neg (bne_iff_ne.mp hc)) (fun _ => if_pos rfl) l h

theorem run_decl_extId (f : Flags) (id : ExtId) (h : id.wf = true) :
    run (.decl f) id.render = .decl f :=
  run_extId (a := .decl f) (b := .decl f) (c := .decl f) (fun _ => rfl) (fun _ => rfl)
    (run_decl_lit f) (run_decl_lit f) rfl id h

theorem run_decl_entDef (f : Flags) (d : EntDef) (h : d.wf = true) :
    run (.decl f) d.render = .decl f := by
  cases d with
  | value v => exact run_decl_lit f v h
  | ext id => exact run_decl_extId f id h
  | ndata id n =>
    simp only [EntDef.wf, Bool.and_eq_true] at h
    rw [EntDef.render, run_append, run_decl_extId f id h.1]
    exact run_decl_name f n h.2

theorem run_decl_attDefault (f : Flags) (a : AttDefault) (h : a.wf = true) :
    run (.decl f) a.render = .decl f := by
  cases a with
  | kw k => exact run_decl_raw f k h
  | lit l => exact run_decl_lit f l h
  | fixed l =>
    have e : ∀ k, run (.decl f) ([35, 70, 73, 88, 69, 68, 32] ++ k) = run (.decl f) k := fun _ => rfl
    rw [AttDefault.render, e]
    exact run_decl_lit f l h

theorem run_decl_atts (f : Flags) (as : List AttDef) (h : as.all AttDef.wf = true) :
    run (.decl f) (renderAtts as) = .decl f := by
  induction as with
  | nil => rfl
  | cons a as ih =>
    simp only [List.all_cons, Bool.and_eq_true, AttDef.wf] at h
    simp only [renderAtts, AttDef.render, run_append, run_cons, step_decl_space,
      run_decl_name f a.name h.1.1.1, run_decl_raw f a.type h.1.1.2, run_decl_attDefault f a.dflt h.1.2,
      ih h.2]

theorem run_entName (n : Bytes) (h : n.all isNameChar = true) (acc : Bytes) :
    run (.entName acc) n = .entName (acc ++ n) :=
  run_collect (g := .entName) (fun _ _ hc => if_pos hc) h acc

theorem run_entExt_lit (n : Bytes) (l : Lit) (h : l.wf = true) :
    run (.entExt n) l.render = .entExt n :=
  run_lit (a := .entExt n) (lit := .entExtLit n) (fun _ hq => if_pos hq)
    (fun _ _ hc => if_neg (bne_iff_ne.mp hc)) (fun _ => if_pos rfl) l h

theorem run_entDef_extId (n : Bytes) (id : ExtId) (h : id.wf = true) :
    run (.entDef n) id.render = .entExt n :=
  run_extId (a := .entDef n) (b := .entExt n) (c := .entExt n) (fun _ => rfl) (fun _ => rfl)
    (run_entExt_lit n) (run_entExt_lit n) rfl id h

theorem run_entDef (n : Bytes) (d : EntDef) (h : d.wf = true) (k : Bytes) :
    run (.entDef n) (d.render ++ 62 :: k) = .done (entityVerdict n d) := by
  cases d with
  | value v =>
    obtain ⟨q, body⟩ := v
    cases q <;> exact run_done (.entity n) _
  | ext id =>
    rw [EntDef.render, run_append, run_entDef_extId n id h, run_cons]
    exact run_done _ k
  | ndata id m =>
    simp only [EntDef.wf, Bool.and_eq_true] at h
    rw [EntDef.render, run_append, run_append, run_entDef_extId n id h.1]
    show run (run (.done (.unparsed n)) m) (62 :: k) = _
    rw [run_done, run_done]
    rfl

theorem step_text_lt (f : Flags) (sub : Bool) : step (.text f sub) 60 = .lt f sub := by
  simp [step, isWs]

theorem run_kw_skip (f : Flags) (kwd : Bytes)
    (h : kwd = kELEMENT ∨ kwd = kATTLIST ∨ kwd = kNOTATION) (k : Bytes) :
    run (.text f true) ([60, 33] ++ (kwd ++ 32 :: k)) = run (.decl f) k := by
  rcases h with rfl | rfl | rfl <;> rfl

theorem run_kw_entity (f : Flags) (k : Bytes) :
    run (.text f true) ([60, 33] ++ (kENTITY ++ 32 :: k)) = run (if f.keep then .entPre else .decl f) k :=
  rfl

theorem run_entPre_name (param : Bool) (n : Bytes) (h : isName n = true) (k : Bytes) :
    run .entPre ((if param then [37, 32] else []) ++ (n ++ 32 :: k)) = run (.entDef n) k := by
  cases n with
  | nil => simp [isName] at h
  | cons c cs =>
    simp only [isName, Bool.and_eq_true] at h
    have hc := nameStart_nameChar h.1
    have e : step .entPre c = .entName [c] := by
      simp [step, nameChar_not_ws hc, nameChar_ne hc (d := 37) rfl, h.1]
    have : run .entPre ((c :: cs) ++ 32 :: k) = run (.entDef (c :: cs)) k := by
      rw [List.cons_append, run_cons, e, run_append, run_entName cs h.2 [c], run_cons]
      rfl
    cases param <;> exact this

theorem run_decl_entityBody (f : Flags) (param : Bool) (n : Bytes) (d : EntDef)
    (hn : isName n = true) (hd : d.wf = true) :
    run (.decl f) ((if param then [37, 32] else []) ++ (n ++ 32 :: (d.render ++ [62]))) = .text f true := by
  have : run (.decl f) (n ++ 32 :: (d.render ++ [62])) = .text f true := by
    simp only [run_append, run_cons, run_nil, run_decl_name f n hn, step_decl_space,
      run_decl_entDef f d hd, step_decl_gt]
  cases param <;> exact this

theorem run_decl (f : Flags) (d : Decl) (h : d.wf = true) :
    run (.text f true) d.render =
      match d with
      | .entity _ name df => if f.keep then .done (entityVerdict name df) else .text f true
      | .peRef _ => .text { f with keep := f.keep && f.sa } true
      | _ => .text f true := by
  cases d with
  | entity param name df =>
    simp only [Decl.wf, Bool.and_eq_true] at h
    rw [Decl.render, run_kw_entity]
    cases f.keep with
    | false => exact run_decl_entityBody f param name df h.1 h.2
    | true => exact (run_entPre_name param name h.1 _).trans (run_entDef name df h.2 [])
  | notationDecl name id =>
    simp only [Decl.wf, Bool.and_eq_true] at h
    rw [Decl.render, run_kw_skip f kNOTATION (.inr (.inr rfl))]
    simp only [run_append, run_cons, run_nil, run_decl_name f name h.1, step_decl_space,
      run_decl_extId f id h.2, step_decl_gt]
  | element name spec =>
    simp only [Decl.wf, Bool.and_eq_true] at h
    rw [Decl.render, run_kw_skip f kELEMENT (.inl rfl)]
    simp only [run_append, run_cons, run_nil, run_decl_name f name h.1, step_decl_space,
      run_decl_raw f spec h.2, step_decl_gt]
  | attlist el atts =>
    simp only [Decl.wf, Bool.and_eq_true] at h
    rw [Decl.render, run_kw_skip f kATTLIST (.inr (.inl rfl))]
    simp only [run_append, run_cons, run_nil, run_decl_name f el h.1, run_decl_atts f atts h.2,
      step_decl_gt]
  | comment body => exact run_comment f true body h
  | pi target body =>
    simp only [Decl.wf, Bool.and_eq_true] at h
    exact run_pi f true target body h.1 h.2
  | peRef name =>
    have e : run (.peref f) name = .peref f :=
      run_stay (fun c hc => by simp [step, nameChar_ne hc (d := 59) rfl, hc]) (isName_all h)
    show run (.peref f) (name ++ [59]) = _
    rw [run_append, e]
    rfl
  | space ws => exact run_text_ws f true ws h

/-- whether declarations are still processed after a list of declarations -/
def keepAfter (sa : Bool) : Bool → List Decl → Bool
  | k, [] => k
  | k, .peRef _ :: ds => keepAfter sa (k && sa) ds
  | k, _ :: ds => keepAfter sa k ds

theorem run_decls (ds : List Decl) (h : ds.all Decl.wf = true) :
    ∀ f : Flags, run (.text f true) (renderDecls ds) =
      match firstLive f.sa f.keep ds with
      | some v => .done v
      | none => .text { f with keep := keepAfter f.sa f.keep ds } true := by
  induction ds with
  | nil => intro f; rfl
  | cons d ds ih =>
    intro f
    simp only [List.all_cons, Bool.and_eq_true] at h
    rw [renderDecls, run_append, run_decl f d h.1]
    cases d with
    | entity param name df =>
      cases hk : f.keep with
      | false =>
        have := ih h.2 f
        rw [hk] at this
        exact this
      | true => exact run_done _ _
    | peRef name => exact ih h.2 { f with keep := f.keep && f.sa }
    | _ => exact ih h.2 f

theorem run_misc (f : Flags) (m : Misc) (h : m.wf = true) :
    run (.text f false) m.render = .text f false := by
  cases m with
  | comment body => exact run_comment f false body h
  | pi t b =>
    simp only [Misc.wf, Bool.and_eq_true] at h
    exact run_pi f false t b h.1 h.2
  | space ws => exact run_text_ws f false ws h

theorem run_miscs (f : Flags) (ms : List Misc) (h : ms.all Misc.wf = true) :
    run (.text f false) (renderMiscs ms) = .text f false := by
  induction ms with
  | nil => rfl
  | cons m ms ih =>
    simp only [List.all_cons, Bool.and_eq_true] at h
    rw [renderMiscs, run_append, run_misc f m h.1, ih h.2]

theorem run_saBytes (f : Flags) (hf : f.sa = false) (sa : Option Bool) :
    run (.xName f []) (saBytes sa ++ [63, 62]) = .text { f with sa := sa == some true } false := by
  obtain ⟨_, fe, fk⟩ := f
  cases hf
  rcases sa with _ | _ | _ <;> rfl

theorem run_xVal (f : Flags) (n : Bytes) (q : Nat) (body : Bytes) (h : body.all (· != q) = true)
    (acc : Bytes) : run (.xVal f n q acc) body = .xVal f n q (acc ++ body) :=
  run_collect (g := .xVal f n q) (fun _ _ hc => if_neg (bne_iff_ne.mp hc)) h acc

theorem run_encBytes (f : Flags) (enc : Option Bytes)
    (h : (match enc with | some e => e.all isNameChar | none => true) = true) :
    run (.xName f []) (encBytes enc) = .xName f [] := by
  cases enc with
  | none => rfl
  | some e =>
    have hq : e.all (· != 34) = true :=
      List.all_eq_true.mpr fun c hc => bne_iff_ne.mpr (nameChar_ne (List.all_eq_true.mp h c hc) rfl)
    show run (.xVal f [101, 110, 99, 111, 100, 105, 110, 103] 34 []) (e ++ [34]) = _
    rw [run_append, run_xVal f _ 34 e hq]
    rfl

theorem run_xmlDecl (x : XmlDecl) (h : x.wf = true) :
    run st0 x.render = .text { flags0 with sa := x.standalone == some true } false := by
  show run (.xName flags0 []) (encBytes x.encoding ++ (saBytes x.standalone ++ [63, 62])) = _
  rw [run_append, run_encBytes flags0 x.encoding h, run_saBytes flags0 rfl]

theorem run_head_name (f : Flags) (n : Bytes) (h : n.all isNameChar = true) :
    run (.head f) n = .head f := by
  refine run_stay (fun c hc => ?_) h
  simp [step, nameChar_not_quote hc, nameChar_ne hc (d := 62) rfl, nameChar_ne hc (d := 91) rfl]

theorem run_head_lit (f : Flags) (l : Lit) (h : l.wf = true) :
    run (.head f) l.render = .head { f with ext := true } :=
  run_lit (a := .head f) (lit := .headLit { f with ext := true }) (fun _ hq => if_pos hq)
    (fun _ _ hc => if_neg (bne_iff_ne.mp hc)) (fun _ => if_pos rfl) l h

theorem run_head_extId (f : Flags) (id : ExtId) (h : id.wf = true) :
    run (.head f) (32 :: id.render) = .head { f with ext := true } :=
  run_extId (a := .head f) (b := .head f) (c := .head { f with ext := true }) (fun _ => rfl)
    (fun _ => rfl) (run_head_lit f) (run_head_lit { f with ext := true }) rfl id h

theorem run_extBytes (f : Flags) (hf : f.ext = false) (ext : Option ExtId)
    (h : (match ext with | some id => id.wf | none => true) = true) :
    run (.head f) (extBytes ext) = .head { f with ext := ext.isSome } := by
  cases ext with
  | none => simp [extBytes, ← hf]
  | some id => exact run_head_extId f id h

theorem run_subsetBytes (f : Flags) (subset : Option (List Decl))
    (h : (match subset with | some ds => ds.all Decl.wf | none => true) = true) :
    run (.head f) (subsetBytes subset ++ [62]) =
      match firstLive f.sa f.keep (subset.getD []) with
      | some v => .done v
      | none => finish f := by
  cases subset with
  | none => rfl
  | some ds =>
    show run (.text f true) ((renderDecls ds ++ [93]) ++ [62]) = _
    rw [run_append, run_append, run_decls ds h f]
    show _ = match firstLive f.sa f.keep ds with | some v => St.done v | none => finish f
    cases firstLive f.sa f.keep ds <;> rfl

theorem run_kw_doctype (f : Flags) (k : Bytes) :
    run (.text f false) ([60, 33] ++ (kDOCTYPE ++ 32 :: k)) = run (.head f) k := rfl

theorem run_doctype (f : Flags) (d : Doctype) (h : d.wf = true) (hf : f.ext = false) :
    run (.text f false) d.render =
      match firstLive f.sa f.keep (d.subset.getD []) with
      | some v => .done v
      | none => .done (if d.ext.isSome && !f.sa then .external else .clean) := by
  simp only [Doctype.wf, Bool.and_eq_true] at h
  obtain ⟨⟨hn, hext⟩, hsub⟩ := h
  rw [Doctype.render, run_kw_doctype, run_append, run_head_name f d.name (isName_all hn), run_append,
    run_extBytes f hf d.ext hext, run_subsetBytes { f with ext := d.ext.isSome } d.subset hsub]
  rfl

theorem run_startsTag (f : Flags) (root : Bytes) (hr : startsTag root = true) :
    run (.text f false) root = .done .clean := by
  unfold startsTag at hr
  split at hr
  · next c rest =>
    have hc := nameStart_nameChar hr
    have e : step (.lt f false) c = .done .clean := by
      simp [step, nameChar_ne hc (d := 63) rfl, nameChar_ne hc (d := 33) rfl, hr]
    show run (step (.lt f false) c) rest = _
    rw [e, run_done]
  · cases hr

theorem entityVerdict_ne_clean (n : Bytes) (d : EntDef) :
    entityVerdict n d ≠ .clean ∧ entityVerdict n d ≠ .malformed := by
  cases d <;> simp [entityVerdict]

theorem firstLive_some (sa : Bool) (ds : List Decl) :
    ∀ keep v, firstLive sa keep ds = some v → v ≠ .clean ∧ v ≠ .malformed ∧ ds.any Decl.isEntity = true := by
  induction ds with
  | nil => intro keep v h; cases h
  | cons d ds ih =>
    intro keep v h
    cases d with
    | entity param name df =>
      cases keep with
      | true =>
        cases h
        exact ⟨(entityVerdict_ne_clean name df).1, (entityVerdict_ne_clean name df).2, rfl⟩
      | false => exact ⟨(ih false v h).1, (ih false v h).2.1, rfl⟩
    | peRef name => exact ih (keep && sa) v h
    | _ => exact ih keep v h

theorem firstLive_none_noEntity (sa : Bool) (ds : List Decl) (h : ds.any Decl.isPeRef = false)
    (hfl : firstLive sa true ds = none) : ds.any Decl.isEntity = false := by
  induction ds with
  | nil => rfl
  | cons d ds ih =>
    cases d with
    | entity param name df => cases hfl
    | peRef name => cases h
    | _ => exact ih h hfl

theorem firstLive_eq_head (sa : Bool) (ds : List Decl) :
    ∀ keep, firstLive sa keep ds =
      ((liveEnts sa keep ds).head?).map (fun e => entityVerdict e.2.1 e.2.2) := by
  induction ds with
  | nil => intro keep; rfl
  | cons d ds ih =>
    intro keep
    cases d with
    | entity param name df =>
      cases keep with
      | true => rfl
      | false => exact ih false
    | peRef name => exact ih (keep && sa)
    | _ => exact ih keep

theorem firstLive_none_iff_live (sa : Bool) (keep : Bool) (ds : List Decl) :
    firstLive sa keep ds = none ↔ liveEnts sa keep ds = [] := by
  rw [firstLive_eq_head]
  cases liveEnts sa keep ds <;> simp

theorem lookupGeneral_nil (name : Bytes) : lookupGeneral name [] = none := rfl

end XsVerif.Prolog
