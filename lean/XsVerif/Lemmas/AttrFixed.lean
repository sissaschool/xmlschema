/-
  The variant chain of Model/AttrFixed.lean.  With no type marked and `o.legacy = false` it is the chain of
  Model/Attributes.lean (`errorsX_eq_errors`).
-/
import XsVerif.Model.AttrFixed
import XsVerif.Lemmas.Attributes

namespace XsVerif.Attributes
open XsVerif.Wildcard

theorem declErrsX_eq (s : Sem) (inj : Bool) (d : Decl) (n : QN) (v : String) :
    declErrsX s (fun _ => false) inj d n v = declErrs s d n v := by
  unfold declErrsX declErrs
  cases d.fixed <;> simp

theorem anyErrsX_eq (s : Sem) (env : Env) (a : AnyAttr) (n : QN) (v : String) :
    anyErrsX s (fun _ => false) env a n v = anyErrs s env a n v := by
  simp only [anyErrsX, anyErrs, declErrsX_eq]
  rfl

theorem declaredErrsX_eq (s : Sem) (env : Env) (o : Opts) (ho : o.legacy = false) (inj : Bool) (G : Group)
    (d : Decl) (n : QN) (v : String) :
    declaredErrsX s (fun _ => false) env inj G d n v = declaredErrs s env o G d n v := by
  simp only [declaredErrsX, declaredErrs, declErrsX_eq, anyErrsX_eq, ho, Bool.false_and, Bool.false_eq_true,
    if_false]
  rfl

theorem stepErrsX_eq (s : Sem) (env : Env) (o : Opts) (ho : o.legacy = false) (inj : Bool) (G : Group)
    (a : Attr) : stepErrsX s (fun _ => false) env inj G a = stepErrs s env o G a := by
  simp only [stepErrsX, stepErrs, declErrsX_eq, anyErrsX_eq, declaredErrsX_eq s env o ho]
  rfl

theorem errorsX_eq_errors (s : Sem) (env : Env) (o : Opts) (ho : o.legacy = false) (G : Group)
    (A : List Attr) : errorsX s (fun _ => false) env o G A = errors s env o G A := by
  unfold errorsX errors augmented
  rw [List.flatMap_append, List.append_assoc, funext (stepErrsX_eq s env o ho false G),
    funext (stepErrsX_eq s env o ho true G)]

/-- The test must be reflexive only for the types that keep the text short-cut. -/
theorem declErrsX_nil_iff (s : Sem) (q : Nat → Bool) (hrefl : ∀ t x, q t = false → s.valueEq t x x = true)
    (d : Decl) (n : QN) (v : String) :
    declErrsX s q false d n v = [] ↔
      (s.validT d.ty v = true ∧ ∀ f, d.fixed = some f → s.valueEq d.ty v f = true) := by
  -- where the test is reflexive the text short-cut `v != f` changes nothing
  have hfix : ∀ f, ((q d.ty || v != f) && !s.valueEq d.ty v f) = !s.valueEq d.ty v f := by
    intro f
    cases he : s.valueEq d.ty v f
    · cases hq : q d.ty
      · have : v ≠ f := fun e => by rw [e, hrefl _ _ hq] at he; cases he
        simpa using this
      · rfl
    · exact Bool.and_false _
  unfold declErrsX
  rw [Bool.false_and, if_neg Bool.false_ne_true, List.append_eq_nil_iff, and_comm]
  refine and_congr ?_ ?_
  · cases s.validT d.ty v <;> simp
  · cases d.fixed <;> simp [hfix]

theorem declErrs_nil_iff (s : Sem) (hrefl : ∀ t x, s.valueEq t x x = true) (d : Decl) (n : QN)
    (v : String) :
    declErrs s d n v = [] ↔
      (s.validT d.ty v = true ∧ ∀ f, d.fixed = some f → s.valueEq d.ty v f = true) := by
  rw [← declErrsX_eq s false]
  exact declErrsX_nil_iff s _ (fun t x _ => hrefl t x) d n v

theorem stepErrsX_additional (s : Sem) (q : Nat → Bool) (env : Env) (o : Opts) (G : Group)
    (A : List Attr) (hleg : o.legacy = false)
    (hwf : ∀ d ∈ G.decls, q d.ty = false → ∀ f, constraintOf o d = some f → s.validT d.ty f = true)
    (hnd : (G.decls.map (·.name)).Nodup)
    (a : Attr) (ha : a ∈ additional o G A) : stepErrsX s q env true G a = [] := by
  obtain ⟨n, v⟩ := a
  obtain ⟨d, hd, -, hc, rfl⟩ := mem_additional.mp ha
  obtain ⟨hu, hv⟩ := (constraintOf_some_iff o hleg d v).mp hc
  have hf : ∀ f, d.fixed = some f → v = f := fun f h => by
    rcases hv with hv | ⟨hv, -, -⟩ <;> rw [h] at hv <;> cases hv
    rfl
  unfold stepErrsX
  simp only [lookup_of_nodup hnd hd, declaredErrsX, beq_eq_false_iff_ne.mpr hu, Bool.false_eq_true, if_false]
  unfold declErrsX
  cases hq : q d.ty
  · have hval := hwf d hd hq v hc
    cases h : d.fixed with
    | none => simp [hval]
    | some f => cases hf f h; simp [hval]
  · rfl

end XsVerif.Attributes
