/-
  C17 — specification side (S): how a reader of decoded data resolves names by the XML Namespaces rules, the
  mapper invariant, and the reader of whole data trees.  Definitions only; the theorems are in Props/C17.lean,
  their helper lemmas in Lemmas/Ns*.lean.
-/
import XsVerif.Model.NsMapper
import XsVerif.Lemmas.NsMapper
import XsVerif.Lemmas.NsStack

namespace XsVerif.Props.C17
open XsVerif.NsMapper XsVerif.NsMapper.Map XsVerif.NsMapper.Stack

/-! ### S: resolution of a key by the XML Namespaces rules -/

/-- element names: an unprefixed name takes the default namespace when one is set -/
def resolveElem (ns : Map) : PName → Option QN
  | .braced u l => some ⟨u, l⟩
  | .pre p l => match ns.get p with
    | some u => if u = "" then none else some ⟨u, l⟩
    | none => none
  | .loc l => match ns.get "" with
    | some d => some ⟨d, l⟩
    | none => some ⟨"", l⟩

/-- attribute names: an unprefixed name is in no namespace (the default namespace never applies) -/
def resolveAttr (ns : Map) : PName → Option QN
  | .loc l => some ⟨"", l⟩
  | n => resolveElem ns n

/-- `xmlns=""` / no default declaration -/
def DefaultUnset (ns : Map) : Prop := ns.get "" = none ∨ ns.get "" = some ""

/-- mapper invariant: current and saved maps are consistent dicts -/
def Good (ns rev : Map) : Prop := ReverseOk ns rev ∧ Map.Nodup ns

def Inv (m : Mapper) : Prop := Good m.ns m.rev ∧ ∀ c ∈ m.stack, Good c.ns c.rev

/-- every binding of `a` is a binding of `b` (maps that only grow: collapsed / root-only processing) -/
def Grows (a b : Map) : Prop := ∀ k v, a.get k = some v → b.get k = some v

mutual
/-- prefixes declared on one element are distinct, everywhere in the document -/
def DeclsNodup : Tree → Prop
  | .node _ _ _ decl ch => NodupKeys decl ∧ DeclsNodupList ch
def DeclsNodupList : List Tree → Prop
  | [] => True
  | t :: ts => DeclsNodup t ∧ DeclsNodupList ts
end

/-! ### S: a reader of a whole data tree -/

/-- in-scope declarations as a reader accumulates them: a function, so that two maps that bind the same
    prefixes to the same URIs are the same scope -/
abbrev Scope := String → Option String

def Scope.empty : Scope := fun _ => none

/-- the declarations of one element come into scope (later entries win, as in `dict.update`) -/
def Scope.bind (s : Scope) (l : Xmlns) : Scope :=
  l.foldl (fun s d k => if d.1 = k then some d.2 else s k) s

def readElem (s : Scope) : PName → Option QN
  | .braced u l => some ⟨u, l⟩
  | .pre p l => match s p with
    | some u => if u = "" then none else some ⟨u, l⟩
    | none => none
  | .loc l => match s "" with
    | some d => some ⟨d, l⟩
    | none => some ⟨"", l⟩

def readAttr (s : Scope) : PName → Option QN
  | .loc l => some ⟨"", l⟩
  | n => readElem s n

/-- per element, in document order: identifier, expanded name, expanded attribute names -/
abbrev Names := List (Nat × Option QN × List (Option QN))

mutual
/-- what the data denotes: every key resolved with the declarations the data reports for the item and its
    ancestors -/
def readItem (s : Scope) : Item → Names
  | .node id key _ xmlns attrs ch =>
    (id, readElem (s.bind xmlns) key, attrs.map (readAttr (s.bind xmlns))) :: readItems (s.bind xmlns) ch
def readItems (s : Scope) : List Item → Names
  | [] => []
  | i :: is => readItem s i ++ readItems s is
end

mutual
/-- the expanded names of the document itself -/
def docNames : Tree → Names
  | .node id tag attrs _ ch => (id, some tag, attrs.map some) :: docNamesList ch
def docNamesList : List Tree → Names
  | [] => []
  | t :: ts => docNames t ++ docNamesList ts
end

mutual
/-- Side conditions on a document for the attribute rule `a`, `s` = declarations in scope of the parent:
    a name in no namespace occurs only where the default namespace is unset (namespace well-formedness); and,
    for the attribute rule of the tree under check only, no attribute lives in the namespace that is the
    default namespace of its scope (finding C17-F7). -/
def WellScoped (a : AttrRule) (s : Map) : Tree → Prop
  | .node _ tag attrs decl ch =>
    (tag.ns = "" → DefaultUnset (Map.update s decl)) ∧
    (a = .current → ∀ x ∈ attrs, x.ns ≠ "" → (Map.update s decl).get "" ≠ some x.ns) ∧
    WellScopedList a (Map.update s decl) ch
def WellScopedList (a : AttrRule) (s : Map) : List Tree → Prop
  | [] => True
  | t :: ts => WellScoped a s t ∧ WellScopedList a s ts
end

/-! ### the encoder's view -/

def Unmapped.toOpt : Unmapped → Option QN
  | .name q => some q
  | .unknownPrefix _ _ => none

def encProj (e : EncObs) : Nat × Option QN × List (Option QN) :=
  (e.id, Unmapped.toOpt e.tag, e.attrs.map Unmapped.toOpt)

mutual
/-- sibling items are distinct objects -/
def ItemDistinct : Item → Prop
  | .node _ _ _ _ _ ch => (ch.map Item.id).Nodup ∧ ItemDistinctList ch
def ItemDistinctList : List Item → Prop
  | [] => True
  | i :: is => ItemDistinct i ∧ ItemDistinctList is
end

mutual
/-- The data is readable for the encoder with attribute tables `tab`, read from scope `s`: every key denotes a
    name, an item that is not a mapping carries nothing, and an unprefixed attribute key that the element type
    does not declare occurs only where the default namespace is unset (`unmap_qname(name, xsd_element.attributes)`
    puts it into the default namespace otherwise: finding C17-F9). -/
def Readable (tab : Nat → String → Bool) (s : Scope) : Item → Prop
  | .node id key isMap xmlns attrs ch =>
    (isMap = false → xmlns = [] ∧ attrs = [] ∧ ch = []) ∧
    readElem (s.bind xmlns) key ≠ none ∧
    (∀ k ∈ attrs, readAttr (s.bind xmlns) k ≠ none ∧
      ∀ l, k = .loc l → tab id l = true ∨ (s.bind xmlns) "" = none ∨ (s.bind xmlns) "" = some "") ∧
    ReadableList tab (s.bind xmlns) ch
def ReadableList (tab : Nat → String → Bool) (s : Scope) : List Item → Prop
  | [] => True
  | i :: is => Readable tab s i ∧ ReadableList tab s is
end

mutual
/-- every attribute in no namespace is declared (unqualified) by the type of its element, or occurs where the
    default namespace is unset -/
def UnqualDeclared (tab : Nat → String → Bool) (s : Map) : Tree → Prop
  | .node id _ attrs decl ch =>
    (∀ x ∈ attrs, x.ns = "" → tab id x.loc = true ∨ DefaultUnset (Map.update s decl)) ∧
    UnqualDeclaredList tab (Map.update s decl) ch
def UnqualDeclaredList (tab : Nat → String → Bool) (s : Map) : List Tree → Prop
  | [] => True
  | t :: ts => UnqualDeclared tab s t ∧ UnqualDeclaredList tab s ts
end

end XsVerif.Props.C17
