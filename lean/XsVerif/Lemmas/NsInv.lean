/-
  C17 — the mapper invariant under the stacked branch of `set_xmlns_context` (property theorems: Props/C17.lean).
-/
import XsVerif.Model.NsMapper
import XsVerif.Lemmas.NsMapper
import XsVerif.Lemmas.NsStack
import XsVerif.Lemmas.NsSpec
namespace XsVerif.Props.C17
open XsVerif.NsMapper XsVerif.NsMapper.Map XsVerif.NsMapper.Stack

theorem popLoop_good {obj level : Nat} {st stack : List Ctx} {r r' : Option (Map × Map)} {found : Option Xmlns}
    (h : popLoop obj level st r = (stack, r', found)) (hs : ∀ c ∈ st, Good c.ns c.rev)
    (hr : ∀ x, r = some x → Good x.1 x.2) :
    (∀ c ∈ stack, Good c.ns c.rev) ∧ (∀ x, r' = some x → Good x.1 x.2) := by
  induction st generalizing r with
  | nil => cases h; exact ⟨hs, hr⟩
  | cons c rest ih =>
    rw [popLoop] at h
    by_cases h1 : level > c.level
    · rw [if_pos h1] at h; cases h; exact ⟨hs, hr⟩
    · rw [if_neg h1] at h
      by_cases h2 : level = c.level ∧ c.obj = obj
      · rw [if_pos h2] at h; cases h; exact ⟨hs, hr⟩
      · rw [if_neg h2] at h
        exact ih h (fun c' hc' => hs c' (List.mem_cons_of_mem _ hc'))
          (fun x hx => Option.some.inj hx ▸ hs c List.mem_cons_self)

/-- namespaces in force after the pop phase of `set_xmlns_context` -/
def nsAfterPop (m : Mapper) (obj level : Nat) : Map :=
  match (popLoop obj level m.stack none).2.1 with
  | some x => x.1
  | none => m.ns

theorem entered_inv {v : Variant} {ns0 rev0 : Map} {base : List Ctx} {decl : Xmlns} (id L : Nat)
    (hg : Good ns0 rev0) (hs : ∀ c ∈ base, Good c.ns c.rev) (hd : NodupKeys decl)
    (hv : v = .repaired ∨ SingleRebind ns0 decl) : Inv (entered v ns0 rev0 base id L decl) := by
  unfold entered
  split
  · exact ⟨hg, hs⟩
  · refine ⟨⟨stacked_step_reverseOk L hg.2 hd hv hg.1, nodup_update hg.2 _⟩, fun c hc => ?_⟩
    rcases List.mem_cons.mp hc with e | e
    · exact e ▸ hg
    · exact hs c e

end XsVerif.Props.C17
