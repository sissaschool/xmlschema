/-
  C01: basic facts used by the exactness proofs of the ModelVisitor port on flat
  content models — counters (`Cnt`), arena look-ups (`mkArena`), the flat fragment of `Particle`.
-/
import XsVerif.Model.Visitor

namespace XsVerif.CM
open XsVerif.Wildcard

theorem getD_setIfInBounds {α : Type} (a : Array α) (i j : Nat) (v d : α) :
    (a.setIfInBounds i v).getD j d = if i = j ∧ i < a.size then v else a.getD j d := by
  simp only [Array.getD_eq_getD_getElem?, Array.getElem?_setIfInBounds]
  by_cases h : i = j
  · subst h
    by_cases h2 : i < a.size <;> simp [h2]
  · simp [h]


def Cnt.Sized (c : Cnt) (n : Nat) : Prop := c.occ.size = n ∧ c.oid.size = n

namespace Cnt

theorem sized_zero (n : Nat) : (Cnt.zero n).Sized n := by simp [Cnt.zero, Cnt.Sized]
theorem sized_set {c : Cnt} {n : Nat} (h : c.Sized n) (i v : Nat) : (c.set i v).Sized n := by
  simpa [Cnt.set, Cnt.Sized] using h

theorem get_zero (n i : Nat) : (Cnt.zero n).get i = 0 := by
  simp only [Cnt.zero, Cnt.get, Array.getD_eq_getD_getElem?, Array.getElem?_replicate]
  split <;> rfl
theorem getOid_zero (n i : Nat) : (Cnt.zero n).getOid i = 0 := by
  simp only [Cnt.zero, Cnt.getOid, Array.getD_eq_getD_getElem?, Array.getElem?_replicate]
  split <;> rfl

theorem get_set {c : Cnt} {n : Nat} (h : c.Sized n) (i v j : Nat) (hi : i < n) :
    (c.set i v).get j = if i = j then v else c.get j := by
  simp only [Cnt.set, Cnt.get, getD_setIfInBounds, h.1, hi, and_true]
theorem get_set_self {c : Cnt} {n : Nat} (h : c.Sized n) (i v : Nat) (hi : i < n) :
    (c.set i v).get i = v := by rw [Cnt.get_set h i v i hi]; simp
theorem get_set_ne {c : Cnt} {n : Nat} (h : c.Sized n) (i v j : Nat) (hi : i < n) (hne : i ≠ j) :
    (c.set i v).get j = c.get j := by rw [Cnt.get_set h i v j hi]; simp [hne]
theorem get_setOid (c : Cnt) (i v j : Nat) : (c.setOid i v).get j = c.get j := rfl
theorem getOid_setOid {c : Cnt} {n : Nat} (h : c.Sized n) (i v j : Nat) (hi : i < n) :
    (c.setOid i v).getOid j = if i = j then v else c.getOid j := by
  simp only [Cnt.setOid, Cnt.getOid, getD_setIfInBounds, h.2, hi, and_true]

end Cnt

theorem Cnt.sized_setOid {c : Cnt} {n : Nat} (h : c.Sized n) (i v : Nat) : (c.setOid i v).Sized n := by
  simpa [Cnt.setOid, Cnt.Sized] using h
theorem Cnt.getOid_set (c : Cnt) (i v j : Nat) : (c.set i v).getOid j = c.getOid j := rfl


theorem size_foldl_set (l : List (Nat × Node)) : ∀ (a : Array Node),
    (l.foldl (fun a (x : Nat × Node) => a.setIfInBounds x.1 x.2) a).size = a.size := by
  induction l with
  | nil => intro a; rfl
  | cons x t ih => intro a; simp only [List.foldl_cons]; rw [ih]; simp

theorem mkArena_size (n : Nat) (l : List (Nat × Node)) : (mkArena n l).size = n := by
  unfold mkArena
  have := size_foldl_set l (Array.replicate n default)
  simpa using this

theorem getD_foldl_set_notin (l : List (Nat × Node)) (i : Nat) (hi : i ∉ l.map (·.1)) :
    ∀ (a : Array Node),
      (l.foldl (fun a (x : Nat × Node) => a.setIfInBounds x.1 x.2) a).getD i default = a.getD i default := by
  induction l with
  | nil => intro a; rfl
  | cons x t ih =>
    intro a
    simp only [List.map_cons, List.mem_cons, not_or] at hi
    simp only [List.foldl_cons]
    rw [ih hi.2, getD_setIfInBounds, if_neg fun h => hi.1 h.1.symm]

theorem getD_foldl_set_mem (l : List (Nat × Node)) (hnd : (l.map (·.1)).Nodup) (i : Nat) (nd : Node)
    (hmem : (i, nd) ∈ l) : ∀ (a : Array Node), i < a.size →
      (l.foldl (fun a (x : Nat × Node) => a.setIfInBounds x.1 x.2) a).getD i default = nd := by
  induction l with
  | nil => simp at hmem
  | cons x t ih =>
    intro a hsz
    simp only [List.map_cons, List.nodup_cons] at hnd
    simp only [List.foldl_cons]
    rcases List.mem_cons.mp hmem with h | h
    · subst h
      rw [getD_foldl_set_notin t _ hnd.1, getD_setIfInBounds, if_pos ⟨rfl, hsz⟩]
    · exact ih hnd.2 h _ (by simpa using hsz)

theorem mkArena_node (n : Nat) (l : List (Nat × Node)) (hnd : (l.map (·.1)).Nodup) (i : Nat) (nd : Node)
    (hmem : (i, nd) ∈ l) (hi : i < n) : (mkArena n l).node i = nd := by
  unfold mkArena Arena.node
  exact getD_foldl_set_mem l hnd i nd hmem _ (by simpa using hi)


/-- a leaf of a flat model: arena id, names (declared name + substitutes), occurrence range -/
structure LeafSpec where
  id : Nat
  names : List QN
  lo : Nat
  hi : Option Nat
  deriving Repr, DecidableEq, Inhabited

def LeafSpec.node (l : LeafSpec) : Node := { kind := .elem, lo := l.lo, hi := l.hi, names := l.names }
def LeafSpec.leaf (l : LeafSpec) : Leaf := .elem l.id l.names
def LeafSpec.particle (l : LeafSpec) : Particle := .leaf l.leaf l.lo l.hi

/-- the element leaves of a list of particles, `none` when some item is a group or a wildcard -/
def leafSpecs : Particles → Option (List LeafSpec)
  | .nil => some []
  | .cons (.leaf (.elem i names) lo hi) ps => (leafSpecs ps).map (⟨i, names, lo, hi⟩ :: ·)
  | .cons _ _ => none

def ofSpecs : List LeafSpec → Particles
  | [] => .nil
  | l :: t => .cons l.particle (ofSpecs t)

theorem leafSpecs_eq : ∀ (ps : Particles) (ls : List LeafSpec), leafSpecs ps = some ls → ps = ofSpecs ls := by
  intro ps
  induction ps using Particles.rec (motive_1 := fun _ => True) with
  | nil => intro ls h; simp only [leafSpecs, Option.some.injEq] at h; subst h; rfl
  | cons p ps _ ih =>
    intro ls h
    cases p with
    | group => simp [leafSpecs] at h
    | leaf l lo hi =>
      cases l with
      | any => simp [leafSpecs] at h
      | elem i names =>
        simp only [leafSpecs, Option.map_eq_some_iff] at h
        obtain ⟨t, ht, rfl⟩ := h
        rw [ih t ht]; rfl
  | leaf => trivial
  | group => trivial

def LeafSpec.okRange (l : LeafSpec) : Bool := Rx.loLeHi l.lo l.hi

def disjointNames : List LeafSpec → Bool
  | [] => true
  | l :: t => t.all (fun l' => l.names.all fun q => !l'.names.contains q) && disjointNames t

/-- side conditions of a flat model with `n` arena slots -/
def wfFlat (n root : Nat) (ls : List LeafSpec) : Bool :=
  decide (root < n) && ls.all (fun l => decide (l.id < n)) && decide ((root :: ls.map (·.id)).Nodup) &&
    disjointNames ls && ls.all (·.okRange) && decide (ls.length + 1 ≤ n)

theorem ids_ofSpecs (ls : List LeafSpec) : (ofSpecs ls).ids = ls.map (·.id) := by
  induction ls with
  | nil => rfl
  | cons l t ih => simp [ofSpecs, Particles.ids, Particle.pid, LeafSpec.particle, LeafSpec.leaf, Leaf.id, ih]

theorem flatten_ofSpecs (ls : List LeafSpec) : (ofSpecs ls).flatten = ls.map fun l => (l.id, l.node) := by
  induction ls with
  | nil => rfl
  | cons l t ih =>
    simp [ofSpecs, Particles.flatten, LeafSpec.particle, LeafSpec.leaf, Particle.flatten, LeafSpec.node, ih]

def gkindNode : GKind → NKind | .seq => .seq | .choice => .choice | .all => .all

/-- what the visitor port needs to know about the arena of a flat model -/
structure FlatA (A : Arena) (n root : Nat) (k : NKind) (glo : Nat) (ghi : Option Nat) (ls : List LeafSpec) : Prop where
  size : A.size = n
  root_lt : root < n
  ids_lt : ∀ l ∈ ls, l.id < n
  nodup : (root :: ls.map (·.id)).Nodup
  root_node : A.node root = { kind := k, lo := glo, hi := ghi, content := ls.map (·.id) }
  leaf_node : ∀ l ∈ ls, A.node l.id = l.node

theorem flatA_of_wf (n root : Nat) (k : GKind) (glo : Nat) (ghi : Option Nat) (ls : List LeafSpec)
    (h : wfFlat n root ls = true) :
    FlatA (mkArena n (Particle.group root k glo ghi (ofSpecs ls)).flatten) n root (gkindNode k) glo ghi ls := by
  simp only [wfFlat, Bool.and_eq_true, decide_eq_true_eq, List.all_eq_true] at h
  obtain ⟨⟨⟨⟨⟨h1, h2⟩, h3⟩, _⟩, _⟩, _⟩ := h
  have hfl : (Particle.group root k glo ghi (ofSpecs ls)).flatten =
      (root, { kind := gkindNode k, lo := glo, hi := ghi, content := ls.map (·.id) }) ::
        ls.map fun l => (l.id, l.node) := by
    simp only [Particle.flatten, ids_ofSpecs, flatten_ofSpecs]
    cases k <;> rfl
  rw [hfl]
  have hnd : (((root, { kind := gkindNode k, lo := glo, hi := ghi, content := ls.map (·.id) }) ::
      ls.map fun l => (l.id, l.node)).map (·.1)).Nodup := by
    rw [List.map_cons, List.map_map]; exact h3
  exact ⟨mkArena_size _ _, h1, h2, h3, mkArena_node n _ hnd root _ List.mem_cons_self h1, fun l hl =>
    mkArena_node n _ hnd l.id _ (List.mem_cons_of_mem _ (List.mem_map.mpr ⟨l, hl, rfl⟩)) (h2 l hl)⟩

end XsVerif.CM
