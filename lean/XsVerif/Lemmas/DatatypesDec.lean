/-
  Helper lemmas for C02, xs:decimal: the digit counts `IntDigits`/`FracDigits` of a value, `count_digits` (as of
  de12daf) against them, and `parseDec` against the lexical space.
-/
import XsVerif.Model.Datatypes
import XsVerif.Lemmas.Datatypes
namespace XsVerif.Datatypes

theorem char_eq_zero_iff (c : Char) : (c == '0') = true ↔ c.toNat = 48 := by
  rw [beq_iff_eq, ← Char.toNat_inj]; rfl

theorem digVal_zero (c : Char) (h : (c == '0') = true) : digVal c = 0 := by
  have := (char_eq_zero_iff c).mp h
  unfold digVal; omega

theorem digVal_pos (c : Char) (hd : isDig c = true) (h : (c == '0') = false) : 1 ≤ digVal c := by
  have h1 := (isDig_iff c).mp hd
  have h2 : ¬ c.toNat = 48 := fun e => by
    have := (char_eq_zero_iff c).mpr e; simp [this] at h
  unfold digVal; omega

theorem zeroPad_spec (k : Nat) (c : Str) (hd : ∀ x ∈ c, isDig x = true) :
    (∀ x ∈ List.replicate k '0' ++ c, isDig x = true) ∧ posVal (List.replicate k '0' ++ c) = posVal c := by
  induction k with
  | zero => exact ⟨hd, rfl⟩
  | succ k ih =>
    refine ⟨fun x hx => ?_, by rw [List.replicate_succ, List.cons_append, posVal, ih.2]; simp [digVal]⟩
    rcases List.mem_cons.mp hx with rfl | hx
    · decide
    · exact ih.1 x hx

/-- number of integer digits: `I` is the length of the decimal numeral of `q` (0 for 0) -/
def IntDigits (q I : Nat) : Prop := (q = 0 ∧ I = 0) ∨ (0 < I ∧ 10 ^ (I - 1) ≤ q ∧ q < 10 ^ I)

theorem intDigits_of_head (ds : Str) (hd : ∀ x ∈ ds, isDig x = true) (hne : ds ≠ []) (h0 : ds.head? ≠ some '0') :
    IntDigits (posVal ds) ds.length := by
  cases ds with
  | nil => exact absurd rfl hne
  | cons c cs =>
    have h1 := digVal_pos c (hd c (by simp)) (by simpa using h0)
    refine .inr ⟨by simp, ?_, posVal_lt (c :: cs) hd⟩
    simp only [posVal, List.length_cons, Nat.add_sub_cancel]
    have : 1 * 10 ^ cs.length ≤ digVal c * 10 ^ cs.length := Nat.mul_le_mul_right _ h1
    omega

/-- `lstrip('0')` of a digit string leaves the numeral of its value -/
theorem dropZeros_spec (ds : Str) (h : ∀ c ∈ ds, isDig c = true) :
    IntDigits (posVal ds) (ds.dropWhile (· == '0')).length := by
  induction ds with
  | nil => left; simp [posVal]
  | cons c cs ih =>
    by_cases hc : (c == '0') = true
    · simp only [List.dropWhile_cons, hc, if_true, posVal, digVal_zero c hc, Nat.zero_mul, Nat.zero_add]
      exact ih fun x hx => h x (by simp [hx])
    · rw [List.dropWhile_cons_of_neg (p := (· == '0')) hc]
      exact intDigits_of_head (c :: cs) h (by simp) (by simpa using hc)

theorem IntDigits_lt_pow {q I : Nat} (h : IntDigits q I) : q < 10 ^ I := by
  rcases h with ⟨rfl, rfl⟩ | ⟨-, -, c⟩
  · exact Nat.one_pos
  · exact c

theorem IntDigits_le_iff {q I : Nat} (h : IntDigits q I) (n : Nat) : I ≤ n ↔ q < 10 ^ n := by
  refine ⟨fun hn => Nat.lt_of_lt_of_le (IntDigits_lt_pow h) (Nat.pow_le_pow_right (by decide) hn), fun hn => ?_⟩
  rcases h with ⟨-, rfl⟩ | ⟨-, b, -⟩
  · exact Nat.zero_le _
  · have := (Nat.pow_lt_pow_iff_right (by decide : 1 < 10)).mp (Nat.lt_of_le_of_lt b hn)
    omega

theorem natDigits_intDigits (n : Nat) (hn : 0 < n) : IntDigits n (natDigits n).length := by
  obtain ⟨hv, hne, hd⟩ := natDigits_spec n
  have := intDigits_of_head _ hd hne (natDigits_head n hn)
  rwa [hv] at this

theorem IntDigits_unique {q I J : Nat} (h1 : IntDigits q I) (h2 : IntDigits q J) : I = J :=
  Nat.le_antisymm ((IntDigits_le_iff h1 J).mpr (IntDigits_lt_pow h2)) ((IntDigits_le_iff h2 I).mpr (IntDigits_lt_pow h1))

/-- number of fraction digits: `F` is the least number of decimal places that writes
    `coef / 10^scale` exactly -/
def FracDigits (coef scale F : Nat) : Prop :=
  F ≤ scale ∧ 10 ^ (scale - F) ∣ coef ∧ ∀ k, k < F → ¬ 10 ^ (scale - k) ∣ coef

theorem FracDigits_shift {v L F : Nat} (h : FracDigits v L F) : FracDigits (v * 10) (L + 1) F := by
  obtain ⟨h1, h2, h3⟩ := h
  refine ⟨Nat.le_succ_of_le h1, ?_, fun k hk hd => h3 k hk ?_⟩
  · rw [Nat.succ_sub h1, Nat.pow_succ]; exact Nat.mul_dvd_mul_right h2 10
  · rw [Nat.succ_sub (by omega), Nat.pow_succ] at hd
    exact Nat.dvd_of_mul_dvd_mul_right (by decide) hd

theorem FracDigits_full (v L d : Nat) (h0 : 0 < d) (h9 : d < 10) : FracDigits (v * 10 + d) (L + 1) (L + 1) := by
  refine ⟨Nat.le_refl _, by rw [Nat.sub_self]; exact Nat.one_dvd _, fun k hk hd => ?_⟩
  rw [Nat.succ_sub (by omega), Nat.pow_succ] at hd
  have : 10 ∣ v * 10 + d := Nat.dvd_trans (Nat.dvd_mul_left ..) hd
  omega

/-- `rstrip('0')` of the fraction digits leaves the least number of places -/
theorem dropTrailingZeros_spec (fp : Str) (h : ∀ c ∈ fp, isDig c = true) :
    FracDigits (posVal fp) fp.length (dropTrailing (· == '0') fp).length := by
  -- from the last digit backwards
  suffices ∀ rs : Str, (∀ c ∈ rs, isDig c = true) →
      FracDigits (posVal rs.reverse) rs.length (rs.dropWhile (· == '0')).length by
    have := this fp.reverse (fun c hc => h c (List.mem_reverse.mp hc))
    rwa [List.reverse_reverse, List.length_reverse, ← List.length_reverse (as := List.dropWhile _ _)] at this
  intro rs hrs
  induction rs with
  | nil => exact ⟨Nat.le_refl _, Nat.dvd_zero _, nofun⟩
  | cons c cs ih =>
    have ih := ih fun x hx => hrs x (List.mem_cons_of_mem _ hx)
    have hc := (isDig_iff c).mp (hrs c (List.mem_cons_self ..))
    have hz := char_eq_zero_iff c
    rw [List.reverse_cons, posVal_append, List.dropWhile_cons]
    simp only [posVal, List.length_cons, List.length_nil, Nat.zero_add, Nat.pow_one, Nat.pow_zero, Nat.mul_one,
      Nat.add_zero, digVal]
    split
    · rename_i h0
      rw [show c.toNat - 48 = 0 by have := hz.mp h0; omega, Nat.add_zero]; exact FracDigits_shift ih
    · rename_i h0
      exact FracDigits_full _ _ _ (by have := mt hz.mpr h0; omega) (by omega)

theorem posVal_take_drop (c : Str) (s : Nat) (hs : s ≤ c.length) (h : ∀ x ∈ c, isDig x = true) :
    posVal (c.take (c.length - s)) = posVal c / 10 ^ s ∧ posVal (c.drop (c.length - s)) = posVal c % 10 ^ s := by
  have hl : (c.drop (c.length - s)).length = s := by rw [List.length_drop, Nat.sub_sub_self hs]
  have e : posVal c = posVal (c.take (c.length - s)) * 10 ^ s + posVal (c.drop (c.length - s)) := by
    conv => lhs; rw [← List.take_append_drop (c.length - s) c]
    rw [posVal_append, hl]
  have hlt : posVal (c.drop (c.length - s)) < 10 ^ s := by
    have := posVal_lt (c.drop (c.length - s)) (fun x hx => h x (List.mem_of_mem_drop hx))
    rwa [hl] at this
  have hp : 0 < 10 ^ s := Nat.pow_pos (by decide)
  constructor
  · rw [e, Nat.mul_comm, Nat.mul_add_div hp, Nat.div_eq_of_lt hlt, Nat.add_zero]
  · rw [e, Nat.mul_comm, Nat.mul_add_mod, Nat.mod_eq_of_lt hlt]

theorem dropWhile_snoc_neg (p : Char → Bool) (xs : Str) (y : Char) (hy : p y = false) :
    (xs ++ [y]).dropWhile p = xs.dropWhile p ++ [y] := by
  induction xs with
  | nil => simp [List.dropWhile, hy]
  | cons x xs ih =>
    by_cases hx : p x = true
    · simp [hx, ih]
    · simp [hx]

theorem dropTrailing_cons_neg (p : Char → Bool) (d : Char) (r : Str) (hd : p d = false) :
    dropTrailing p (d :: r) = d :: dropTrailing p r := by
  simp [dropTrailing, List.reverse_cons, dropWhile_snoc_neg p _ d hd]

theorem FracDigits_zero (scale : Nat) : FracDigits 0 scale 0 :=
  ⟨Nat.zero_le _, Nat.dvd_zero _, fun k hk => absurd hk (by omega)⟩

theorem FracDigits_mod {coef s F : Nat} (h : FracDigits (coef % 10 ^ s) s F) : FracDigits coef s F := by
  obtain ⟨h1, h2, h3⟩ := h
  have hd : ∀ j, j ≤ s → (10 ^ j ∣ coef % 10 ^ s ↔ 10 ^ j ∣ coef) := fun j hj =>
    Nat.dvd_mod_iff (Nat.pow_dvd_pow 10 hj)
  exact ⟨h1, (hd _ (by omega)).mp h2, fun k hk hc => h3 k hk ((hd _ (by omega)).mpr hc)⟩

theorem FracDigits_lift {coef L F : Nat} (e : Nat) (hpos : 0 < coef) (hlt : coef < 10 ^ L)
    (h : FracDigits coef L F) : FracDigits coef (L + e) (F + e) := by
  obtain ⟨h1, h2, h3⟩ := h
  refine ⟨Nat.add_le_add_right h1 e, by rwa [Nat.add_sub_add_right], fun k hk hd => ?_⟩
  by_cases hke : k < e
  · have h4 : 10 ^ L < 10 ^ (L + e - k) := Nat.pow_lt_pow_right (by decide) (by omega)
    exact absurd (Nat.le_of_dvd hpos hd) (by omega)
  · obtain ⟨k', rfl⟩ : ∃ k', k = k' + e := ⟨k - e, by omega⟩
    rw [Nat.add_sub_add_right] at hd
    exact h3 k' (by omega) hd

/-! ### `count_digits(Decimal)` (repaired, fix de12daf) against the arithmetic of the value -/

theorem countDigitsRepr_sci (fix : Bool) (d : Char) (r : Str) (e : Nat) (hd : (d == '0') = false) :
    countDigitsRepr fix (.sci d r (e + 1)) = (0, (dropTrailing (· == '0') (d :: r)).length + e) := by
  rw [dropTrailing_cons_neg _ d r hd]
  simp only [countDigitsRepr, hd, Bool.false_eq_true, if_false, List.length_cons]
  cases r with
  | nil => simp [dropTrailing]; omega
  | cons x xs =>
    simp only [List.isEmpty_cons, Bool.false_eq_true, if_false]
    rw [if_neg (by simp)]
    congr 1; omega

/-- `count_digits` on `str(Decimal)` of the value `coef / 10^s` written with the coefficient digits `c` (no leading
    zero, "0" for zero) returns (digits of the integer part, least number of fraction digits), whatever shape
    `str(Decimal)` takes -/
theorem countDigitsRepr_spec (c : Str) (coef s : Nat) (hc : posVal c = coef) (hd : ∀ x ∈ c, isDig x = true)
    (hlead : 0 < coef → c.head? ≠ some '0') (hzero : coef = 0 → c = ['0']) :
    IntDigits (coef / 10 ^ s) (countDigitsRepr true (decRepr c s)).1 ∧
    FracDigits coef s (countDigitsRepr true (decRepr c s)).2 := by
  have hlt := posVal_lt c hd
  rw [hc] at hlt
  unfold decRepr
  by_cases h1 : s = 0
  · subst h1
    rw [if_pos rfl, Nat.pow_zero, Nat.div_one]
    exact ⟨hc ▸ dropZeros_spec c hd, Nat.le_refl _, Nat.one_dvd _, nofun⟩
  rw [if_neg h1]
  by_cases h2 : c.length + 6 > s
  · rw [if_pos h2]
    by_cases h3 : c.length > s
    · -- `ip.fp` with `s` fraction digits
      rw [if_pos h3]
      obtain ⟨e1, e2⟩ := posVal_take_drop c s (Nat.le_of_lt h3) hd
      rw [hc] at e1 e2
      have hl : (c.drop (c.length - s)).length = s := by rw [List.length_drop, Nat.sub_sub_self (Nat.le_of_lt h3)]
      refine ⟨e1 ▸ dropZeros_spec _ (fun x hx => hd x (List.mem_of_mem_take hx)), FracDigits_mod ?_⟩
      have := dropTrailingZeros_spec (c.drop (c.length - s)) (fun x hx => hd x (List.mem_of_mem_drop hx))
      rwa [e2, hl] at this
    · -- `0.0…0c`
      rw [if_neg h3]
      have hs := Nat.le_of_not_lt h3
      obtain ⟨z1, z2⟩ := zeroPad_spec (s - c.length) c hd
      refine ⟨.inl ⟨Nat.div_eq_of_lt (Nat.lt_of_lt_of_le hlt (Nat.pow_le_pow_right (by decide) hs)), rfl⟩, ?_⟩
      have := dropTrailingZeros_spec _ z1
      rwa [z2, hc, List.length_append, List.length_replicate, Nat.sub_add_cancel hs] at this
  · -- scientific notation `d.rE-n`
    rw [if_neg h2]
    cases c with
    | nil => cases hzero hc.symm
    | cons d r =>
      obtain ⟨e, rfl⟩ : ∃ e, s = (d :: r).length + e := ⟨s - (d :: r).length, by omega⟩
      simp only [Nat.add_sub_cancel_left]
      have hint : IntDigits (coef / 10 ^ ((d :: r).length + e)) 0 :=
        .inl ⟨Nat.div_eq_of_lt (Nat.lt_of_lt_of_le hlt (Nat.pow_le_pow_right (by decide) (Nat.le_add_right ..))), rfl⟩
      by_cases h0 : coef = 0
      · cases hzero h0
        subst h0
        exact ⟨hint, FracDigits_zero _⟩
      · have hpos : 0 < coef := Nat.pos_of_ne_zero h0
        have hd0 : (d == '0') = false := by simpa using hlead hpos
        have hC := dropTrailingZeros_spec (d :: r) hd
        rw [hc] at hC
        rw [countDigitsRepr_sci true d r e hd0]
        exact ⟨hint, FracDigits_lift e hpos hlt hC⟩

theorem countDigitsDec_spec (d : Dec) :
    IntDigits (d.coef / 10 ^ d.scale) (countDigitsDec true d).1 ∧
    FracDigits d.coef d.scale (countDigitsDec true d).2 :=
  countDigitsRepr_spec _ _ _ (posVal_natDigits _) (natDigits_spec _).2.2 (natDigits_head _)
    fun hz => by rw [hz, natDigits_zero]

/-! ### the digit facets in XSD terms: |value| = i / 10^m -/

theorem frac_le_iff {coef s F n : Nat} (h : FracDigits coef s F) :
    F ≤ n ↔ ∃ i m, m ≤ n ∧ coef * 10 ^ m = i * 10 ^ s := by
  obtain ⟨h1, ⟨i, h2⟩, h3⟩ := h
  constructor
  · intro hn
    obtain ⟨t, rfl⟩ : ∃ t, s = t + F := ⟨s - F, (Nat.sub_add_cancel h1).symm⟩
    rw [Nat.add_sub_cancel] at h2
    exact ⟨i, F, hn, by rw [h2, Nat.pow_add, Nat.mul_comm (10 ^ t) i, Nat.mul_assoc]⟩
  · rintro ⟨j, m, hm, he⟩
    refine Nat.le_trans (Nat.le_of_not_lt fun hmF => h3 m hmF ?_) hm
    obtain ⟨u, rfl⟩ : ∃ u, s = u + m := ⟨s - m, (Nat.sub_add_cancel (by omega)).symm⟩
    rw [Nat.add_sub_cancel]
    rw [Nat.pow_add, ← Nat.mul_assoc] at he
    exact ⟨j, by rw [Nat.mul_comm]; exact Nat.eq_of_mul_eq_mul_right (Nat.pow_pos (by decide)) he⟩

theorem int_le_iff {coef s I i m n : Nat} (hI : IntDigits (coef / 10 ^ s) I) (he : coef * 10 ^ m = i * 10 ^ s)
    (hm : m ≤ n) : I ≤ n - m ↔ i < 10 ^ n := by
  have p10 : ∀ k, 0 < 10 ^ k := fun k => Nat.pow_pos (by decide)
  have hq : coef / 10 ^ s = i / 10 ^ m := by
    rw [← Nat.mul_div_mul_right coef _ (p10 m), he, Nat.mul_comm (10 ^ s), Nat.mul_div_mul_right _ _ (p10 s)]
  rw [IntDigits_le_iff hI, hq, Nat.div_lt_iff_lt_mul (p10 m), ← Nat.pow_add, Nat.sub_add_cancel hm]

theorem total_le_iff {coef s I F n : Nat} (hI : IntDigits (coef / 10 ^ s) I) (hF : FracDigits coef s F) :
    I + F ≤ n ↔ ∃ i m, m ≤ n ∧ i < 10 ^ n ∧ coef * 10 ^ m = i * 10 ^ s := by
  constructor
  · intro hn
    obtain ⟨i, m, hm, he⟩ := (frac_le_iff hF).mp (Nat.le_refl F)
    exact ⟨i, m, by omega, (int_le_iff hI he (by omega)).mp (by omega), he⟩
  · rintro ⟨i, m, hm, hi, he⟩
    have hFm : F ≤ m := (frac_le_iff hF).mpr ⟨i, m, Nat.le_refl _, he⟩
    have := (int_le_iff hI he hm).mpr hi
    omega

/-- the unsigned part of an xs:decimal literal: `digits+ ('.' digits*)? | '.' digits+`, split into
    integer digits `ip` and fraction digits `fp` -/
def DecBody (r ip fp : Str) : Prop :=
  (∀ c ∈ ip, isDig c = true) ∧ (∀ c ∈ fp, isDig c = true) ∧
  ((r = ip ∧ fp = [] ∧ ip ≠ []) ∨ (r = ip ++ '.' :: fp ∧ (ip ≠ [] ∨ fp ≠ [])))

theorem parseDec_eq_some (s : Str) (d : Dec) :
    parseDec s = some d ↔
      ∃ ip fp, DecBody (splitSign s).2 ip fp ∧ d = ⟨(splitSign s).1, posVal (ip ++ fp), fp.length⟩ := by
  unfold parseDec
  generalize splitSign s = p
  obtain ⟨neg, r⟩ := p
  simp only [natOfDigits_eq_posVal]
  constructor
  · intro hp
    have hsplit := List.takeWhile_append_dropWhile (p := isDig) (l := r)
    have hip : ∀ c ∈ r.takeWhile isDig, isDig c = true := List.all_eq_true.mp List.all_takeWhile
    generalize r.takeWhile isDig = ip at *
    generalize r.dropWhile isDig = rest at *
    subst hsplit
    split at hp
    · split at hp
      · cases hp
      · rename_i hne
        cases hp
        exact ⟨ip, [], ⟨hip, fun _ h => absurd h List.not_mem_nil, .inl ⟨by simp, rfl, by simpa using hne⟩⟩, by simp⟩
    · rename_i fp
      split at hp
      · rename_i hc
        cases hp
        simp only [Bool.and_eq_true, allDigits_iff, Bool.not_eq_true', Bool.and_eq_false_iff,
          List.isEmpty_eq_false_iff] at hc
        exact ⟨ip, fp, ⟨hip, hc.1, .inr ⟨rfl, hc.2⟩⟩, rfl⟩
      · cases hp
    · cases hp
  · rintro ⟨ip, fp, ⟨h1, h2, ⟨rfl, rfl, hne⟩ | ⟨rfl, hne⟩⟩, rfl⟩
    · obtain ⟨e1, e2⟩ := span_append (b := []) h1 (fun _ h => nomatch h)
      rw [List.append_nil] at e1 e2
      simp only [e1, e2, List.isEmpty_iff, hne, if_false, List.append_nil, List.length_nil]
    · obtain ⟨e1, e2⟩ := span_append (b := '.' :: fp) h1 (by simp; decide)
      have hc : (allDigits fp && !(ip.isEmpty && fp.isEmpty)) = true := by
        simpa only [Bool.and_eq_true, allDigits_iff, Bool.not_eq_true', Bool.and_eq_false_iff,
          List.isEmpty_eq_false_iff] using ⟨h2, hne⟩
      simp only [e1, e2, hc, if_true]

/-- lexical space and value of xs:decimal (XSD Part 2 §3.2.3): optional sign, then `DecBody`; the value
    is  ±(ip ++ fp as a numeral) / 10^|fp| -/
def DecLex (s : Str) (d : Dec) : Prop :=
  ∃ (sg r ip fp : Str), s = sg ++ r ∧ (sg = [] ∨ sg = ['+'] ∨ sg = ['-']) ∧ DecBody r ip fp ∧
    d = ⟨decide (sg = ['-']), posVal (ip ++ fp), fp.length⟩

theorem DecBody_head {r ip fp : Str} (h : DecBody r ip fp) (c : Char) (hc : c = '-' ∨ c = '+') (t : Str) :
    r ≠ c :: t := by
  intro e
  obtain ⟨h1, h2, h3⟩ := h
  have hnd : isDig c = false := by rcases hc with rfl | rfl <;> decide
  have hnp : c ≠ '.' := by rcases hc with rfl | rfl <;> decide
  rcases h3 with ⟨rfl, -, hne⟩ | ⟨rfl, -⟩
  · subst e; have := h1 c (by simp); simp [hnd] at this
  · cases ip with
    | nil => simp at e; exact hnp e.1.symm
    | cons x xs =>
      simp at e
      have := h1 x (by simp); rw [e.1] at this; simp [hnd] at this

theorem parseDec_iff_decLex (s : Str) (d : Dec) : parseDec s = some d ↔ DecLex s d := by
  have h := splitSign_iff (fun neg r => ∃ ip fp, DecBody r ip fp ∧ d = ⟨neg, posVal (ip ++ fp), fp.length⟩)
    (fun _ _ ⟨_, _, hb, _⟩ t => ⟨DecBody_head hb '-' (.inl rfl) t, DecBody_head hb '+' (.inr rfl) t⟩) s
  rw [parseDec_eq_some, ← h]
  simp only [DecLex, exists_and_left]

end XsVerif.Datatypes
