/-
  Helper lemmas for C06 over Model/LazyLive.lean: `iter_depth` on the live tree (what is yielded and what stays in
  the tree), the loop of `iter`, and the counters of the two phases of lazy validation.
-/
import XsVerif.Model.LazyLive
import XsVerif.Lemmas.Lazy

namespace XsVerif.Lazy

section ld
variable (th : Bool) (mode d : Nat)

theorem ld_node {l : Nat} (h0 : l ≠ 0) (i : Nat) (tg : String) (ds : List (String × String)) (cs : List Tree)
    (fr : List Frame) (nk : Nat) (fl : Bool) (out : List LYield) :
    (events (.node i tg ds cs)).foldl (ldStep th mode d) ⟨l, ⟨fr, [], nk, fl⟩, out⟩
      = ldStep th mode d
          ((eventsF cs).foldl (ldStep th mode d) ⟨l + 1, ⟨⟨i, tg, ds, []⟩ :: fr, [], nk + 1, fl⟩, out⟩)
          (.stop i tg) := by
  rw [foldl_events_node' (ldStep th mode d) (fun pend => ⟨l, ⟨fr, pend, nk, fl⟩, out⟩) (fun _ _ _ => rfl)
    (fun _ => rfl) [] i tg ds cs]
  -- the 'start' event yields at level 0 only
  show ldStep th mode d (List.foldl _ ⟨l + 1, _, if (l == 0 && mode == 5) = true then _ else out⟩ _) _ = _
  rw [beq_eq_false_iff_ne.mpr h0, Bool.false_and, if_neg Bool.false_ne_true]
  rfl

theorem ldStep_stop {l : Nat} (h0 : l ≠ 0) (i : Nat) (tg : String) (f p : Frame) (ps : List Frame)
    (pend : List (String × String)) (nk : Nat) (fl : Bool) (out : List LYield) :
    ldStep th mode d ⟨l + 1, ⟨f :: p :: ps, pend, nk, fl⟩, out⟩ (.stop i tg)
      = if l = d then ⟨l, TB.clear (decide (mode ≤ 2) && th) false
                            ⟨{ p with kids := p.kids ++ [f.close] } :: ps, pend, nk, fl⟩,
                       out ++ if mode ≠ 3 then [⟨f.close, p.kids.map Tree.id, nk⟩] else []⟩
        else ⟨l, ⟨{ p with kids := p.kids ++ [f.close] } :: ps, pend, nk, fl⟩, out⟩ := by
  simp only [ldStep, TB.ev, Nat.add_sub_cancel, beq_eq_false_iff_ne.mpr h0, Bool.false_eq_true, if_false,
    bne_iff_ne, ne_eq, ite_not, apply_ite (out ++ ·), List.append_nil]

theorem ldRun_node (i : Nat) (tg : String) (ds : List (String × String)) (cs : List Tree) :
    ldRun th mode d (.node i tg ds cs)
      = ldStep th mode d
          ((eventsF cs).foldl (ldStep th mode d) ⟨1, ⟨[⟨i, tg, ds, []⟩], [], 1, false⟩,
            if mode == 5 then [⟨.node i tg ds [], [], 1⟩] else []⟩)
          (.stop i tg) :=
  foldl_events_node' (ldStep th mode d) (fun pend => ⟨0, ⟨[], pend, 0, false⟩, []⟩) (fun _ _ _ => rfl)
    (fun _ => rfl) [] i tg ds cs

theorem ldStep_stop_root (i : Nat) (tg : String) (f : Frame) (pend : List (String × String)) (nk : Nat) (fl : Bool)
    (out : List LYield) :
    ldStep th mode d ⟨1, ⟨[f], pend, nk, fl⟩, out⟩ (.stop i tg)
      = ⟨0, ⟨[f], pend, nk, fl⟩, out ++ if 2 < mode then [⟨f.close, [], nk⟩] else []⟩ := by
  rw [apply_ite (out ++ ·), List.append_nil]
  rfl

end ld

mutual
theorem ld_deep (th : Bool) (mode d : Nat) : ∀ (t : Tree) (l : Nat) (p : Frame) (ps : List Frame) (nk : Nat)
    (fl : Bool) (out : List LYield), d < l →
    (events t).foldl (ldStep th mode d) ⟨l, ⟨p :: ps, [], nk, fl⟩, out⟩
      = ⟨l, ⟨{ p with kids := p.kids ++ [t] } :: ps, [], nk + size t, fl⟩, out⟩
  | .node i tg ds cs => fun l p ps nk fl out h => by
    have h0 : l ≠ 0 := Nat.ne_zero_of_lt h
    rw [ld_node th mode d h0,
      ld_deepF th mode d cs (l + 1) _ _ _ _ _ (Nat.lt_succ_of_lt h),
      ldStep_stop th mode d h0, if_neg (Nat.ne_of_gt h), size, Nat.add_assoc]
    rfl
theorem ld_deepF (th : Bool) (mode d : Nat) : ∀ (ts : List Tree) (l : Nat) (p : Frame) (ps : List Frame)
    (nk : Nat) (fl : Bool) (out : List LYield), d < l →
    (eventsF ts).foldl (ldStep th mode d) ⟨l, ⟨p :: ps, [], nk, fl⟩, out⟩
      = ⟨l, ⟨{ p with kids := p.kids ++ ts } :: ps, [], nk + sizeF ts, fl⟩, out⟩
  | [] => fun l p ps nk fl out _ => by rw [List.append_nil]; rfl
  | t :: ts => fun l p ps nk fl out h => by
    rw [eventsF, List.foldl_append, ld_deep th mode d t l p ps nk fl out h, ld_deepF th mode d ts l _ ps _ fl out h,
      sizeF, Nat.add_assoc]
    simp only [List.append_assoc, List.singleton_append]
end

theorem ld_at_depth (th : Bool) (mode : Nat) {d : Nat} (h0 : d ≠ 0) (t : Tree) (p : Frame) (ps : List Frame)
    (nk : Nat) (fl : Bool) (out : List LYield) :
    (events t).foldl (ldStep th mode d) ⟨d, ⟨p :: ps, [], nk, fl⟩, out⟩
      = ⟨d, TB.clear (decide (mode ≤ 2) && th) false ⟨{ p with kids := p.kids ++ [t] } :: ps, [], nk + size t, fl⟩,
         out ++ if mode ≠ 3 then [⟨t, p.kids.map Tree.id, nk + size t⟩] else []⟩ := by
  obtain ⟨i, tg, ds, cs⟩ := t
  rw [ld_node th mode d h0, ld_deepF th mode d cs (d + 1) _ _ _ _ _ (Nat.lt_succ_self d), ldStep_stop th mode d h0,
    if_pos rfl, size, Nat.add_assoc]
  rfl

theorem cutTree_id (k : Nat) (t : Tree) : (cutTree k t).id = t.id := by
  cases t; cases k <;> rfl

theorem clear_plain (p : Frame) (ps : List Frame) (e : Tree) (nk : Nat) (fl : Bool) (sk : Bool) :
    (TB.clear false sk ⟨{ p with kids := p.kids ++ [e] } :: ps, [], nk, fl⟩)
      = ⟨{ p with kids := p.kids ++ [stub e] } :: ps, [], nk - (size e - 1), fl⟩ := by
  simp only [TB.clear, List.getLast?_concat, Bool.false_and, Bool.false_eq_true, if_false, List.dropLast_concat]

/- not thin (modes 3-5, or a resource with thin_lazy=False): the tree keeps the document cut at the lazy depth -/
mutual
theorem ld_nt (th : Bool) (mode d : Nat) (hth : (decide (mode ≤ 2) && th) = false) :
    ∀ (t : Tree) (l : Nat) (p : Frame) (ps : List Frame) (nk : Nat) (fl : Bool) (out : List LYield),
    1 ≤ l → l ≤ d →
    ∃ ys, (events t).foldl (ldStep th mode d) ⟨l, ⟨p :: ps, [], nk, fl⟩, out⟩
        = ⟨l, ⟨{ p with kids := p.kids ++ [cutTree (d - l) t] } :: ps, [], nk + size (cutTree (d - l) t), fl⟩,
           out ++ ys⟩
      ∧ ys.map LYield.core = if mode ≠ 3 then sibsAt keepAll (d - l) (p.kids.map Tree.id) t else []
  | .node i tg ds cs => fun l p ps nk fl out h1 h2 => by
    have h0 : l ≠ 0 := Nat.ne_of_gt h1
    rcases Nat.lt_or_eq_of_le h2 with hlt | rfl
    · obtain ⟨ys, hy, hc⟩ := ld_ntF th mode d hth cs (l + 1) ⟨i, tg, ds, []⟩ (p :: ps) (nk + 1) fl out
        (Nat.le_add_left 1 l) hlt
      rw [ld_node th mode d h0, hy, ldStep_stop th mode d h0, if_neg (Nat.ne_of_lt hlt), sub_eq_succ_of_lt hlt,
        cutTree, size, Nat.add_assoc]
      exact ⟨ys, rfl, hc⟩
    · rw [ld_at_depth th mode h0, hth, clear_plain, Nat.sub_self]
      refine ⟨if mode ≠ 3 then [⟨.node i tg ds cs, p.kids.map Tree.id, nk + size (.node i tg ds cs)⟩] else [], ?_, ?_⟩
      · simp only [cutTree, size, sizeF, stub, Nat.add_zero, Nat.add_sub_cancel_left, ← Nat.add_assoc,
          Nat.add_sub_cancel]
      · rw [apply_ite (List.map LYield.core)]
        rfl
theorem ld_ntF (th : Bool) (mode d : Nat) (hth : (decide (mode ≤ 2) && th) = false) :
    ∀ (ts : List Tree) (l : Nat) (p : Frame) (ps : List Frame) (nk : Nat) (fl : Bool) (out : List LYield),
    1 ≤ l → l ≤ d →
    ∃ ys, (eventsF ts).foldl (ldStep th mode d) ⟨l, ⟨p :: ps, [], nk, fl⟩, out⟩
        = ⟨l, ⟨{ p with kids := p.kids ++ cutTreeF (d - l) ts } :: ps, [], nk + sizeF (cutTreeF (d - l) ts), fl⟩,
           out ++ ys⟩
      ∧ ys.map LYield.core = if mode ≠ 3 then sibsAtF keepAll (d - l) (p.kids.map Tree.id) ts else []
  | [] => fun l p ps nk fl out _ _ =>
    ⟨[], by rw [cutTreeF, sizeF, List.append_nil, List.append_nil]; rfl, by rw [sibsAtF, ite_self]; rfl⟩
  | t :: ts => fun l p ps nk fl out h1 h2 => by
    obtain ⟨y1, e1, c1⟩ := ld_nt th mode d hth t l p ps nk fl out h1 h2
    obtain ⟨y2, e2, c2⟩ := ld_ntF th mode d hth ts l { p with kids := p.kids ++ [cutTree (d - l) t] } ps
      (nk + size (cutTree (d - l) t)) fl (out ++ y1) h1 h2
    refine ⟨y1 ++ y2, ?_, ?_⟩
    · rw [eventsF, List.foldl_append, e1, e2, cutTreeF, sizeF, Nat.add_assoc]
      simp only [List.append_assoc, List.singleton_append]
    · rw [List.map_append, c1, c2, sibsAtF]
      simp only [List.map_append, List.map_cons, List.map_nil, cutTree_id, keepAll]
      split <;> simp only [List.append_nil]
end

theorem sibsAt_succ_pre (nxt : List Nat → Nat → List Nat) (k : Nat) (pre pre' : List Nat) (t : Tree) :
    sibsAt nxt (k + 1) pre t = sibsAt nxt (k + 1) pre' t := by
  cases t; rfl

theorem sibsAtF_succ_pre (nxt : List Nat → Nat → List Nat) (k : Nat) :
    ∀ (ts : List Tree) (pre pre' : List Nat), sibsAtF nxt (k + 1) pre ts = sibsAtF nxt (k + 1) pre' ts
  | [], _, _ => rfl
  | t :: ts, pre, pre' => by
    rw [sibsAtF, sibsAtF, sibsAt_succ_pre nxt k pre pre' t, sibsAtF_succ_pre nxt k ts (nxt pre t.id) (nxt pre' t.id)]

theorem clear_thin (p : Frame) (ps : List Frame) (e : Tree) (nk : Nat) (fl : Bool) :
    ∃ nk', (TB.clear true false ⟨{ p with kids := p.kids ++ [e] } :: ps, [], nk, fl⟩)
      = ⟨{ p with kids := [stub e] } :: ps.map clearKids, [], nk', fl⟩ :=
  ⟨_, by
    simp only [TB.clear, List.getLast?_concat, Bool.false_and, Bool.not_false, Bool.and_self, if_true,
      Bool.false_eq_true, if_false]
    rfl⟩

theorem stub_id (t : Tree) : (stub t).id = t.id := by cases t; rfl

/- thin (modes 1, 2 of a thin resource): what is yielded, and the siblings that are still in the tree -/
mutual
theorem ld_th (th : Bool) (mode d : Nat) (hth : (decide (mode ≤ 2) && th) = true) :
    ∀ (t : Tree) (l : Nat) (p : Frame) (ps : List Frame) (nk : Nat) (fl : Bool) (out : List LYield),
    1 ≤ l → l ≤ d →
    ∃ p' ps' nk' ys, (events t).foldl (ldStep th mode d) ⟨l, ⟨p :: ps, [], nk, fl⟩, out⟩
        = ⟨l, ⟨p' :: ps', [], nk', fl⟩, out ++ ys⟩
      ∧ ps'.length = ps.length
      ∧ ys.map LYield.core = sibsAt keepOne (d - l) (p.kids.map Tree.id) t
      ∧ (l = d → p'.kids.map Tree.id = [t.id])
  | .node i tg ds cs => fun l p ps nk fl out h1 h2 => by
    have h0 : l ≠ 0 := Nat.ne_of_gt h1
    rcases Nat.lt_or_eq_of_le h2 with hlt | rfl
    · obtain ⟨p1, ps1, nk1, ys, hy, hlen, hc, _⟩ := ld_thF th mode d hth cs (l + 1) ⟨i, tg, ds, []⟩ (p :: ps)
        (nk + 1) fl out (Nat.le_add_left 1 l) hlt
      match ps1, hlen with
      | q :: qs, hlen =>
        rw [ld_node th mode d h0, hy, ldStep_stop th mode d h0, if_neg (Nat.ne_of_lt hlt), sub_eq_succ_of_lt hlt]
        exact ⟨_, qs, nk1, ys, rfl, Nat.succ.inj hlen, hc, fun h => absurd h (Nat.ne_of_lt hlt)⟩
    · have hm3 : mode ≠ 3 := by
        rw [Bool.and_eq_true, decide_eq_true_eq] at hth
        exact Nat.ne_of_lt (Nat.lt_succ_of_le hth.1)
      obtain ⟨nk', hcl⟩ := clear_thin p ps (.node i tg ds cs) (nk + size (.node i tg ds cs)) fl
      rw [ld_at_depth th mode h0, hth, if_pos hm3, Nat.sub_self, hcl]
      exact ⟨_, _, nk', _, rfl, List.length_map _, rfl, fun _ => rfl⟩
theorem ld_thF (th : Bool) (mode d : Nat) (hth : (decide (mode ≤ 2) && th) = true) :
    ∀ (ts : List Tree) (l : Nat) (p : Frame) (ps : List Frame) (nk : Nat) (fl : Bool) (out : List LYield),
    1 ≤ l → l ≤ d →
    ∃ p' ps' nk' ys, (eventsF ts).foldl (ldStep th mode d) ⟨l, ⟨p :: ps, [], nk, fl⟩, out⟩
        = ⟨l, ⟨p' :: ps', [], nk', fl⟩, out ++ ys⟩
      ∧ ps'.length = ps.length
      ∧ ys.map LYield.core = sibsAtF keepOne (d - l) (p.kids.map Tree.id) ts
      ∧ (l = d → p'.kids.map Tree.id = ts.foldl (fun pre c => keepOne pre c.id) (p.kids.map Tree.id))
  | [] => fun l p ps nk fl out _ _ => ⟨p, ps, nk, [], by rw [List.append_nil]; rfl, rfl, rfl, fun _ => rfl⟩
  | t :: ts => fun l p ps nk fl out h1 h2 => by
    obtain ⟨p1, ps1, nk1, y1, e1, len1, c1, k1⟩ := ld_th th mode d hth t l p ps nk fl out h1 h2
    obtain ⟨p2, ps2, nk2, y2, e2, len2, c2, k2⟩ := ld_thF th mode d hth ts l p1 ps1 nk1 fl (out ++ y1) h1 h2
    refine ⟨p2, ps2, nk2, y1 ++ y2, ?_, len2.trans len1, ?_, fun hd => ?_⟩
    · rw [eventsF, List.foldl_append, e1, e2, List.append_assoc]
    · rw [List.map_append, c1, c2, sibsAtF]
      congr 1
      rcases Nat.lt_or_eq_of_le h2 with hlt | hd
      · rw [sub_eq_succ_of_lt hlt]
        exact sibsAtF_succ_pre keepOne _ ts _ _
      · rw [k1 hd]; rfl
    · rw [k2 hd, k1 hd]; rfl
end

section li
variable (th : Bool) (d : Nat) (sel : String → Bool)

theorem li_node (l i : Nat) (tg : String) (ds : List (String × String)) (cs : List Tree)
    (fr : List Frame) (nk : Nat) (fl : Bool) (out : List (Nat × Kind)) :
    (events (.node i tg ds cs)).foldl (liStep th d sel) ⟨l, ⟨fr, [], nk, fl⟩, out⟩
      = liStep th d sel
          ((eventsF cs).foldl (liStep th d sel) ⟨l + 1, ⟨⟨i, tg, ds, []⟩ :: fr, [], nk + 1, fl⟩,
            if l < d && sel tg then out ++ [(i, Kind.incomplete)] else out⟩)
          (.stop i tg) :=
  foldl_events_node' (liStep th d sel) (fun pend => ⟨l, ⟨fr, pend, nk, fl⟩, out⟩) (fun _ _ _ => rfl)
    (fun _ => rfl) [] i tg ds cs

theorem liStep_stop (l i : Nat) (tg : String) (f p : Frame) (ps : List Frame)
    (pend : List (String × String)) (nk : Nat) (fl : Bool) (out : List (Nat × Kind)) :
    liStep th d sel ⟨l + 1, ⟨f :: p :: ps, pend, nk, fl⟩, out⟩ (.stop i tg)
      = if l = d then ⟨l, TB.clear th true ⟨{ p with kids := p.kids ++ [f.close] } :: ps, pend, nk, fl⟩,
                       out ++ iterElem sel f.close⟩
        else ⟨l, ⟨{ p with kids := p.kids ++ [f.close] } :: ps, pend, nk, fl⟩, out⟩ := by
  simp only [liStep, TB.ev, Nat.add_sub_cancel]
  rcases Nat.lt_trichotomy l d with h | rfl | h
  · rw [if_pos h, if_neg (Nat.ne_of_lt h)]
  · rw [if_neg (Nat.lt_irrefl l), if_neg (Nat.lt_irrefl l), if_pos rfl]
  · rw [if_neg (Nat.lt_asymm h), if_pos h, if_neg (Nat.ne_of_gt h)]

end li

mutual
theorem li_deep (th : Bool) (d : Nat) (sel : String → Bool) : ∀ (t : Tree) (l : Nat) (p : Frame)
    (ps : List Frame) (nk : Nat) (fl : Bool) (out : List (Nat × Kind)), d < l →
    (events t).foldl (liStep th d sel) ⟨l, ⟨p :: ps, [], nk, fl⟩, out⟩
      = ⟨l, ⟨{ p with kids := p.kids ++ [t] } :: ps, [], nk + size t, fl⟩, out⟩
  | .node i tg ds cs => fun l p ps nk fl out h => by
    rw [li_node, decide_eq_false (Nat.lt_asymm h), Bool.false_and, if_neg Bool.false_ne_true,
      li_deepF th d sel cs (l + 1) _ _ _ _ _ (Nat.lt_succ_of_lt h), liStep_stop, if_neg (Nat.ne_of_gt h), size,
      Nat.add_assoc]
    rfl
theorem li_deepF (th : Bool) (d : Nat) (sel : String → Bool) : ∀ (ts : List Tree) (l : Nat) (p : Frame)
    (ps : List Frame) (nk : Nat) (fl : Bool) (out : List (Nat × Kind)), d < l →
    (eventsF ts).foldl (liStep th d sel) ⟨l, ⟨p :: ps, [], nk, fl⟩, out⟩
      = ⟨l, ⟨{ p with kids := p.kids ++ ts } :: ps, [], nk + sizeF ts, fl⟩, out⟩
  | [] => fun l p ps nk fl out _ => by rw [List.append_nil]; rfl
  | t :: ts => fun l p ps nk fl out h => by
    rw [eventsF, List.foldl_append, li_deep th d sel t l p ps nk fl out h, li_deepF th d sel ts l _ ps _ fl out h,
      sizeF, Nat.add_assoc]
    simp only [List.append_assoc, List.singleton_append]
end

mutual
theorem preSel_all : ∀ t : Tree, preSel allTags t = preorder t
  | .node i _ _ cs => by rw [preSel, preSelF_all cs]; rfl
theorem preSelF_all : ∀ ts : List Tree, preSelF allTags ts = preorderF ts
  | [] => rfl
  | t :: ts => by rw [preSelF, preSel_all t, preSelF_all ts]; rfl
end

theorem clear_shape (th : Bool) (p : Frame) (ps : List Frame) (e : Tree) (nk : Nat) (fl : Bool) :
    ∃ p' ps' nk', (TB.clear th true ⟨{ p with kids := p.kids ++ [e] } :: ps, [], nk, fl⟩)
      = ⟨p' :: ps', [], nk', fl⟩ ∧ ps'.length = ps.length := by
  simp only [TB.clear, List.getLast?_concat]
  cases th
  · exact ⟨_, _, _, rfl, rfl⟩
  · cases ps with
    | nil => exact ⟨_, _, _, rfl, rfl⟩
    | cons q qs =>
      refine ⟨_, _, _, rfl, ?_⟩
      simp only [if_true, List.length_append, List.length_map, List.length_dropLast, List.length_drop,
        List.length_cons, Nat.add_sub_cancel, Nat.add_sub_cancel_left]

mutual
theorem li_top (th : Bool) (d : Nat) : ∀ (t : Tree) (l : Nat) (p : Frame) (ps : List Frame) (nk : Nat)
    (fl : Bool) (out : List (Nat × Kind)), l ≤ d →
    ∃ p' ps' nk', (events t).foldl (liStep th d allTags) ⟨l, ⟨p :: ps, [], nk, fl⟩, out⟩
        = ⟨l, ⟨p' :: ps', [], nk', fl⟩, out ++ docOrder d l t⟩
      ∧ ps'.length = ps.length
  | .node i tg ds cs => fun l p ps nk fl out h => by
    rw [li_node, docOrder]
    rcases Nat.lt_or_eq_of_le h with hlt | rfl
    · obtain ⟨p1, ps1, nk1, hy, hlen⟩ := li_topF th d cs (l + 1) ⟨i, tg, ds, []⟩ (p :: ps) (nk + 1) fl
        (out ++ [(i, Kind.incomplete)]) hlt
      match ps1, hlen with
      | q :: qs, hlen =>
        rw [decide_eq_true hlt, if_pos (show (true && allTags tg) = true from rfl), hy, liStep_stop,
          if_neg (Nat.ne_of_lt hlt), if_pos hlt, List.append_assoc]
        exact ⟨_, qs, nk1, rfl, Nat.succ.inj hlen⟩
    · obtain ⟨p', ps', nk', hcl, hlen⟩ := clear_shape th p ps (.node i tg ds cs) (nk + 1 + sizeF cs) fl
      rw [decide_eq_false (Nat.lt_irrefl l), Bool.false_and, if_neg Bool.false_ne_true,
        li_deepF th l allTags cs (l + 1) _ _ _ _ _ (Nat.lt_succ_self l), liStep_stop, if_pos rfl,
        if_neg (Nat.lt_irrefl l), show Frame.close ⟨i, tg, ds, [] ++ cs⟩ = .node i tg ds cs from rfl, hcl, iterElem, preSelF_all]
      exact ⟨p', ps', nk', rfl, hlen⟩
theorem li_topF (th : Bool) (d : Nat) : ∀ (ts : List Tree) (l : Nat) (p : Frame) (ps : List Frame) (nk : Nat)
    (fl : Bool) (out : List (Nat × Kind)), l ≤ d →
    ∃ p' ps' nk', (eventsF ts).foldl (liStep th d allTags) ⟨l, ⟨p :: ps, [], nk, fl⟩, out⟩
        = ⟨l, ⟨p' :: ps', [], nk', fl⟩, out ++ docOrderF d l ts⟩
      ∧ ps'.length = ps.length
  | [] => fun l p ps nk fl out _ => ⟨p, ps, nk, by rw [docOrderF, List.append_nil]; rfl, rfl⟩
  | t :: ts => fun l p ps nk fl out h => by
    obtain ⟨p1, ps1, nk1, e1, len1⟩ := li_top th d t l p ps nk fl out h
    obtain ⟨p2, ps2, nk2, e2, len2⟩ := li_topF th d ts l p1 ps1 nk1 fl _ h
    exact ⟨p2, ps2, nk2, by rw [eventsF, List.foldl_append, e1, e2, docOrderF, List.append_assoc],
      len2.trans len1⟩
end

mutual
theorem docOrder_perm (d : Nat) : ∀ (t : Tree) (l : Nat), ((docOrder d l t).map Prod.fst) = preorder t
  | .node i _ _ cs => fun l => by
    rw [docOrder, preorder]
    split
    · rw [List.map_cons, docOrderF_perm d cs (l + 1)]
    · simp only [List.map_cons, List.map_map, Function.comp_def, List.map_id']
theorem docOrderF_perm (d : Nat) : ∀ (ts : List Tree) (l : Nat),
    ((docOrderF d l ts).map Prod.fst) = preorderF ts
  | [] => fun _ => rfl
  | t :: ts => fun l => by rw [docOrderF, List.map_append, docOrder_perm d t l, docOrderF_perm d ts l]; rfl
end

mutual
theorem sibsAt_trees (nxt : List Nat → Nat → List Nat) : ∀ (k : Nat) (pre : List Nat) (t : Tree),
    (sibsAt nxt k pre t).map Prod.fst = treesAt k t
  | 0, pre, t => by rw [sibsAt, treesAt]; rfl
  | k + 1, pre, .node _ _ _ cs => sibsAtF_trees nxt k [] cs
theorem sibsAtF_trees (nxt : List Nat → Nat → List Nat) : ∀ (k : Nat) (pre : List Nat) (ts : List Tree),
    (sibsAtF nxt k pre ts).map Prod.fst = treesAtF k ts
  | _, _, [] => by rw [sibsAtF, treesAtF]; rfl
  | k, pre, t :: ts => by
    rw [sibsAtF, treesAtF, List.map_append, sibsAt_trees nxt k pre t, sibsAtF_trees nxt k _ ts]
end

theorem Ctr.get_add (c : Ctr) (v n w : Nat) :
    (c.add v n).get w = c.get w + (if v = w then n else 0) := by
  induction c with
  | nil => by_cases h : v = w <;> simp [Ctr.add, Ctr.get, h]
  | cons p c ih =>
    obtain ⟨k, m⟩ := p
    by_cases hk : k = v
    · subst hk
      by_cases h : k = w <;> simp [Ctr.add, Ctr.get, h]
    · by_cases h : k = w
      · subst h
        have : ¬ (v = k) := fun e => hk e.symm
        simp [Ctr.add, Ctr.get, hk, this]
      · simp [Ctr.add, Ctr.get, hk, h, ih]

/-- sum of the counts stored for `w` in a counter given as a list of pairs -/
def Ctr.total : Ctr → Nat → Nat
  | [], _ => 0
  | (k, n) :: c, w => (if k = w then n else 0) + Ctr.total c w

theorem Ctr.total_add (c : Ctr) (v n w : Nat) :
    (c.add v n).total w = c.total w + (if v = w then n else 0) := by
  induction c with
  | nil => simp [Ctr.add, Ctr.total]
  | cons p c ih =>
    obtain ⟨k, m⟩ := p
    by_cases hk : k = v
    · subst hk
      by_cases h : k = w <;> simp [Ctr.add, Ctr.total, h, Nat.add_right_comm]
    · simp only [Ctr.add, beq_iff_eq, hk, if_false, Ctr.total, ih, Nat.add_assoc]

theorem collectFrom_measure (μ : Ctr → Nat → Nat)
    (hμ : ∀ c v n w, μ (Ctr.add c v n) w = μ c w + if v = w then n else 0) (w : Nat) :
    ∀ (vals : List Nat) (s : Ctr × List Nat), μ (collectFrom s vals).1 w = μ s.1 w + vals.count w
  | [], s => rfl
  | v :: vals, s => by
    rw [collectFrom, List.foldl_cons]
    refine (collectFrom_measure μ hμ w vals _).trans ?_
    rw [hμ, List.count_cons, Nat.add_assoc, Nat.add_comm (List.count w vals)]
    simp only [beq_iff_eq]

theorem collect_get (vals : List Nat) (w : Nat) : (collect vals).1.get w = vals.count w :=
  (collectFrom_measure Ctr.get Ctr.get_add w vals _).trans (Nat.zero_add _)

theorem collect_total (vals : List Nat) (w : Nat) : (collect vals).1.total w = vals.count w :=
  (collectFrom_measure Ctr.total Ctr.total_add w vals _).trans (Nat.zero_add _)

theorem Ctr.update_get : ∀ (o c : Ctr) (w : Nat), (c.update o).get w = c.get w + o.total w
  | [], c, w => rfl
  | (k, n) :: o, c, w => by
    rw [Ctr.update, List.foldl_cons]
    refine (Ctr.update_get o _ w).trans ?_
    rw [Ctr.get_add, Ctr.total, Nat.add_assoc]

theorem phaseVals_perm (sel : List (Bool × Nat)) :
    (phaseVals true sel ++ phaseVals false sel).Perm (sel.map Prod.snd) := by
  have : (fun p : Bool × Nat => p.1 == false) = fun p => !(p.1 == true) := funext fun p => by cases p.1 <;> rfl
  rw [phaseVals, phaseVals, this, ← List.map_append]
  exact (List.filter_append_perm _ sel).map _

theorem phaseVals_all (sel : List (Bool × Nat)) (hall : ∀ p ∈ sel, p.1 = true) :
    phaseVals true sel = sel.map Prod.snd :=
  congrArg (List.map Prod.snd) (List.filter_eq_self.mpr fun p hp => by rw [hall p hp]; rfl)

theorem count_phases (sel : List (Bool × Nat)) (w : Nat) :
    (phaseVals false sel).count w + (phaseVals true sel).count w = (sel.map Prod.snd).count w := by
  rw [Nat.add_comm, ← List.count_append]
  exact (phaseVals_perm sel).count_eq w

end XsVerif.Lazy
