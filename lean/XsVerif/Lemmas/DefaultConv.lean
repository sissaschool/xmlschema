/-
  The default convention (XMLSchemaConverter): the one-level round trip `element_encode (element_decode data) =
  norm1 data` under the explicit guards `WF1` and `Kids`.
-/
import XsVerif.Lemmas.Tree
import XsVerif.Model.DefaultConv

namespace XsVerif.Conv.Dflt
open XsVerif.Conv

/-- what the loop stores under one key after the values `vs` arrived (first arrival with flag `sg`) -/
def pack (o : Opts) (sg : Bool) : List J → J
  | [v] => if sg then (if o.forceList then .list [v] else v) else .list [v]
  | vs => .list vs

theorem notSeq_notList {v : J} (h : v.isSeq = false) : ∀ l, v ≠ .list l := by
  intro l hl; subst hl; simp [J.isSeq] at h

theorem pack_cases (o : Opts) (sg : Bool) (vs : List J) :
    pack o sg vs = .list vs ∨ ∃ v, vs = [v] ∧ pack o sg vs = v := by
  match vs with
  | [] => exact .inl rfl
  | [v] =>
    unfold pack
    cases sg <;> cases o.forceList <;> first | exact .inl rfl | exact .inr ⟨v, rfl, rfl⟩
  | _ :: _ :: _ => exact .inl rfl

theorem pack_snoc (o : Opts) (sg : Bool) (v0 : J) (vs : List J) (v : J) :
    pack o sg (v0 :: vs ++ [v]) = .list (v0 :: vs ++ [v]) := by
  cases vs <;> rfl

/-- `result.append(value)` (`element_decode`, base.py:424-426) -/
theorem put_list {o : Opts} {rd : List (String × J)} {k : String} {r0 : J} {rs : List J} {v : J} {sg : Bool}
    (hg : dictGet? rd k = some (.list (r0 :: rs))) (hv : v.isSeq = false) :
    put o rd k v sg = dictSet rd k (.list (r0 :: rs ++ [v])) := by
  unfold put
  rw [hg]
  simp only [hv, Bool.not_false, Bool.or_true, if_true]

/-- `result_dict[name] = [result, value]` (`element_decode`, base.py:422-423) -/
theorem put_notSeq {o : Opts} {rd : List (String × J)} {k : String} {x v : J} {sg : Bool}
    (hg : dictGet? rd k = some x) (hx : x.isSeq = false) :
    put o rd k v sg = dictSet rd k (.list [x, v]) := by
  unfold put
  rw [hg]
  cases x <;> first | rfl | cases hx

theorem put_pack (o : Opts) (rd : List (String × J)) (k : String) (sg : Bool) (v0 : J) (vs : List J) (v : J)
    (hk : ∀ kv ∈ rd, kv.1 ≠ k) (hvs : ∀ x ∈ v0 :: vs, x.isSeq = false) (hv : v.isSeq = false) (sg' : Bool) :
    put o (rd ++ [(k, pack o sg (v0 :: vs))]) k v sg' = rd ++ [(k, pack o sg (v0 :: vs ++ [v]))] := by
  have hg := dictGet?_snoc_self rd k (pack o sg (v0 :: vs)) hk
  rw [pack_snoc]
  rcases pack_cases o sg (v0 :: vs) with h | ⟨_, he, h⟩
  · rw [h] at hg ⊢
    rw [put_list hg hv, dictSet_snoc_self rd k _ _ hk]
  · cases he
    rw [h] at hg ⊢
    rw [put_notSeq hg (hvs v0 List.mem_cons_self), dictSet_snoc_self rd k _ _ hk]
    rfl

theorem put_fresh (o : Opts) (rd : List (String × J)) (k : String) (v : J) (sg : Bool)
    (hk : ∀ kv ∈ rd, kv.1 ≠ k) : put o rd k v sg = rd ++ [(k, pack o sg [v])] := by
  unfold put
  rw [dictGet?_none rd k hk, dictSet_fresh rd k _ hk]
  rfl

/-- each key either continues the current run or never comes back -/
def contig : List String → Bool
  | [] => true
  | [_] => true
  | a :: b :: r => (a == b || !(b :: r).contains a) && contig (b :: r)

def keysOf {α : Type} (m : Mapper) : List (Item α) → List String
  | [] => []
  | .cdata _ _ :: r => keysOf m r
  | .child nm _ _ :: r => m.mp nm :: keysOf m r

def noCdata {α : Type} : List (Item α) → Bool
  | [] => true
  | .cdata _ _ :: _ => false
  | .child _ _ _ :: r => noCdata r

/-- the dict entries that the loop builds for the run of `k` that is open and for what follows -/
def grp (m : Mapper) (f : Facts) (k : String) (sg : Bool) (vs : List J) : List (Item J) → List (String × Bool × List J)
  | [] => [(k, sg, vs)]
  | .cdata _ _ :: r => grp m f k sg vs r
  | .child nm s v :: r =>
      if m.mp nm == k then grp m f k sg (vs ++ [v]) r
      else (k, sg, vs) :: grp m f (m.mp nm) (f.singleGroup && s) [v] r

def entries (o : Opts) (g : List (String × Bool × List J)) : List (String × J) :=
  g.map fun e => (e.1, pack o e.2.1 e.2.2)

theorem contig_tail {a : String} {l : List String} (h : contig (a :: l) = true) : contig l = true := by
  cases l with
  | nil => rfl
  | cons b r => simp only [contig, Bool.and_eq_true] at h; exact h.2

theorem contig_ne {a b : String} {r : List String} (h : contig (a :: b :: r) = true) (hab : (a == b) = false) :
    ∀ x ∈ b :: r, x ≠ a := by
  simp only [contig, hab, Bool.false_or, Bool.and_eq_true, Bool.not_eq_true'] at h
  intro x hx hxa
  subst hxa
  have := h.1
  simp only [List.contains_eq_mem, decide_eq_false_iff_not] at this
  exact this hx

theorem mem_keysOf {α : Type} (m : Mapper) {its : List (Item α)} {nm s v} (h : Item.child nm s v ∈ its) :
    m.mp nm ∈ keysOf m its := by
  induction its with
  | nil => cases h
  | cons a its ih =>
    cases a with
    | cdata i w => exact ih ((List.mem_cons.mp h).resolve_left nofun)
    | child nm' s' w =>
      rcases List.mem_cons.mp h with h | h
      · cases h; exact List.mem_cons_self
      · exact List.mem_cons_of_mem _ (ih h)

theorem forall_mem_keysOf {α : Type} {m : Mapper} {its : List (Item α)} {P : String → Prop}
    (h : ∀ nm s v, Item.child nm s v ∈ its → P (m.mp nm)) : ∀ x ∈ keysOf m its, P x := by
  induction its with
  | nil => exact nofun
  | cons a its ih =>
    have ih' := ih fun nm s v hm => h nm s v (List.mem_cons_of_mem _ hm)
    cases a with
    | cdata i w => exact ih'
    | child nm s v => exact List.forall_mem_cons.mpr ⟨h nm s v List.mem_cons_self, ih'⟩

theorem foldl_grp (o : Opts) (m : Mapper) (f : Facts) :
    ∀ (r : List (Item J)) (rd : List (String × J)) (k : String) (sg : Bool) (v0 : J) (vs : List J),
      noCdata r = true → contig (k :: keysOf m r) = true → (∀ kv ∈ rd, kv.1 ∉ k :: keysOf m r) →
      (∀ x ∈ v0 :: vs, x.isSeq = false) → (∀ nm s v, Item.child nm s v ∈ r → v.isSeq = false) →
      r.foldl (decStep o m f) (rd ++ [(k, pack o sg (v0 :: vs))]) = rd ++ entries o (grp m f k sg (v0 :: vs) r) := by
  intro r
  induction r with
  | nil => intros; rfl
  | cons it r ih =>
    intro rd k sg v0 vs hnc hc hrd hvs hv
    obtain _ | ⟨nm, s, v⟩ := it
    · cases hnc
    have hv0 := hv nm s v List.mem_cons_self
    have hv' := fun nm s v h => hv nm s v (List.mem_cons_of_mem _ h)
    rw [List.foldl_cons, decStep, grp]
    by_cases hkey : m.mp nm = k
    · subst hkey
      rw [put_pack o rd _ sg v0 vs v (fun kv h e => hrd kv h (e ▸ List.mem_cons_self)) hvs hv0,
        if_pos (beq_self_eq_true _)]
      exact ih rd _ sg v0 (vs ++ [v]) hnc (contig_tail hc)
        (fun kv h hx => hrd kv h (List.mem_cons.mpr ((List.mem_cons.mp hx).imp_right (List.mem_cons_of_mem _))))
        (fun x hx => (List.mem_append.mp hx).elim (hvs x) fun h => List.mem_singleton.mp h ▸ hv0) hv'
    · -- a new key: by contiguity `k` does not come back
      have hfresh : ∀ kv ∈ rd ++ [(k, pack o sg (v0 :: vs))], kv.1 ∉ m.mp nm :: keysOf m r := by
        intro kv h hx
        rcases List.mem_append.mp h with h | h
        · exact hrd kv h (List.mem_cons_of_mem _ hx)
        · cases List.mem_singleton.mp h
          exact contig_ne hc (beq_eq_false_iff_ne.mpr (Ne.symm hkey)) _ hx rfl
      rw [if_neg (by rw [beq_iff_eq]; exact hkey),
        put_fresh o _ _ v _ (fun kv h e => hfresh kv h (e ▸ List.mem_cons_self)),
        ih _ _ _ v [] hnc (contig_tail hc) hfresh (fun x hx => List.mem_singleton.mp hx ▸ hv0) hv', List.append_assoc]
      rfl

theorem grp_keys (m : Mapper) (f : Facts) :
    ∀ (r : List (Item J)) (k : String) (sg : Bool) (vs : List J), ∀ e ∈ grp m f k sg vs r, e.1 ∈ k :: keysOf m r := by
  intro r
  induction r with
  | nil => intro k sg vs e he; cases List.mem_singleton.mp he; exact List.mem_cons_self
  | cons a r ih =>
    intro k sg vs e he
    cases a with
    | cdata i w => exact ih k sg vs e he
    | child nm s v =>
      rw [grp] at he
      split at he
      · exact List.mem_cons.mpr ((List.mem_cons.mp (ih _ _ _ e he)).imp_right (List.mem_cons_of_mem _))
      · rcases List.mem_cons.mp he with rfl | he
        · exact List.mem_cons_self
        · exact List.mem_cons_of_mem _ (ih _ _ _ e he)

theorem classify_notXmlns {o : Opts} {name : String} (h : classify o name = .other ∨ ∃ a, classify o name = .attr a) :
    xmlnsLike o name = false := by
  unfold classify at h
  by_cases h1 : (o.textKey == some name) = true
  · simp only [h1, if_true] at h
    rcases h with h | ⟨a, h⟩ <;> cases h
  · simp only [h1, Bool.false_eq_true, if_false] at h
    cases h2 : cdataIndex o name with
    | some i => rw [h2] at h; rcases h with h | ⟨a, h⟩ <;> cases h
    | none =>
      rw [h2] at h
      cases h3 : xmlnsLike o name with
      | false => rfl
      | true => simp only [h3, if_true] at h; rcases h with h | ⟨a, h⟩ <;> cases h

theorem xmlnsOfKv_none {o : Opts} {kv : String × J} (h : xmlnsLike o kv.1 = false) : xmlnsOfKv o kv = none := by
  unfold xmlnsLike at h
  simp only [Bool.or_eq_false_iff] at h
  unfold xmlnsOfKv
  cases kv.2 <;> simp [h.1, h.2]

theorem kidsOf_append (nm : String) (a b : List J) : kidsOf nm (a ++ b) = kidsOf nm a ++ kidsOf nm b := by
  exact List.map_append

theorem kidsX_eq (o : Opts) (m : Mapper) (k : String) (hx : ∀ x, m.umX x k = m.um k) (vs : List J) :
    kidsX o m k vs = kidsOf (m.um k) vs := by
  simp [kidsX, kidsOf, hx]

theorem putValue_notSeq (o : Opts) (m : Mapper) (f : Facts) (a : Acc) (name : String) {v : J}
    (hv : v.isSeq = false) :
    putValue o m f a name v =
      { a with content := a.content ++ [.child (m.umX (xmlnsOfJ o v) name) false v] } := by
  cases v <;> first | rfl | cases hv

theorem renum_noCdata {α : Type} (j k : Nat) (l : List (Item α)) (h : noCdata l = true) : renum j l = renum k l := by
  induction l with
  | nil => rfl
  | cons a l ih =>
    cases a with
    | cdata i v => cases h
    | child nm s v => exact congrArg _ (ih h)

/-- what a child item must satisfy for the encoder to find it again -/
structure KidOK (o : Opts) (m : Mapper) (f : Facts) (nm : String) : Prop where
  cls : classify o (m.mp nm) = .other
  um : m.um (m.mp nm) = nm
  /-- the declarations that the data of a child carries do not change what the child's key denotes (one
      mapper per level: a child that re-declares the prefix of its own name is outside this model) -/
  umX : ∀ x, m.umX x (m.mp nm) = m.um (m.mp nm)
  decl : ∃ ch, findChild f nm = some ch ∧ ch.isList = false

theorem encStep_pack (o : Opts) (m : Mapper) (f : Facts) (a : Acc) {nm : String} (h : KidOK o m f nm) (sg : Bool)
    (v0 : J) (vs : List J) (hvs : ∀ x ∈ v0 :: vs, x.isSeq = false) :
    encStep o m f a (m.mp nm, pack o sg (v0 :: vs)) = { a with content := a.content ++ kidsOf nm (v0 :: vs) } := by
  obtain ⟨ch, hf, hl⟩ := h.decl
  simp only [encStep, h.cls]
  rcases pack_cases o sg (v0 :: vs) with hp | ⟨_, he, hp⟩
  · -- a list of values: one child each, whichever branch of `element_encode` (base.py:491-506) is taken
    rw [hp]
    simp only [putValue, h.um, hf, hl, kidsX_eq o m _ h.umX, Bool.false_eq_true, if_false, ite_self]
  · cases he
    rw [hp, putValue_notSeq o m f a _ (hvs v0 List.mem_cons_self), h.umX, h.um]
    rfl

theorem foldl_entries (o : Opts) (m : Mapper) (f : Facts) :
    ∀ (r : List (Item J)) (sg : Bool) (v0 : J) (vs : List J) (a : Acc) (nm0 : String),
      noCdata r = true → KidOK o m f nm0 → (∀ x ∈ v0 :: vs, x.isSeq = false) →
      (∀ nm s v, Item.child nm s v ∈ r → v.isSeq = false ∧ KidOK o m f nm) →
      (entries o (grp m f (m.mp nm0) sg (v0 :: vs) r)).foldl (encStep o m f) a =
        { a with content := a.content ++ kidsOf nm0 (v0 :: vs) ++ renum 1 r } := by
  intro r
  induction r with
  | nil =>
    intro sg v0 vs a nm0 _ h0 hvs _
    exact (encStep_pack o m f a h0 sg v0 vs hvs).trans (by rw [renum, List.append_nil])
  | cons it r ih =>
    intro sg v0 vs a nm0 hnc h0 hvs hr
    obtain _ | ⟨nm, s, v⟩ := it
    · cases hnc
    obtain ⟨hv0, hnm⟩ := hr nm s v List.mem_cons_self
    have hr' := fun nm s v h => hr nm s v (List.mem_cons_of_mem _ h)
    rw [grp, renum]
    by_cases hkey : m.mp nm = m.mp nm0
    · -- same key, hence the same child name
      have hsame : nm = nm0 := by rw [← hnm.um, hkey, h0.um]
      subst hsame
      rw [if_pos (beq_self_eq_true _)]
      refine (ih sg v0 (vs ++ [v]) a nm hnc h0
        (fun x hx => (List.mem_append.mp hx).elim (hvs x) fun h => List.mem_singleton.mp h ▸ hv0) hr').trans ?_
      rw [← List.cons_append, kidsOf_append]
      simp only [List.append_assoc]
      rfl
    · rw [if_neg (by rw [beq_iff_eq]; exact hkey), entries, List.map_cons, List.foldl_cons,
        encStep_pack o m f a h0 sg v0 vs hvs]
      refine (ih _ v [] _ nm hnc hnm (fun x hx => List.mem_singleton.mp hx ▸ hv0) hr').trans ?_
      simp only [List.append_assoc]
      rfl

theorem foldl_xmlns (o : Opts) (m : Mapper) (f : Facts) (l : List (String × J)) (a : Acc)
    (h : ∀ kv ∈ l, classify o kv.1 = .xmlns) : l.foldl (encStep o m f) a = a := by
  induction l generalizing a with
  | nil => rfl
  | cons x l ih =>
    simp only [List.foldl_cons, encStep, h x List.mem_cons_self]
    exact ih a fun kv hkv => h kv (List.mem_cons_of_mem _ hkv)

theorem foldl_attrs (o : Opts) (m : Mapper) (f : Facts) (p : String) (l : List (String × J)) (a : Acc)
    (h : ∀ kv ∈ l, classify o (p ++ m.mpA kv.1) = .attr (m.mpA kv.1)) (hum : ∀ kv ∈ l, m.umA (m.mpA kv.1) = kv.1) :
    (l.map fun kv => (p ++ m.mpA kv.1, kv.2)).foldl (encStep o m f) a = { a with attrs := dictUpdate a.attrs l } := by
  induction l generalizing a with
  | nil => rfl
  | cons x l ih =>
    simp only [List.map_cons, List.foldl_cons, encStep, h x List.mem_cons_self, hum x List.mem_cons_self]
    exact ih _ (fun kv hkv => h kv (List.mem_cons_of_mem _ hkv)) fun kv hkv => hum kv (List.mem_cons_of_mem _ hkv)

/-- what `element_decode` may be given (one level) for the round trip to hold: the guards of
    `default_roundtrip_partial` -/
structure WF1 {α : Type} (o : Opts) (m : Mapper) (f : Facts) (hd : Hd) (its : List (Item α)) : Prop where
  attrsUm : ∀ kv ∈ hd.attrs, m.umA (m.mpA kv.1) = kv.1
  attrsNodup' : (hd.attrs.map (·.1)).Nodup
  /-- attributes are dropped when `attr_prefix is None` -/
  attrPre : hd.attrs ≠ [] → o.attrPrefix.isSome = true
  /-- no key collisions: an attribute key is read back as that attribute … -/
  attrClass : ∀ p, o.attrPrefix = some p → ∀ kv ∈ hd.attrs, classify o (p ++ m.mpA kv.1) = .attr (m.mpA kv.1)
  attrsNodup : ((mapAttrs o m hd).map (·.1)).Nodup
  xmlnsNodup : ((xmlnsEntries (pre o) hd.xmlns).map (·.1)).Nodup
  /-- … a namespace declaration key as a declaration … -/
  xmlnsClass : ∀ kv ∈ xmlnsEntries (pre o) hd.xmlns, classify o kv.1 = .xmlns
  xmlnsBack : (xmlnsEntries (pre o) hd.xmlns).filterMap (xmlnsOfKv o) = hd.xmlns
  textNotXmlns : ∀ k, o.textKey = some k → xmlnsLike o k = false
  textOk : ∀ t, hd.text = some t → t.isNull = false ∧ t.isMap = false ∧ t.isSeq = false
  /-- the text is dropped when `text_key is None` -/
  textKeyOk : hd.text.isSome = true → keep o f hd = true → o.textKey.isSome = true
  textPlace : ∀ t, hd.text = some t → keep o f hd = false → f.simple = true ∨ (f.mixed = true ∧ t.isStr = true)
  textAlone : hd.text.isSome = true → its = []
  noGroup : f.hasGroup = false → its = []
  /-- no mixed text between children -/
  noCd : noCdata its = true
  /-- same-named children are contiguous -/
  contiguous : contig (keysOf m its) = true
  /-- … and a child key as a declared child whose type is not a list -/
  kids : ∀ nm s v, Item.child nm s v ∈ its → KidOK o m f nm

/-- converted children are not sequences (no list-typed leaves: finding C05-F7) -/
def Inv (_nm : String) (v : J) : Prop := v.isSeq = false
def Kids (its : List (Item J)) : Prop := ∀ nm s v, Item.child nm s v ∈ its → Inv nm v

def xs (o : Opts) (hd : Hd) : List (String × String) := if o.useNs then hd.xmlns else []

/-- documented normalisations of one level: `single` flags cleared, xmlns kept only in a kept dictionary and
    when the converter uses namespaces, the text of a mixed element returned as a bare string comes back as
    the first cdata part -/
def norm1 (o : Opts) {α : Type} (f : Facts) (hd : Hd) (its : List (Item α)) : Hd × List (Item α) :=
  if f.hasGroup && !its.isEmpty then ({ hd with xmlns := xs o hd }, renum 1 its)
  else if keep o f hd then ({ hd with xmlns := xs o hd }, [])
  else match hd.text with
    | some t => if f.simple then ({ hd with xmlns := [] }, []) else ({ hd with text := none, xmlns := [] }, [.cdata 1 t])
    | none => ({ hd with xmlns := [] }, [])

/-- the result dictionary after the updates of base.py:390-396: the declarations that are kept, then the
    attributes -/
def rd (o : Opts) (m : Mapper) (hd : Hd) : List (String × J) :=
  xmlnsEntries (pre o) (xs o hd) ++ mapAttrs o m hd

/-- what `element_decode` returns for an element without content (the branch `xsd_group is None or not
    data.content`): the dictionary with the text under `text_key` if a dictionary is kept, the bare text otherwise -/
def leaf (o : Opts) (m : Mapper) (f : Facts) (hd : Hd) : J :=
  if keep o f hd then
    orNone (match hd.text, o.textKey with
      | some t, some k => dictSet (rd o m hd) k t
      | _, _ => rd o m hd)
  else match hd.text with
    | some t => t
    | none => .null

theorem orNone_notSeq (d : List (String × J)) : (orNone d).isSeq = false := by
  unfold orNone; split <;> rfl

theorem enc_null (o : Opts) (m : Mapper) (f : Facts) (tag : String) :
    enc o m f tag .null = .ok ({ tag := tag, text := none, attrs := [], xmlns := [] }, []) := by
  unfold enc
  cases f.simple <;> cases f.mixed <;> rfl

theorem enc_orNone (o : Opts) (m : Mapper) (f : Facts) (tag : String) (d : List (String × J)) :
    enc o m f tag (orNone d) = enc o m f tag (.dict d) := by
  cases d with
  | cons _ _ => rfl
  | nil => rw [orNone, List.isEmpty_nil, if_pos rfl, enc_null]; cases hu : o.useNs <;> simp [enc, xmlnsOf, hu]

theorem enc_simple (o : Opts) (m : Mapper) {f : Facts} (tag : String) {t : J} (hs : f.simple = true)
    (h : t.isMap = false) :
    enc o m f tag t =
      .ok ({ tag := tag, text := if t.isNull then none else some t, attrs := [], xmlns := [] }, []) := by
  cases t <;> first | (unfold enc; rw [hs]; rfl) | cases h

theorem enc_mixed_str (o : Opts) (m : Mapper) {f : Facts} (tag : String) {t : J} (hs : f.simple = false)
    (hm : f.mixed = true) (h : t.isStr = true) :
    enc o m f tag t = .ok ({ tag := tag, text := none, attrs := [], xmlns := [] }, [.cdata 1 t]) := by
  cases t <;> first | (unfold enc; rw [hs, hm, h]; rfl) | cases h

theorem classify_textKey {o : Opts} {k : String} (h : o.textKey = some k) : classify o k = .text := by
  rw [classify, h, beq_self_eq_true, if_pos rfl]

/-- without a kept dictionary there are no attributes (the first test of `keep_result_dict`) -/
theorem attrs_nil_of_keep {o : Opts} {f : Facts} {hd : Hd} (h : keep o f hd = false) : hd.attrs = [] := by
  obtain ⟨tag, text, attrs, xmlns⟩ := hd
  cases attrs with
  | nil => rfl
  | cons a l => cases h

theorem mapAttrs_nil {o : Opts} {m : Mapper} {hd : Hd} (h : hd.attrs = []) : mapAttrs o m hd = [] := by
  unfold mapAttrs
  rw [h]
  cases o.attrPrefix <;> rfl

section
variable {α : Type} {o : Opts} {m : Mapper} {f : Facts} {hd : Hd} {its : List (Item α)} (w : WF1 o m f hd its)
include w

theorem xs_class : ∀ kv ∈ xmlnsEntries (pre o) (xs o hd), classify o kv.1 = .xmlns := by
  unfold xs
  cases o.useNs
  · exact nofun
  · exact w.xmlnsClass

theorem mapAttrs_class : ∀ kv ∈ mapAttrs o m hd, ∃ a, classify o kv.1 = .attr a := by
  intro kv hkv
  unfold mapAttrs at hkv
  cases hp : o.attrPrefix with
  | none => rw [hp] at hkv; cases hkv
  | some p =>
    rw [hp] at hkv
    obtain ⟨a, ha, rfl⟩ := List.mem_map.mp hkv
    exact ⟨_, w.attrClass p hp a ha⟩

theorem rd_fresh {k : String} (hk : classify o k = .text ∨ classify o k = .other) :
    ∀ kv ∈ rd o m hd, kv.1 ≠ k := by
  intro kv hkv he
  rw [← he] at hk
  rcases List.mem_append.mp hkv with h | h
  · rw [xs_class w kv h] at hk
    rcases hk with hk | hk <;> cases hk
  · obtain ⟨a, ha⟩ := mapAttrs_class w kv h
    rw [ha] at hk
    rcases hk with hk | hk <;> cases hk

theorem keysOf_other : ∀ x ∈ keysOf m its, classify o x = .other :=
  forall_mem_keysOf fun nm s v hm => (w.kids nm s v hm).cls

theorem xs_mapAttrs_disjoint :
    ∀ kv ∈ mapAttrs o m hd, ∀ kv' ∈ xmlnsEntries (pre o) (xs o hd), kv'.1 ≠ kv.1 := by
  intro kv hkv kv' hkv' he
  obtain ⟨a, h2⟩ := mapAttrs_class w kv hkv
  rw [← he, xs_class w kv' hkv'] at h2
  cases h2

/-- the three places where `element_decode` puts the declarations and the attributes into the dictionary
    (base.py:390-396, 401, 410) leave it at `rd` -/
theorem dec_eq (its' : List (Item J)) :
    dec o m f hd its' =
      if !f.hasGroup || its'.isEmpty then leaf o m f hd
      else orNone (its'.foldl (decStep o m f) (rd o m hd)) := by
  have h0 : (if o.useNs && !hd.xmlns.isEmpty then dictUpdate [] (xmlnsEntries (pre o) hd.xmlns) else []) =
      xmlnsEntries (pre o) (xs o hd) := by
    unfold xs
    cases o.useNs
    · rfl
    · rw [dictUpdate_nil _ w.xmlnsNodup]
      cases hd.xmlns <;> rfl
  have h1 : (if !hd.attrs.isEmpty then dictUpdate (xmlnsEntries (pre o) (xs o hd)) (mapAttrs o m hd)
      else xmlnsEntries (pre o) (xs o hd)) = rd o m hd := by
    cases ha : hd.attrs with
    | nil => rw [rd, mapAttrs_nil ha, List.append_nil]; rfl
    | cons a l =>
      rw [← ha]
      exact (if_pos (by rw [ha]; rfl)).trans (dictUpdate_fresh _ _ (xs_mapAttrs_disjoint w) w.attrsNodup)
  have h2 : dictUpdate (rd o m hd) (mapAttrs o m hd) = rd o m hd :=
    dictUpdate_append_same _ _ _ (xs_mapAttrs_disjoint w) w.attrsNodup fun _ h => h
  simp only [dec, leaf, h0, h1, h2, ite_self]
  rfl

theorem xmlnsOf_rd (T : List (String × J)) (hT : ∀ kv ∈ T, xmlnsLike o kv.1 = false) :
    xmlnsOf o (rd o m hd ++ T) = xs o hd := by
  unfold xmlnsOf rd xs
  cases hu : o.useNs with
  | false => rfl
  | true =>
    have hA : (mapAttrs o m hd).filterMap (xmlnsOfKv o) = [] :=
      List.filterMap_eq_nil_iff.mpr fun kv hkv =>
        xmlnsOfKv_none (classify_notXmlns (.inr (mapAttrs_class w kv hkv)))
    have hT' : T.filterMap (xmlnsOfKv o) = [] :=
      List.filterMap_eq_nil_iff.mpr fun kv hkv => xmlnsOfKv_none (hT kv hkv)
    simp only [if_true, List.filterMap_append, hA, hT', List.append_nil]
    exact w.xmlnsBack

theorem foldl_rd (a : Acc) :
    (rd o m hd).foldl (encStep o m f) a = { a with attrs := dictUpdate a.attrs hd.attrs } := by
  rw [rd, List.foldl_append, foldl_xmlns o m f _ a (xs_class w)]
  cases he : hd.attrs with
  | nil => rw [mapAttrs_nil he]; rfl
  | cons x l =>
    cases hp : o.attrPrefix with
    | none => have := w.attrPre (by rw [he]; exact nofun); rw [hp] at this; cases this
    | some p =>
      rw [← he]
      unfold mapAttrs
      simp only [hp]
      exact foldl_attrs o m f p hd.attrs a (w.attrClass p hp) w.attrsUm

theorem enc_dict (T : List (String × J)) (hT : ∀ kv ∈ T, xmlnsLike o kv.1 = false) :
    enc o m f hd.tag (.dict (rd o m hd ++ T)) =
      .ok ({ tag := hd.tag, text := (T.foldl (encStep o m f) { attrs := hd.attrs }).text,
             attrs := (T.foldl (encStep o m f) { attrs := hd.attrs }).attrs, xmlns := xs o hd },
           (T.foldl (encStep o m f) { attrs := hd.attrs }).content) := by
  simp only [enc]
  rw [List.foldl_append, foldl_rd w, xmlnsOf_rd w T hT]
  simp only [dictUpdate_nil _ w.attrsNodup']

theorem enc_leaf : enc o m f hd.tag (leaf o m f hd) = .ok (norm1 o f hd ([] : List (Item J))) := by
  rw [leaf, norm1, List.isEmpty_nil, Bool.not_true, Bool.and_false, if_neg Bool.false_ne_true]
  cases hkeep : keep o f hd with
  | true =>
    -- a kept dictionary: xmlns, attributes and the text under text_key
    rw [if_pos rfl, if_pos rfl, enc_orNone]
    cases ht : hd.text with
    | none =>
      rw [← List.append_nil (rd o m hd), enc_dict w [] fun _ h => nomatch h]
      rfl
    | some t =>
      cases htk : o.textKey with
      | none => have := w.textKeyOk (by rw [ht]; rfl) hkeep; rw [htk] at this; cases this
      | some tk =>
        have hcls := classify_textKey htk
        show enc o m f hd.tag (.dict (dictSet (rd o m hd) tk t)) = _
        rw [dictSet_fresh _ tk t (rd_fresh w (.inl hcls)),
          enc_dict w [(tk, t)] fun kv hkv => List.mem_singleton.mp hkv ▸ w.textNotXmlns tk htk]
        simp only [List.foldl_cons, List.foldl_nil, encStep, hcls, (w.textOk t ht).1, Bool.false_eq_true, if_false]
  | false =>
    -- the bare text (or `None`)
    rw [if_neg Bool.false_ne_true, if_neg Bool.false_ne_true]
    have hA := attrs_nil_of_keep hkeep
    cases ht : hd.text with
    | none => simp only [enc_null, hA]
    | some t =>
      obtain ⟨tn, tm, -⟩ := w.textOk t ht
      cases hs : f.simple with
      | true => simp only [enc_simple o m _ hs tm, if_true, tn, Bool.false_eq_true, if_false, hA]
      | false =>
        rcases w.textPlace t ht hkeep with h | ⟨hmx, hstr⟩
        · rw [hs] at h; cases h
        · simp only [enc_mixed_str o m _ hs hmx hstr, Bool.false_eq_true, if_false, hA]

theorem leaf_notSeq : (leaf o m f hd).isSeq = false := by
  unfold leaf
  split
  · exact orNone_notSeq _
  · cases h : hd.text with
    | none => rfl
    | some t => exact (w.textOk t h).2.2

end

theorem level_content {o : Opts} {m : Mapper} {f hd nm s v} {r : List (Item J)}
    (w : WF1 o m f hd (.child nm s v :: r)) (hk : Kids (.child nm s v :: r)) :
    enc o m f hd.tag (orNone ((Item.child nm s v :: r).foldl (decStep o m f) (rd o m hd))) =
      .ok ({ hd with xmlns := xs o hd }, renum 1 (.child nm s v :: r)) := by
  have ht : hd.text = none := Option.not_isSome_iff_eq_none.mp (mt w.textAlone (List.cons_ne_nil _ _))
  have hcls : ∀ x ∈ m.mp nm :: keysOf m r, classify o x = .other := keysOf_other w
  have hfresh : ∀ x ∈ m.mp nm :: keysOf m r, ∀ kv ∈ rd o m hd, kv.1 ≠ x := fun x hx => rd_fresh w (.inr (hcls x hx))
  have hv0 : ∀ x ∈ [v], x.isSeq = false := fun x hx => List.mem_singleton.mp hx ▸ hk nm s v List.mem_cons_self
  have hvals : ∀ nm' s' v', Item.child nm' s' v' ∈ r → v'.isSeq = false ∧ KidOK o m f nm' :=
    fun nm' s' v' h => ⟨hk nm' s' v' (List.mem_cons_of_mem _ h), w.kids nm' s' v' (List.mem_cons_of_mem _ h)⟩
  have hT : ∀ kv ∈ entries o (grp m f (m.mp nm) (f.singleGroup && s) [v] r), xmlnsLike o kv.1 = false := by
    intro kv hkv
    obtain ⟨e, he, rfl⟩ := List.mem_map.mp hkv
    exact classify_notXmlns (.inl (hcls _ (grp_keys m f r _ _ _ e he)))
  rw [List.foldl_cons, decStep, put_fresh o _ (m.mp nm) v _ (hfresh _ List.mem_cons_self),
    foldl_grp o m f r _ (m.mp nm) _ v [] w.noCd w.contiguous (fun kv hkv hx => hfresh _ hx kv hkv rfl)
      hv0 (fun nm' s' v' h => (hvals nm' s' v' h).1),
    enc_orNone, enc_dict w _ hT,
    foldl_entries o m f r _ v [] _ nm w.noCd (w.kids nm s v List.mem_cons_self) hv0 hvals,
    ht]
  rfl

/-- **one level**: `element_encode (element_decode data) = norm1 data` under the guards `WF1` -/
theorem level_roundtrip {o : Opts} {m : Mapper} {f hd} {its : List (Item J)} (w : WF1 o m f hd its) (hk : Kids its) :
    enc o m f hd.tag (dec o m f hd its) = .ok (norm1 o f hd its) := by
  rw [dec_eq w]
  cases its with
  | cons it r =>
    cases it with
    | cdata i v => cases w.noCd
    | child nm s v =>
      have hg : f.hasGroup = true := Bool.of_not_eq_false (mt w.noGroup (List.cons_ne_nil _ _))
      simp only [norm1, hg, Bool.not_true, List.isEmpty_cons, Bool.or_false, Bool.false_eq_true, if_false,
        Bool.not_false, Bool.and_self, if_true]
      exact level_content w hk
  | nil =>
    rw [List.isEmpty_nil, Bool.or_true, if_pos rfl]
    exact enc_leaf w

theorem dec_inv {o : Opts} {m : Mapper} {f hd} {its : List (Item J)} (w : WF1 o m f hd its) :
    Inv hd.tag (dec o m f hd its) := by
  rw [Inv, dec_eq w]
  split
  · exact leaf_notSeq w
  · exact orNone_notSeq _

theorem keysOf_shape {α} (m : Mapper) (l : List (Item α)) : keysOf m (shape l) = keysOf m l := by
  induction l with
  | nil => rfl
  | cons a l ih =>
    cases a with
    | cdata _ _ => exact ih
    | child _ _ _ => exact congrArg (_ :: ·) ih

theorem noCdata_shape {α} (l : List (Item α)) : noCdata (shape l) = noCdata l := by
  induction l with
  | nil => rfl
  | cons a l ih =>
    cases a with
    | cdata _ _ => rfl
    | child _ _ _ => exact ih

theorem WF1.of_shape {o : Opts} {m : Mapper} {f hd} {its : List (Item J)} (w : WF1 o m f hd (shape its)) :
    WF1 o m f hd its :=
  { w with
    textAlone := fun h => shape_nil (w.textAlone h)
    noGroup := fun h => shape_nil (w.noGroup h)
    noCd := noCdata_shape its ▸ w.noCd
    contiguous := keysOf_shape m its ▸ w.contiguous
    kids := fun nm s _ h => w.kids nm s () (mem_shape_child h) }

theorem norm1_natural (o : Opts) {α β} (g : α → β) (f : Facts) (hd : Hd) (its : List (Item α)) :
    norm1 o f hd (mapIt g its) = ((norm1 o f hd its).1, mapIt g (norm1 o f hd its).2) := by
  unfold norm1
  rw [mapIt_isEmpty]
  cases (f.hasGroup && !its.isEmpty)
  · cases keep o f hd
    · cases hd.text with
      | none => rfl
      | some t => cases f.simple <;> rfl
    · rfl
  · exact congrArg _ (renum_natural g 1 its)

theorem norm1_children (o : Opts) {α} (f : Facts) (hd : Hd) (its : List (Item α)) (nm : String) (s : Bool) (v : α) :
    Item.child nm s v ∈ (norm1 o f hd its).2 → ∃ s', Item.child nm s' v ∈ its := by
  unfold norm1
  cases (f.hasGroup && !its.isEmpty)
  · cases keep o f hd
    · cases hd.text with
      | none => exact nofun
      | some t => cases f.simple <;> simp
    · exact nofun
  · exact renum_children _ _ _ _ _

theorem default_levelOK (o : Opts) (m : Mapper) :
    LevelOK (conv o m) Inv (fun f hd sh => WF1 o m f hd sh) (fun {_} f hd its => norm1 o f hd its) Eq where
  rt := fun _ _ _ w hk => ⟨_, level_roundtrip w.of_shape hk, ItemsRel.refl_eq _⟩
  encR := fun _ _ _ _ h => h ▸ rfl
  inv := fun _ _ _ w _ => dec_inv w.of_shape
  natural := norm1_natural o
  children := norm1_children o

end XsVerif.Conv.Dflt
