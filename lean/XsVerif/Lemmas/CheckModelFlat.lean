/-
  The flat fragment of C15: `choice(e1 … en){lo,hi}`, `hi ≠ 0`, of plain element particles.
  M side: every variant of the port of `check_model` accepts such a model iff its
  live members (`maxOccurs ≠ 0`) have pairwise different names (`accepts_flat`).  S side:
  two live members of one name each start a word of the model (`conflict_flat`).
-/
import XsVerif.Lemmas.Upa
import XsVerif.Lemmas.CheckModel

set_option linter.unusedSectionVars false

namespace XsVerif.CM
open XsVerif.Wildcard XsVerif.Rx

/-- a flat item: element particle (id, name, lo, hi) -/
structure FItem where
  id : Nat
  name : QN
  lo : Nat
  hi : Option Nat
  deriving Repr, DecidableEq

def FItem.leaf (it : FItem) : Leaf := .elem it.id [it.name]
def FItem.particle (it : FItem) : Particle := .leaf it.leaf it.lo it.hi

def mkParticles : List FItem → Particles
  | [] => .nil
  | it :: rest => .cons it.particle (mkParticles rest)

/-- `choice(items){lo,hi}` with root id `r` -/
def flatChoice (r lo : Nat) (hi : Option Nat) (items : List FItem) : Particle :=
  .group r .choice lo hi (mkParticles items)

theorem leaves_mkParticles (items : List FItem) : (mkParticles items).leaves = items.map FItem.leaf := by
  induction items with
  | nil => rfl
  | cons it rest ih => simp [mkParticles, Particles.leaves, FItem.particle, Particle.leaves, ih]

theorem competing_mkParticles {v11 : Bool} {r : Nat} {k : GKind} {lo : Nat} {hi : Option Nat} {items : List FItem}
    {x y : Nat} (h : x ≠ y) : competing v11 (.group r k lo hi (mkParticles items)) x y = true := by
  have hnoany : ∀ z, isAnyId (.group r k lo hi (mkParticles items)) z = false := by
    intro z
    simp only [isAnyId, Particle.leaves, leaves_mkParticles, List.any_eq_false, List.mem_map]
    rintro l ⟨it, _, rfl⟩
    simp [FItem.leaf, Leaf.isAny]
  simp [competing, h, hnoany]

/-- the members that are part of the model (`maxOccurs ≠ 0`) -/
def live (items : List FItem) : List FItem := items.filter fun it => it.hi != some 0

theorem leafPaths_mkParticles (path : List Nat) (items : List FItem) :
    (mkParticles items).leafPaths path = (live items).map fun it => (it.id, path) := by
  induction items with
  | nil => rfl
  | cons it rest ih =>
    simp only [mkParticles, Particles.leafPaths, FItem.particle, Particle.maxIsZero, Particle.leafPaths, ih, live,
      List.filter_cons]
    by_cases h : it.hi = some 0 <;> simp [h, bne, FItem.leaf, Leaf.id]

theorem visited_group (M : Ctx) (r : Nat) (k : GKind) (lo : Nat) {hi : Option Nat} (hhi : hi ≠ some 0)
    (items : List FItem) :
    M.visited (.group r k lo hi (mkParticles items)) = (live items).map fun it => (it.id, [r]) := by
  simp [Ctx.visited, Particle.maxIsZero, Particle.leafPaths, leafPaths_mkParticles, hhi]

/-- what the theorem assumes about the context of a flat choice of plain element particles:
    the lookups of the port return the data of the items -/
structure FlatCtx (M : Ctx) (r : Nat) (items : List FItem) : Prop where
  rootChoice : (M.node r).kind = .choice
  elem : ∀ it ∈ items, M.isElem it.id = true
  name : ∀ it ∈ items, (M.info it.id).name = it.name
  plain : ∀ it ∈ items, (M.info it.id).sgHead = none
  nosubs : ∀ it ∈ items, (M.info it.id).subs = []
  ids : items.Pairwise fun a b => a.id ≠ b.id

variable {M : Ctx} {r : Nat} {items : List FItem}

def entryOf (M : Ctx) (r : Nat) (it : FItem) : Entry := ⟨M.key it.id, it.id, [r]⟩

theorem FlatCtx.key (h : FlatCtx M r items) {it : FItem} (hit : it ∈ items) : M.key it.id = some it.name := by
  rw [key_elem M (h.elem it hit), h.name it hit]

theorem FlatCtx.notAny (h : FlatCtx M r items) {it : FItem} (hit : it ∈ items) : M.isAny it.id = false :=
  isAny_of_isElem M (h.elem it hit)

theorem FlatCtx.overlap (h : FlatCtx M r items) {it jt : FItem} (hit : it ∈ items) (hjt : jt ∈ items) :
    M.overlap jt.id it.id = (jt.name == it.name) := by
  rw [overlap_plain M (h.elem jt hjt) (h.elem it hit) ⟨h.plain jt hjt, h.nosubs jt hjt⟩
    ⟨h.plain it hit, h.nosubs it hit⟩, h.name it hit, h.name jt hjt]

theorem FlatCtx.consistent_ne (h : FlatCtx M r items) {it jt : FItem} (hit : it ∈ items) (hjt : jt ∈ items)
    (hne : jt.name ≠ it.name) : M.consistent it.id jt.id = true := by
  rw [consistent_plain M (h.nosubs it hit) (h.nosubs jt hjt), h.name it hit, h.name jt hjt]
  simp [Ne.symm hne]

theorem FlatCtx.pairErr_none (h : FlatCtx M r items) {it jt : FItem} (hit : it ∈ items) (hjt : jt ∈ items)
    (hid : jt.id ≠ it.id) : M.pairErr it.id [r] jt.id [r] = none ↔ jt.name ≠ it.name := by
  unfold Ctx.pairErr
  by_cases hn : jt.name = it.name
  · cases hc : M.consistent it.id jt.id
    · simp [hn]
    · have hs1 : ∀ acc, M.stage1 it.id [r] jt.id [r] acc = .error (.sameGroup jt.id it.id) := by
        intro acc
        simp [Ctx.stage1, h.rootChoice, h.notAny hit, h.notAny hjt]
      simp [h.overlap hit hjt, hn, hid, Ctx.upaStep, hs1]
  · simp [h.consistent_ne hit hjt hn, h.overlap hit hjt, hn]

theorem FlatCtx.against_none (h : FlatCtx M r items) {it : FItem} (hit : it ∈ items) (prev : List FItem)
    (hprev : ∀ jt ∈ prev, jt ∈ items ∧ jt.id ≠ it.id) :
    M.againstErr it.id [r] (prev.map (entryOf M r)) = none ↔ ∀ jt ∈ prev, jt.name ≠ it.name := by
  rw [againstErr_eq_none_iff]
  simp only [List.mem_map, forall_exists_index, and_imp, forall_apply_eq_imp_iff₂, entryOf]
  exact forall₂_congr fun jt hjt => h.pairErr_none hit (hprev jt hjt).1 (hprev jt hjt).2

theorem dictSet_fresh (h : FlatCtx M r items) {it : FItem} (hit : it ∈ items) (prev : List FItem)
    (hp : ∀ jt ∈ prev, jt ∈ items ∧ jt.name ≠ it.name) :
    dictSet (prev.map (entryOf M r)) (entryOf M r it) = (prev ++ [it]).map (entryOf M r) := by
  unfold dictSet
  have hany : ((prev.map (entryOf M r)).any fun x => x.key == (entryOf M r it).key) = false := by
    rw [List.any_eq_false]
    intro x hx
    obtain ⟨jt, hjt, rfl⟩ := List.mem_map.mp hx
    obtain ⟨hj, hne⟩ := hp jt hjt
    simp [entryOf, h.key hj, h.key hit, hne]
  simp [hany]

theorem outerErr_flat (h : FlatCtx M r items) : ∀ (vis prev : List FItem),
    (∀ jt ∈ prev ++ vis, jt ∈ items) → (prev ++ vis).Pairwise (fun a b => a.id ≠ b.id) →
    prev.Pairwise (fun a b => a.name ≠ b.name) →
    (M.outerErr (vis.map fun it => (it.id, [r])) (prev.map (entryOf M r)) = none ↔
      (prev ++ vis).Pairwise (fun a b => a.name ≠ b.name)) := by
  intro vis
  induction vis with
  | nil => intro prev _ _ hpn; simpa [Ctx.outerErr] using hpn
  | cons it rest ih =>
    intro prev hmem hid hpn
    have hit : it ∈ items := hmem it (by simp)
    have hprev : ∀ jt ∈ prev, jt ∈ items ∧ jt.id ≠ it.id := fun jt hjt =>
      ⟨hmem jt (by simp [hjt]), hid.rel_of_mem_append hjt (by simp)⟩
    have hassoc : prev ++ [it] ++ rest = prev ++ it :: rest := by simp
    -- once `it` has raised nothing it is appended to the dict, and the rest of the loop decides
    have step : (∀ jt ∈ prev, jt.name ≠ it.name) →
        (M.outerErr (rest.map fun it => (it.id, [r])) (dictSet (prev.map (entryOf M r)) ⟨M.key it.id, it.id, [r]⟩) = none ↔
          (prev ++ it :: rest).Pairwise (fun a b => a.name ≠ b.name)) := fun hfresh => by
      have hd : dictSet (prev.map (entryOf M r)) ⟨M.key it.id, it.id, [r]⟩ = (prev ++ [it]).map (entryOf M r) :=
        dictSet_fresh h hit prev fun jt hjt => ⟨(hprev jt hjt).1, hfresh jt hjt⟩
      rw [hd, ← hassoc]
      exact ih (prev ++ [it]) (by rwa [hassoc]) (by rwa [hassoc]) (List.pairwise_append.mpr
        ⟨hpn, by simp, fun a ha b hb => by rw [List.mem_singleton.mp hb]; exact hfresh a ha⟩)
    rw [List.map_cons, Ctx.outerErr, Option.or_eq_none_iff, h.against_none hit prev hprev]
    exact ⟨fun ⟨hf, hr⟩ => (step hf).mp hr, fun hpw =>
      have hf := fun jt hjt => hpw.rel_of_mem_append hjt (by simp)
      ⟨hf, (step hf).mpr hpw⟩⟩

theorem accepts_flat {M : Ctx} {r : Nat} {items : List FItem} (h : FlatCtx M r items) (lo : Nat)
    {hi : Option Nat} (hhi : hi ≠ some 0) :
    M.accepts (flatChoice r lo hi items) = true ↔ (live items).Pairwise (fun a b => a.name ≠ b.name) := by
  have hsub : (live items).Sublist items := List.filter_sublist
  rw [accepts_iff, flatChoice, visited_group M r .choice lo hhi]
  simpa using outerErr_flat h (live items) [] (fun jt hjt => hsub.subset (by simpa using hjt))
    (by simpa using h.ids.sublist hsub) List.Pairwise.nil

theorem liveLeaves_mkParticles (items : List FItem) :
    (mkParticles items).liveLeaves = (live items).map FItem.leaf := by
  induction items with
  | nil => rfl
  | cons it rest ih =>
    simp only [mkParticles, Particles.liveLeaves, FItem.particle, Particle.liveLeaves, ih, live, List.filter_cons]
    by_cases h : it.hi = some 0 <;> simp [h, bne]

theorem liveLeaves_group (r : Nat) (k : GKind) (lo : Nat) {hi : Option Nat} (hhi : hi ≠ some 0) (items : List FItem) :
    (Particle.group r k lo hi (mkParticles items)).liveLeaves = (live items).map FItem.leaf := by
  simp [Particle.liveLeaves, liveLeaves_mkParticles, hhi]

theorem declsOf_group {M : Ctx} {T : TypeTable} {items : List FItem}
    (htypes : ∀ it ∈ items, T.decls it.id = [(it.name, (M.info it.id).ty)]) (r : Nat) (k : GKind) (lo : Nat)
    {hi : Option Nat} (hhi : hi ≠ some 0) (d : QN × Nat) :
    d ∈ declsOf T (.group r k lo hi (mkParticles items)) ↔ ∃ it ∈ live items, d = (it.name, (M.info it.id).ty) := by
  simp only [declsOf, liveLeaves_group r k lo hhi, List.mem_flatMap, List.mem_map]
  constructor
  · rintro ⟨l, ⟨it, hit, rfl⟩, hd⟩
    have hmem : it ∈ items := (List.mem_filter.mp hit).1
    simp only [FItem.leaf, htypes it hmem, List.mem_singleton] at hd
    exact ⟨it, hit, hd⟩
  · rintro ⟨it, hit, rfl⟩
    have hmem : it ∈ items := (List.mem_filter.mp hit).1
    exact ⟨it.leaf, ⟨it, hit, rfl⟩, by simp [FItem.leaf, htypes it hmem]⟩

theorem eq_of_pairwise_ne {α β : Type} {f : α → β} {l : List α} (h : l.Pairwise fun a b => f a ≠ f b) :
    ∀ a ∈ l, ∀ b ∈ l, f a = f b → a = b := fun _ ha _ hb =>
  List.Pairwise.forall_of_forall_of_flip (R := fun a b => f a = f b → a = b) (fun _ _ _ => rfl)
    (h.imp fun hne he => absurd he hne) (h.imp fun hne he => absurd he.symm hne) ha hb

theorem ne_of_lt_leHi {n k : Nat} {hi : Option Nat} (h : leHi n hi) (hk : k < n) : hi ≠ some k := by
  rintro rfl
  exact absurd h (Nat.not_le.mpr hk)

theorem leHi_succ_of_ne {lo : Nat} {hi : Option Nat} (hle : loLeHi lo hi = true) (hne : hi ≠ some lo) :
    leHi (lo + 1) hi := by
  cases hi with
  | none => trivial
  | some k =>
    simp only [loLeHi, decide_eq_true_eq] at hle
    simp only [leHi]
    have : k ≠ lo := fun h => hne (by rw [h])
    omega

theorem leHi_max_one {lo : Nat} {hi : Option Nat} (hle : loLeHi lo hi = true) (hne : hi ≠ some 0) :
    leHi (lo - 1 + 1) hi := by
  cases hi with
  | none => trivial
  | some k =>
    simp only [loLeHi, decide_eq_true_eq] at hle
    simp only [leHi]
    have : k ≠ 0 := fun h => hne (by rw [h])
    omega

theorem leHi_two {lo : Nat} {hi : Option Nat} (hle : loLeHi lo hi = true) (h0 : hi ≠ some 0) (h1 : hi ≠ some 1) :
    leHi (2 + (lo - 2)) hi := by
  cases hi with
  | none => trivial
  | some k =>
    simp only [loLeHi, decide_eq_true_eq] at hle
    simp only [leHi]
    have : k ≠ 0 := fun h => h0 (by rw [h])
    have : k ≠ 1 := fun h => h1 (by rw [h])
    omega

/-- the only symbol a plain element particle accepts -/
def FItem.sym (it : FItem) : ASym := (it.name, it.id)

theorem mm_item (it : FItem) (c : ASym) : mm it.leaf c = true ↔ c = it.sym := by
  obtain ⟨a, x⟩ := c
  simp only [mm, FItem.leaf, Leaf.id, Leaf.matches, FItem.sym, Bool.and_eq_true, beq_iff_eq,
    List.contains_cons, List.contains_nil, Bool.or_false, Prod.mk.injEq]
  constructor
  · rintro ⟨h1, h2⟩; exact ⟨h2, h1.symm⟩
  · rintro ⟨h1, h2⟩; exact ⟨h2.symm, h1⟩

theorem lang_item_iff (it : FItem) (w : List ASym) :
    Lang mm it.particle.toRx w ↔ ∃ n, it.lo ≤ n ∧ leHi n it.hi ∧ w = List.replicate n it.sym := by
  simp only [FItem.particle, Particle.toRx, Lang]
  constructor
  · rintro ⟨ws, rfl, hlo, hhi, hall⟩
    refine ⟨ws.length, hlo, hhi, ?_⟩
    have : ws = List.replicate ws.length [it.sym] := by
      rw [List.eq_replicate_iff]
      refine ⟨rfl, ?_⟩
      intro x hx
      obtain ⟨c, rfl, hc⟩ := hall x hx
      rw [(mm_item it c).mp hc]
    rw [this, List.flatten_replicate_singleton, List.length_replicate]
  · rintro ⟨n, hlo, hhi, rfl⟩
    refine ⟨List.replicate n [it.sym], by rw [List.flatten_replicate_singleton], by simpa using hlo,
      by simpa using hhi, ?_⟩
    intro x hx
    rw [(List.mem_replicate.mp hx).2]
    exact ⟨it.sym, rfl, (mm_item it _).mpr rfl⟩

theorem lang_group_syms {r : Nat} {k : GKind} {lo : Nat} {hi : Option Nat} {items : List FItem} {w : List ASym}
    (h : Lang mm (Particle.group r k lo hi (mkParticles items)).toRx w) : ∀ c ∈ w, ∃ it ∈ items, c = it.sym := by
  intro c hc
  obtain ⟨l, hl, hm, hid⟩ := lang_sym_leaf h c hc
  rw [Particle.leaves, leaves_mkParticles] at hl
  obtain ⟨it, hit, rfl⟩ := List.mem_map.mp hl
  exact ⟨it, hit, (mm_item it c).mp (by simp [mm, hm, hid])⟩

theorem lang_toChoice {items : List FItem} {it : FItem} (hit : it ∈ items) {w : List ASym}
    (h : Lang mm it.particle.toRx w) : Lang mm (mkParticles items).toChoice w := by
  induction items with
  | nil => cases hit
  | cons jt rest ih =>
    simp only [mkParticles, Particles.toChoice, Lang]
    rcases List.mem_cons.mp hit with rfl | hit
    · exact .inl h
    · exact .inr (ih hit)

theorem lang_flatChoice {r lo : Nat} {hi : Option Nat} (hhi : hi ≠ some 0) (hle : loLeHi lo hi = true)
    {items : List FItem} {it : FItem} (hit : it ∈ items) {w : List ASym}
    (h : Lang mm it.particle.toRx w) :
    Lang mm (flatChoice r lo hi items).toRx (w ++ (List.replicate (lo - 1) w).flatten) := by
  simp only [flatChoice, Particle.toRx, Lang]
  refine ⟨List.replicate ((lo - 1) + 1) w, by simp [List.replicate_succ], by simp; omega,
    by simpa using leHi_max_one hle hhi, ?_⟩
  intro x hx
  rw [(List.mem_replicate.mp hx).2]
  exact lang_toChoice hit h

theorem conflict_flat {r lo : Nat} {hi : Option Nat} (hhi : hi ≠ some 0) (hle : loLeHi lo hi = true)
    {items : List FItem} {it jt : FItem} (hit : it ∈ live items) (hjt : jt ∈ live items)
    (hle1 : loLeHi it.lo it.hi = true) (hle2 : loLeHi jt.lo jt.hi = true) (hn : it.name = jt.name) :
    ∃ v1 v2 : List ASym, Lang mm (flatChoice r lo hi items).toRx ((it.name, it.id) :: v1) ∧
      Lang mm (flatChoice r lo hi items).toRx ((it.name, jt.id) :: v2) := by
  have first : ∀ {kt : FItem}, kt ∈ live items → loLeHi kt.lo kt.hi = true →
      ∃ v, Lang mm (flatChoice r lo hi items).toRx (kt.sym :: v) := by
    intro kt hkt hocc
    obtain ⟨hmem, hl⟩ := List.mem_filter.mp hkt
    have hw : Lang mm kt.particle.toRx (kt.sym :: List.replicate (kt.lo - 1) kt.sym) :=
      (lang_item_iff kt _).mpr ⟨kt.lo - 1 + 1, by omega, leHi_max_one hocc (by simpa [bne] using hl),
        List.replicate_succ.symm⟩
    exact ⟨_, lang_flatChoice (r := r) hhi hle hmem hw⟩
  obtain ⟨v1, h1⟩ := first hit hle1
  obtain ⟨v2, h2⟩ := first hjt hle2
  exact ⟨v1, v2, h1, by rw [hn]; exact h2⟩

end XsVerif.CM
