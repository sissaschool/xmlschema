/-
  C15, S side of the flat-sequence fragment: the attributed language of one iteration of `sequence(e1 … en)`
  of plain element particles is the set of block words `e1^k1 … en^kn`.  When the
  ids are pairwise distinct, two block words that share a prefix and continue with the same child name
  attributed to two different particles exist only if there is a *bad pair* (`BadS`).
-/
import XsVerif.Lemmas.CheckModelFlat

set_option linter.unusedSectionVars false

namespace XsVerif.CM
open XsVerif.Wildcard XsVerif.Rx

/-- block words of a list of items -/
inductive SeqW : List FItem → List ASym → Prop
  | nil : SeqW [] []
  | cons {it : FItem} {rest : List FItem} {w : List ASym} (n : Nat) :
      it.lo ≤ n → leHi n it.hi → SeqW rest w → SeqW (it :: rest) (List.replicate n it.sym ++ w)

theorem lang_toSeq_iff : ∀ (items : List FItem) (w : List ASym),
    Lang mm (mkParticles items).toSeq w ↔ SeqW items w := by
  intro items
  induction items with
  | nil =>
    intro w
    simp only [mkParticles, Particles.toSeq, Lang]
    constructor
    · rintro rfl; exact .nil
    · intro h; cases h; rfl
  | cons it rest ih =>
    intro w
    simp only [mkParticles, Particles.toSeq, Lang]
    constructor
    · rintro ⟨u, v, rfl, hu, hv⟩
      obtain ⟨n, hlo, hhi, rfl⟩ := (lang_item_iff it u).mp hu
      exact .cons n hlo hhi ((ih v).mp hv)
    · intro h
      cases h with
      | cons n hlo hhi hr =>
        exact ⟨_, _, rfl, (lang_item_iff it _).mpr ⟨n, hlo, hhi, rfl⟩, (ih _).mpr hr⟩

theorem seqW_syms {items : List FItem} {w : List ASym} (h : SeqW items w) :
    ∀ c ∈ w, ∃ it ∈ items, c = it.sym := by
  induction h with
  | nil => intro c hc; cases hc
  | cons n _ _ _ ih =>
    intro c hc
    rcases List.mem_append.mp hc with hc | hc
    · exact ⟨_, by simp, (List.mem_replicate.mp hc).2⟩
    · obtain ⟨jt, hj, rfl⟩ := ih c hc
      exact ⟨jt, by simp [hj], rfl⟩

theorem seqW_append {l1 l2 : List FItem} {w1 w2 : List ASym} (h1 : SeqW l1 w1) (h2 : SeqW l2 w2) :
    SeqW (l1 ++ l2) (w1 ++ w2) := by
  induction h1 with
  | nil => simpa using h2
  | cons n hlo hhi _ ih =>
    rw [List.cons_append, List.append_assoc]
    exact .cons n hlo hhi ih

/-- the minimal word: every particle exactly `lo` times -/
def minW (items : List FItem) : List ASym := (items.map fun it => List.replicate it.lo it.sym).flatten

theorem seqW_minW : ∀ (items : List FItem), (∀ it ∈ items, loLeHi it.lo it.hi = true) → SeqW items (minW items) := by
  intro items
  induction items with
  | nil => intro _; exact .nil
  | cons it rest ih =>
    intro h
    have hle := h it (by simp)
    simp only [minW, List.map_cons, List.flatten_cons]
    exact .cons it.lo (Nat.le_refl _) (loLeHi_iff.mp hle) (ih fun jt hj => h jt (by simp [hj]))

theorem minW_cons (it : FItem) (l : List FItem) : minW (it :: l) = List.replicate it.lo it.sym ++ minW l := rfl

theorem minW_append (a b : List FItem) : minW (a ++ b) = minW a ++ minW b := by simp [minW]

theorem seqW_mid {items pre post : List FItem} {kt : FItem} {n : Nat} (hs : items = pre ++ kt :: post)
    (hocc : ∀ m ∈ items, loLeHi m.lo m.hi = true) (hlo : kt.lo ≤ n) (hhi : leHi n kt.hi) :
    SeqW items (minW pre ++ (List.replicate n kt.sym ++ minW post)) := by
  subst hs
  exact seqW_append (seqW_minW pre fun m hm => hocc m (by simp [hm]))
    (.cons n hlo hhi (seqW_minW post fun m hm => hocc m (by simp [hm])))

theorem minW_emptiable (items : List FItem) (h : ∀ m ∈ items, m.lo = 0) : minW items = [] := by
  induction items with
  | nil => rfl
  | cons it rest ih =>
    simp only [minW, List.map_cons, List.flatten_cons, h it (by simp), List.replicate_zero, List.nil_append]
    exact ih fun m hm => h m (by simp [hm])

section tw
variable {α : Type} (p : α → Bool)

theorem dropWhile_append_of_not_all : ∀ (u t : List α), ¬ (∀ c ∈ u, p c = true) →
    (u ++ t).dropWhile p = u.dropWhile p ++ t
  | [], _, h => absurd (fun _ hc => nomatch hc) h
  | c :: u, t, h => by
    by_cases hc : p c = true
    · have := dropWhile_append_of_not_all u t fun hu => h fun d hd => by
        rcases List.mem_cons.mp hd with rfl | hd
        · exact hc
        · exact hu d hd
      simp [hc, this]
    · simp [hc]

theorem tw_none (w : List α) (h : ∀ c ∈ w, p c = false) : w.takeWhile p = [] ∧ w.dropWhile p = w := by
  cases w with
  | nil => exact ⟨rfl, rfl⟩
  | cons c w => simp [h c (by simp)]

end tw

/-- in-iteration conflict: `it` not univocal, only emptiable particles `midl` up to the later particle -/
def Bad1 (it : FItem) (midl : List FItem) : Prop := it.hi ≠ some it.lo ∧ ∀ m ∈ midl, m.lo = 0

/-- wrap-around conflict of a sequence that repeats: `jt` not univocal, only emptiable particles after `jt` and
    before the earlier particle -/
def Bad2 (rhi : Option Nat) (p1 : List FItem) (jt : FItem) (p2 : List FItem) : Prop :=
  rhi ≠ some 1 ∧ jt.hi ≠ some jt.lo ∧ (∀ m ∈ p1, m.lo = 0) ∧ ∀ m ∈ p2, m.lo = 0

/-- a bad pair of a sequence that does not repeat: two live particles of one name in an in-iteration conflict -/
def BadS (items : List FItem) : Prop :=
  ∃ p1 it midl jt p2, items = p1 ++ it :: midl ++ jt :: p2 ∧ it.hi ≠ some 0 ∧ jt.hi ≠ some 0 ∧
    it.name = jt.name ∧ Bad1 it midl

/-- a bad pair of a sequence whose root has `maxOccurs = rhi`: two live particles of one name in an in-iteration
    or a wrap-around conflict -/
def BadR (rhi : Option Nat) (items : List FItem) : Prop :=
  ∃ p1 it midl jt p2, items = p1 ++ it :: midl ++ jt :: p2 ∧ it.hi ≠ some 0 ∧ jt.hi ≠ some 0 ∧
    it.name = jt.name ∧ (Bad1 it midl ∨ Bad2 rhi p1 jt p2)

theorem BadS.badR {items : List FItem} (h : BadS items) (rhi : Option Nat) : BadR rhi items := by
  obtain ⟨p1, it, midl, jt, p2, hs, hil, hjl, hn, hb⟩ := h
  exact ⟨p1, it, midl, jt, p2, hs, hil, hjl, hn, .inl hb⟩

theorem BadR.badS {items : List FItem} (h : BadR (some 1) items) : BadS items := by
  obtain ⟨p1, it, midl, jt, p2, hs, hil, hjl, hn, hb | ⟨h1, _⟩⟩ := h
  · exact ⟨p1, it, midl, jt, p2, hs, hil, hjl, hn, hb⟩
  · exact absurd rfl h1

theorem BadS.cons {items : List FItem} (h : BadS items) (it0 : FItem) : BadS (it0 :: items) := by
  obtain ⟨p1, it, midl, jt, p2, rfl, h⟩ := h
  exact ⟨it0 :: p1, it, midl, jt, p2, by simp, h⟩

theorem seqW_first {items : List FItem} {c : ASym} {v : List ASym} (h : SeqW items (c :: v)) :
    ∃ pre jt post, items = pre ++ jt :: post ∧ c = jt.sym ∧ jt.hi ≠ some 0 ∧ ∀ m ∈ pre, m.lo = 0 := by
  generalize hw : c :: v = w at h
  induction h with
  | nil => cases hw
  | @cons it rest w' n hlo hhi hr ih =>
    cases n with
    | zero =>
      simp only [List.replicate_zero, List.nil_append] at hw
      obtain ⟨pre, jt, post, rfl, hc, hj, hpre⟩ := ih hw
      refine ⟨it :: pre, jt, post, by simp, hc, hj, ?_⟩
      intro m hm
      rcases List.mem_cons.mp hm with rfl | hm
      · omega
      · exact hpre m hm
    | succ k =>
      simp only [List.replicate_succ, List.cons_append, List.cons.injEq] at hw
      exact ⟨[], it, rest, rfl, hw.1, ne_of_lt_leHi hhi (Nat.succ_pos k), fun m hm => nomatch hm⟩

theorem seqW_cons_inv {it : FItem} {rest : List FItem} (hrest : ∀ jt ∈ rest, jt.id ≠ it.id) {w : List ASym}
    (h : SeqW (it :: rest) w) :
    ∃ n, it.lo ≤ n ∧ leHi n it.hi ∧ w.takeWhile (fun c => c.2 == it.id) = List.replicate n it.sym ∧
      SeqW rest (w.dropWhile fun c => c.2 == it.id) := by
  cases h with
  | @cons _ _ w' n hlo hhi hr =>
    have hblock : ∀ c ∈ List.replicate n it.sym, (c.2 == it.id) = true := fun c hc => by
      simp [(List.mem_replicate.mp hc).2, FItem.sym]
    have hw := tw_none (fun c : ASym => c.2 == it.id) w' fun c hc => by
      obtain ⟨jt, hj, rfl⟩ := seqW_syms hr c hc
      simpa [FItem.sym] using hrest jt hj
    refine ⟨n, hlo, hhi, ?_, ?_⟩
    · rw [List.takeWhile_append_of_pos hblock, hw.1, List.append_nil]
    · rw [List.dropWhile_append_of_pos hblock, hw.2]
      exact hr

/-- one side of the main case: the common prefix `u` lies in the head block, `x` is the head particle, `y` is not.
    Then `u` is the whole head block of the second word and a proper prefix of that of the first. -/
theorem conflict_head {it : FItem} {rest : List FItem} {u v1 v2 : List ASym} {a : QN} {x y : Nat} {n1 n2 : Nat}
    (hx : x = it.id) (hy : y ≠ it.id) (hlo2 : it.lo ≤ n2) (hhi1 : leHi n1 it.hi)
    (t1 : u ++ ((a, x) :: v1).takeWhile (fun c => c.2 == it.id) = List.replicate n1 it.sym)
    (t2 : u ++ ((a, y) :: v2).takeWhile (fun c => c.2 == it.id) = List.replicate n2 it.sym)
    (r2 : SeqW rest (((a, y) :: v2).dropWhile fun c => c.2 == it.id)) : BadS (it :: rest) := by
  rw [List.takeWhile_cons_of_pos (by simp [hx])] at t1
  rw [List.takeWhile_cons_of_neg (by simpa using hy), List.append_nil] at t2
  rw [List.dropWhile_cons_of_neg (by simpa using hy)] at r2
  have l1 := congrArg List.length t1
  have l2 := congrArg List.length t2
  simp only [List.length_append, List.length_cons, List.length_replicate] at l1 l2
  have hax : (a, x) = it.sym := by
    have : (a, x) ∈ List.replicate n1 it.sym := by rw [← t1]; simp
    exact (List.mem_replicate.mp this).2
  obtain ⟨pre, jt, post, rfl, hc, hj, hpre⟩ := seqW_first r2
  exact ⟨[], it, pre, jt, post, by simp, ne_of_lt_leHi hhi1 (by omega), hj,
    (congrArg Prod.fst hax).symm.trans (congrArg Prod.fst hc), ne_of_lt_leHi hhi1 (by omega), hpre⟩

theorem seqW_conflict : ∀ (items : List FItem), items.Pairwise (fun a b => a.id ≠ b.id) →
    ∀ (u v1 v2 : List ASym) (a : QN) (x y : Nat), x ≠ y →
      SeqW items (u ++ (a, x) :: v1) → SeqW items (u ++ (a, y) :: v2) → BadS items := by
  intro items
  induction items with
  | nil =>
    intro _ u v1 v2 a x y _ h1 _
    generalize hU : u ++ (a, x) :: v1 = U at h1
    cases h1
    simp at hU
  | cons it rest ih =>
    intro hids u v1 v2 a x y hxy h1 h2
    obtain ⟨hhead, htail⟩ := List.pairwise_cons.mp hids
    have hrest : ∀ jt ∈ rest, jt.id ≠ it.id := fun jt hj => Ne.symm (hhead jt hj)
    obtain ⟨n1, hlo1, hhi1, t1, r1⟩ := seqW_cons_inv hrest h1
    obtain ⟨n2, hlo2, hhi2, t2, r2⟩ := seqW_cons_inv hrest h2
    by_cases hu : ∀ c ∈ u, (c.2 == it.id) = true
    · rw [List.takeWhile_append_of_pos hu] at t1 t2
      rw [List.dropWhile_append_of_pos hu] at r1 r2
      by_cases hx : x = it.id
      · exact conflict_head hx (fun h => hxy (hx.trans h.symm)) hlo2 hhi1 t1 t2 r2
      · by_cases hy : y = it.id
        · exact conflict_head hy hx hlo1 hhi2 t2 t1 r1
        · -- neither: both words leave the head block after `u`
          rw [List.dropWhile_cons_of_neg (by simpa using hx)] at r1
          rw [List.dropWhile_cons_of_neg (by simpa using hy)] at r2
          exact (ih htail [] v1 v2 a x y hxy r1 r2).cons it
    · rw [dropWhile_append_of_not_all _ u _ hu] at r1 r2
      exact (ih htail _ v1 v2 a x y hxy r1 r2).cons it

end XsVerif.CM
