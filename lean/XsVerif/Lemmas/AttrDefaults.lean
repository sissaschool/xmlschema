/-
  Helper lemmas for the value-constraint / document-state model of C04 (Model/AttrDefaults.lean).
-/
import XsVerif.Model.AttrDefaults

namespace XsVerif.AttrDefaults

variable (toks : String → List String) (pfx : String → Option String) (ns : List String) (v11 : Bool)

theorem mem_valueConstraints (ud : Bool) (ds : List Decl) (k v : String) :
    (k, v) ∈ valueConstraints ud ds ↔
      ∃ d ∈ ds, d.name = k ∧ d.use ≠ .prohibited ∧
        (d.fixed = some v ∨ (d.fixed = none ∧ d.dflt = some v ∧ ud = true)) := by
  induction ds with
  | nil => simp [valueConstraints]
  | cons d r ih =>
    simp only [valueConstraints, List.mem_cons, exists_eq_or_imp, ← ih]
    by_cases hp : d.use = .prohibited
    · simp [hp]
    · cases d.fixed with
      | some f => simp [hp, eq_comm]
      | none => cases d.dflt <;> cases ud <;> simp [hp, eq_comm]

theorem mem_effective (ud : Bool) (ds : List Decl) (obj : Attrs) (kv : String × String) :
    kv ∈ effective ud ds obj ↔ kv ∈ obj ∨ (hasKey kv.1 obj = false ∧ kv ∈ valueConstraints ud ds) := by
  simp only [effective, List.mem_append, List.mem_filter, Bool.not_eq_true', and_comm]

/-- `if v not in keys: keys.append(v)`, as `regRef` and `regId` both do it -/
theorem mem_insertEnd (o : List String) (v k : String) :
    k ∈ (if v ∈ o then o else o ++ [v]) ↔ k ∈ o ∨ k = v := by
  split
  · rename_i h; exact (or_iff_left_of_imp (· ▸ h)).symm
  · simp

theorem regRef_order (st : St) (v k : String) : k ∈ (regRef st v).order ↔ k ∈ st.order ∨ k = v := by
  simp only [regRef, apply_ite St.order, mem_insertEnd]

@[simp] theorem regRef_defined (st : St) (v : String) : (regRef st v).defined = st.defined := by
  unfold regRef; split <;> rfl

@[simp] theorem regRef_idList (st : St) (v : String) : (regRef st v).idList = st.idList := by
  unfold regRef; split <;> rfl

theorem foldl_regRef_order (l : List String) (st : St) (k : String) :
    k ∈ (l.foldl regRef st).order ↔ k ∈ st.order ∨ k ∈ l := by
  induction l generalizing st with
  | nil => simp
  | cons a r ih => simp only [List.foldl_cons, ih, regRef_order, List.mem_cons, or_assoc]

@[simp] theorem foldl_regRef_defined (l : List String) (st : St) : (l.foldl regRef st).defined = st.defined := by
  induction l generalizing st with
  | nil => rfl
  | cons a r ih => simp [ih]

theorem regId_fst (st : St) (v : String) :
    (regId v11 st v).1 = if v ∈ st.defined then st else
      { order := if v ∈ st.order then st.order else st.order ++ [v],
        defined := v :: st.defined, idList := st.idList ++ [v] } := by
  unfold regId
  by_cases h : v ∈ st.defined
  · rw [if_neg (not_not_intro h), if_pos h]; split <;> rfl
  · rw [if_pos h, if_neg h]

theorem regId_defined (st : St) (v k : String) :
    k ∈ (regId v11 st v).1.defined ↔ k ∈ st.defined ∨ k = v := by
  rw [regId_fst]
  split
  · rename_i h; exact (or_iff_left_of_imp (· ▸ h)).symm
  · simp [or_comm]

/-- the keys of `id_map` are `order` together with `defined` -/
theorem regId_keys (st : St) (v k : String) :
    k ∈ (regId v11 st v).1.order ∨ k ∈ (regId v11 st v).1.defined ↔
      (k ∈ st.order ∨ k ∈ st.defined) ∨ k = v := by
  rw [regId_fst]
  split
  · rename_i h; exact (or_iff_left_of_imp fun e => Or.inr (e ▸ h)).symm
  · simp only [mem_insertEnd, List.mem_cons, or_assoc, or_comm, or_left_comm, or_self_left]

theorem regId_events (st : St) (v : String) (e : Ev) (he : e ∈ (regId v11 st v).2) :
    e = .multiId ∨ e = .dupId v := by
  simp only [regId, apply_ite Prod.snd, apply_ite (e ∈ ·), List.mem_singleton, List.not_mem_nil,
    if_false_right] at he
  split at he
  · exact Or.inl he.2
  · exact Or.inr he.2

theorem postStep_qname (st : St) (v : String) : (postStep toks pfx ns v11 st .qname v).1 = st := by
  simp only [postStep]
  split
  · split <;> rfl
  · rfl

theorem postStep_defined (st : St) (k : Kind) (v x : String) :
    x ∈ (postStep toks pfx ns v11 st k v).1.defined ↔ x ∈ st.defined ∨ x ∈ (Act.post k v).ids := by
  cases k with
  | id => simpa [postStep, Act.ids] using regId_defined v11 st v x
  | qname => simp [postStep_qname, Act.ids]
  | _ => simp [postStep, Act.ids]

theorem postStep_keys (st : St) (k : Kind) (v x : String) :
    x ∈ (postStep toks pfx ns v11 st k v).1.order ∨ x ∈ (postStep toks pfx ns v11 st k v).1.defined ↔
      (x ∈ st.order ∨ x ∈ st.defined) ∨ x ∈ (Act.post k v).refs toks ∨ x ∈ (Act.post k v).ids := by
  cases k with
  | plain => simp [postStep, Act.ids, Act.refs]
  | idref => simp [postStep, Act.ids, Act.refs, regRef_order, or_right_comm]
  | idrefs => simp [postStep, Act.ids, Act.refs, foldl_regRef_order, or_right_comm]
  | id => simpa [postStep, Act.ids, Act.refs] using regId_keys v11 st v x
  | qname => simp [postStep_qname, Act.ids, Act.refs]

theorem postStep_events (st : St) (k : Kind) (v x : String) :
    Ev.dangling x ∉ (postStep toks pfx ns v11 st k v).2 := by
  intro he
  cases k with
  | id => rcases regId_events v11 st v _ he with h | h <;> cases h
  | qname =>
    simp only [postStep] at he
    split at he
    · split at he <;> simp at he
    · cases he
  | _ => cases he

theorem exec_ev (st : St) (e : Ev) (r : List Act) :
    exec toks pfx ns v11 st (.ev e :: r) =
      ((exec toks pfx ns v11 st r).1, e :: (exec toks pfx ns v11 st r).2) := rfl

theorem exec_post (st : St) (k : Kind) (v : String) (r : List Act) :
    exec toks pfx ns v11 st (.post k v :: r) =
      ((exec toks pfx ns v11 (postStep toks pfx ns v11 st k v).1 r).1,
        (postStep toks pfx ns v11 st k v).2 ++ (exec toks pfx ns v11 (postStep toks pfx ns v11 st k v).1 r).2) := rfl

theorem refsOf_cons (a : Act) (r : List Act) : refsOf toks (a :: r) = a.refs toks ++ refsOf toks r := rfl
theorem idsOf_cons (a : Act) (r : List Act) : idsOf (a :: r) = a.ids ++ idsOf r := rfl

theorem exec_defined (acts : List Act) (st : St) (x : String) :
    x ∈ (exec toks pfx ns v11 st acts).1.defined ↔ x ∈ st.defined ∨ x ∈ idsOf acts := by
  induction acts generalizing st with
  | nil => exact (or_iff_left List.not_mem_nil).symm
  | cons a r ih =>
    cases a with
    | ev e => exact ih st
    | reset => exact ih _
    | post k v => rw [exec_post, ih, postStep_defined, idsOf_cons, List.mem_append, or_assoc]

theorem exec_keys (acts : List Act) (st : St) (x : String) :
    x ∈ (exec toks pfx ns v11 st acts).1.order ∨ x ∈ (exec toks pfx ns v11 st acts).1.defined ↔
      (x ∈ st.order ∨ x ∈ st.defined) ∨ x ∈ refsOf toks acts ∨ x ∈ idsOf acts := by
  induction acts generalizing st with
  | nil => exact (or_iff_left (not_or.mpr ⟨List.not_mem_nil, List.not_mem_nil⟩)).symm
  | cons a r ih =>
    cases a with
    | ev e => exact ih st
    | reset => exact ih _
    | post k v =>
      rw [exec_post, ih, postStep_keys, refsOf_cons, idsOf_cons, List.mem_append, List.mem_append]
      exact or_assoc.trans (or_congr_right or_or_or_comm)

theorem mem_danglings_exec (acts : List Act) (k : String) :
    k ∈ danglings (exec toks pfx ns v11 St.init acts).1 ↔ k ∈ refsOf toks acts ∧ k ∉ idsOf acts := by
  have hd := (exec_defined toks pfx ns v11 acts St.init k).trans (or_iff_right List.not_mem_nil)
  have hk := (exec_keys toks pfx ns v11 acts St.init k).trans
    (or_iff_right (not_or.mpr ⟨List.not_mem_nil, List.not_mem_nil⟩))
  rw [hd] at hk
  simp only [danglings, List.mem_filter, decide_eq_true_eq, hd]
  constructor
  · rintro ⟨ho, hi⟩; exact ⟨(hk.mp (Or.inl ho)).resolve_right hi, hi⟩
  · rintro ⟨hr, hi⟩; exact ⟨(hk.mpr (Or.inl hr)).resolve_right hi, hi⟩

/-- a run emits a reference error only in its final check -/
theorem exec_events_noDangling (acts : List Act) (st : St) (x : String)
    (h : Act.ev (.dangling x) ∉ acts) : Ev.dangling x ∉ (exec toks pfx ns v11 st acts).2 := by
  induction acts generalizing st with
  | nil => simp [exec]
  | cons a r ih =>
    have hr := fun hm => h (List.mem_cons_of_mem _ hm)
    cases a with
    | ev e =>
      rw [exec_ev, List.mem_cons, not_or]
      exact ⟨fun he => h (he ▸ List.mem_cons_self ..), ih st hr⟩
    | reset => exact ih _ hr
    | post k v =>
      rw [exec_post, List.mem_append, not_or]
      exact ⟨postStep_events toks pfx ns v11 st k v x, ih _ hr⟩

theorem declActs_noDangling (d : Decl) (v x : String) : Act.ev (.dangling x) ∉ declActs d v := by
  unfold declActs
  cases d.fixed <;> simp

theorem attrActs_noDangling (isXsi : String → Bool) (xsi ds : List Decl) (inj : Bool) (nv : String × String)
    (x : String) : Act.ev (.dangling x) ∉ attrActs isXsi xsi ds inj nv := by
  unfold attrActs
  cases lookup nv.1 ds with
  | none => cases lookup nv.1 xsi <;> simp [declActs_noDangling, apply_ite (Act.ev (.dangling x) ∈ ·)]
  | some d => simp [declActs_noDangling]

theorem textActs_noDangling (ud : Bool) (td : TextDecl) (t x : String) :
    Act.ev (.dangling x) ∉ textActs ud td t := by
  unfold textActs
  cases td.fixed with
  | some f => simp [apply_ite (Act.ev (.dangling x) ∈ ·)]
  | none => cases td.dflt <;> simp [apply_ite (Act.ev (.dangling x) ∈ ·)]

theorem docActs_noDangling (eff : Bool → List Decl → Attrs → Attrs) (isXsi : String → Bool) (ud : Bool)
    (xsi : List Decl) (doc : List Elem) (x : String) :
    Act.ev (.dangling x) ∉ docActsWith eff isXsi ud xsi doc := by
  intro h
  obtain ⟨e, -, h⟩ := List.mem_flatMap.mp h
  simp only [elemActsWith, groupActsWith, missingActs, List.mem_append, List.mem_cons, List.mem_map,
    List.mem_flatMap] at h
  rcases h with ((⟨d, -, h⟩ | h | ⟨nv, -, h⟩) | h)
  · cases h
  · cases h
  · exact attrActs_noDangling _ _ _ _ _ x h
  · split at h
    · exact textActs_noDangling _ _ _ x h
    · cases h

theorem mem_refsOf_of_post_idref (acts : List Act) (v : String) (h : Act.post .idref v ∈ acts) :
    v ∈ refsOf toks acts :=
  List.mem_flatMap.mpr ⟨_, h, List.mem_singleton.mpr rfl⟩

theorem dangling_mem_runWith (eff : Bool → List Decl → Attrs → Attrs) (isXsi : String → Bool) (ud : Bool)
    (xsi : List Decl) (doc : List Elem) (k : String) :
    Ev.dangling k ∈ runWith eff toks pfx isXsi ns v11 ud xsi doc ↔
      k ∈ refsOf toks (docActsWith eff isXsi ud xsi doc) ∧ k ∉ idsOf (docActsWith eff isXsi ud xsi doc) := by
  simp only [runWith, List.mem_append, List.mem_map, Ev.dangling.injEq, exists_eq_right, mem_danglings_exec]
  exact or_iff_right (exec_events_noDangling toks pfx ns v11 _ _ k (docActs_noDangling eff isXsi ud xsi doc k))

end XsVerif.AttrDefaults
