/-
  Helper lemmas for C11 (Model/RaisePolicy.lean): what a site can do outside strict mode, the
  descent over a sequence of reached sites, and what a successful walk of the site table returns.
-/
import XsVerif.Model.RaisePolicy

namespace XsVerif.RaisePolicy
open XsVerif.Modes (Mode)

theorem fire_escapes_not_strict (k : Kind) (g : Guard) (m : Mode) (hm : m ≠ .strict)
    (h : fire k g m = .escapes) : k.resourceOrStop = true ∨ k = .content := by
  unfold fire at h
  split at h
  · cases h
  · cases k <;> simp_all [Kind.resourceOrStop]

theorem fire_strict_guard (k : Kind) (m : Mode) (hm : m ≠ .strict) : fire k .strict m = .silent := by
  simp [fire, Guard.admits, hm]

theorem fireAt_escapes_not_strict (m : Mode) (r : Reached) (hm : m ≠ .strict)
    (h : fireAt m r = .escapes) : r.kind.resourceOrStop = true ∨ r.kind = .content := by
  unfold fireAt at h
  split at h
  · exact fire_escapes_not_strict _ _ m hm h
  · split at h
    · split at h
      · simpa using ‹(r.kind.resourceOrStop || r.kind == Kind.content) = true›
      · cases h
    · split at h <;> cases h
    · cases h

theorem run_raised_mem (m : Mode) (script : List Reached) (r : Reached) (h : (run m script).raised = some r) :
    r ∈ script ∧ fireAt m r = .escapes := by
  fun_induction run m script
  case case1 => cases h
  case case5 x k hf => cases h; exact ⟨List.mem_cons_self .., hf⟩
  -- a silent or collected head: the exception comes from the tail
  all_goals
    rename_i ih
    exact ⟨List.mem_cons_of_mem _ (ih h).1, (ih h).2⟩

theorem run_raises_only_limits (m : Mode) (hm : m ≠ .strict) (script : List Reached)
    (h : ∀ r ∈ script, r.kind ≠ .content) :
    (run m script).raised = none ∨
      ∃ r ∈ script, (run m script).raised = some r ∧ r.kind.resourceOrStop = true := by
  cases hr : (run m script).raised with
  | none => exact .inl rfl
  | some r =>
    obtain ⟨hmem, hf⟩ := run_raised_mem m script r hr
    exact .inr ⟨r, hmem, rfl, (fireAt_escapes_not_strict m r hm hf).resolve_right (h r hmem)⟩

theorem run_skip_collects_nothing (script : List Reached) : (run .skip script).collected = [] := by
  induction script with
  | nil => rfl
  | cons x k ih =>
    unfold run
    cases fireAt .skip x <;> simp [ih]

/-- what the walk along `pol` may give a site: `strictGuard` to a strict-guarded one, the kind of some
    entry of the table to any other -/
abbrev KindFrom (pol : List (String × Nat × Kind)) (x : RaiseSite × Kind) : Prop :=
  (x.1.guard = .strict ∧ x.2 = .strictGuard) ∨ (x.1.guard ≠ .strict ∧ x.2 ∈ pol.map (·.2.2))

theorem classifyAll_spec_cons {s : RaiseSite} {k : Kind} {ss : List RaiseSite}
    {pol pol' : List (String × Nat × Kind)} {o : Option (List (RaiseSite × Kind))} {l : List (RaiseSite × Kind)}
    (ih : ∀ {t}, o = some t → t.map Prod.fst = ss ∧ ∀ x ∈ t, KindFrom pol' x)
    (hl : o.map ((s, k) :: ·) = some l) (hs : KindFrom pol (s, k))
    (hsub : ∀ k' ∈ pol'.map (·.2.2), k' ∈ pol.map (·.2.2)) :
    l.map Prod.fst = s :: ss ∧ ∀ x ∈ l, KindFrom pol x := by
  obtain ⟨t, ht, rfl⟩ := Option.map_eq_some_iff.1 hl
  obtain ⟨hf, hk⟩ := ih ht
  refine ⟨congrArg (s :: ·) hf, fun x hx => ?_⟩
  rcases List.mem_cons.1 hx with rfl | hx
  · exact hs
  · exact (hk x hx).imp_right (And.imp_right (hsub _))

theorem classifyAll_spec {ss : List RaiseSite} {pol : List (String × Nat × Kind)} {l : List (RaiseSite × Kind)}
    (h : classifyAll ss pol = some l) : l.map Prod.fst = ss ∧ ∀ x ∈ l, KindFrom pol x := by
  fun_induction classifyAll ss pol generalizing l
  case case1 => cases h; exact ⟨rfl, fun _ hx => nomatch hx⟩
  case case3 s ss pol hg ih => exact classifyAll_spec_cons ih h (.inl ⟨beq_iff_eq.1 hg, rfl⟩) fun _ => id
  case case6 s ss hg key k ps hk ih =>
    exact classifyAll_spec_cons ih h (.inr ⟨fun e => hg (beq_iff_eq.2 e), List.mem_cons_self ..⟩)
      fun _ => List.mem_cons_of_mem _
  case case7 s ss hg key k ps hk n ih =>
    -- the entry stays, with a smaller count
    exact classifyAll_spec_cons ih h (.inr ⟨fun e => hg (beq_iff_eq.2 e), List.mem_cons_self ..⟩) fun _ => id
  all_goals cases h

end XsVerif.RaisePolicy
