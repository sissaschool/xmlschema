/-
  Correctness of the derivative oracle:  accepts m r w = true ↔ Lang m r w.
-/
import XsVerif.Model.Rx

namespace XsVerif.Rx
variable {L σ : Type} (m : L → σ → Bool)


theorem loLeHi_iff {lo : Nat} {hi : Option Nat} : loLeHi lo hi = true ↔ leHi lo hi := by
  cases hi <;> simp [loLeHi, leHi]

theorem leHi_mono {k n : Nat} {hi : Option Nat} (hk : k ≤ n) (h : leHi n hi) : leHi k hi := by
  cases hi with
  | none => trivial
  | some v => exact Nat.le_trans hk h

theorem leHi_succ_iff {n : Nat} {hi : Option Nat} :
    leHi (n + 1) hi ↔ hiPos hi = true ∧ leHi n (hiPred hi) := by
  cases hi with
  | none => simp [leHi, hiPos, hiPred]
  | some v => simp only [leHi, hiPos, hiPred, decide_eq_true_eq]; omega


theorem lang_sym_cons (a : L) (c : σ) (w : List σ) : Lang m (.sym a) (c :: w) ↔ m a c = true ∧ w = [] := by
  constructor
  · rintro ⟨c', h, hm⟩
    obtain ⟨rfl, rfl⟩ := List.cons.inj h
    exact ⟨hm, rfl⟩
  · rintro ⟨hm, rfl⟩; exact ⟨c, rfl, hm⟩

theorem lang_cat_nil (r s : Rx L) : Lang m (.cat r s) [] ↔ Lang m r [] ∧ Lang m s [] := by
  constructor
  · rintro ⟨u, v, h, h1, h2⟩
    obtain ⟨rfl, rfl⟩ := List.append_eq_nil_iff.mp h.symm
    exact ⟨h1, h2⟩
  · rintro ⟨h1, h2⟩; exact ⟨[], [], rfl, h1, h2⟩

theorem lang_cat_cons (r s : Rx L) (c : σ) (w : List σ) :
    Lang m (.cat r s) (c :: w) ↔
      (∃ u v, w = u ++ v ∧ Lang m r (c :: u) ∧ Lang m s v) ∨ (Lang m r [] ∧ Lang m s (c :: w)) := by
  constructor
  · rintro ⟨u, v, h, h1, h2⟩
    cases u with
    | nil => exact .inr ⟨h1, h ▸ h2⟩
    | cons c' u =>
      obtain ⟨rfl, rfl⟩ := List.cons.inj h
      exact .inl ⟨u, v, rfl, h1, h2⟩
  · rintro (⟨u, v, rfl, h1, h2⟩ | ⟨h1, h2⟩)
    · exact ⟨c :: u, v, rfl, h1, h2⟩
    · exact ⟨[], c :: w, rfl, h1, h2⟩

theorem lang_rep_nil (r : Rx L) (lo : Nat) (hi : Option Nat) :
    Lang m (.rep r lo hi) [] ↔ leHi lo hi ∧ (lo = 0 ∨ Lang m r []) := by
  constructor
  · rintro ⟨ws, hf, hlo, hhi, hall⟩
    refine ⟨leHi_mono hlo hhi, ?_⟩
    cases ws with
    | nil => exact .inl (Nat.le_zero.mp hlo)
    | cons x t =>
      have hx : x = [] := List.flatten_eq_nil_iff.mp hf.symm x List.mem_cons_self
      exact .inr (hx ▸ hall x List.mem_cons_self)
  · rintro ⟨hle, h⟩
    refine ⟨List.replicate lo [], ?_, by simp, by simpa using hle, ?_⟩
    · exact (List.flatten_eq_nil_iff.mpr fun x hx => (List.mem_replicate.mp hx).2).symm
    · intro x hx
      obtain ⟨hne, rfl⟩ := List.mem_replicate.mp hx
      exact h.resolve_left hne

theorem lang_rep_hi_zero {r : Rx L} {lo : Nat} {w : List σ} (h : Lang m (.rep r lo (some 0)) w) : w = [] := by
  obtain ⟨ws, rfl, _, hle, _⟩ := h
  rw [List.length_eq_zero_iff.mp (Nat.le_zero.mp hle)]; rfl

theorem lang_rep_eq_nil {r : Rx L} {lo : Nat} {hi : Option Nat} {w : List σ}
    (hr : ∀ x, Lang m r x → x = []) (h : Lang m (.rep r lo hi) w) : w = [] := by
  obtain ⟨ws, rfl, _, _, hall⟩ := h
  exact List.flatten_eq_nil_iff.mpr fun x hx => hr x (hall x hx)

theorem nullable_iff (r : Rx L) : nullable r = true ↔ Lang m r [] := by
  induction r with
  | empty => exact ⟨nofun, False.elim⟩
  | eps => exact ⟨fun _ => rfl, fun _ => rfl⟩
  | sym a => exact ⟨nofun, fun ⟨c, h, _⟩ => nomatch h⟩
  | cat r s ihr ihs => rw [lang_cat_nil, ← ihr, ← ihs]; exact Iff.of_eq (Bool.and_eq_true _ _)
  | alt r s ihr ihs => exact (Iff.of_eq (Bool.or_eq_true _ _)).trans (or_congr ihr ihs)
  | shuffle r s ihr ihs =>
    refine (Iff.of_eq (Bool.and_eq_true _ _)).trans ((and_congr ihr ihs).trans ?_)
    constructor
    · rintro ⟨h1, h2⟩; exact ⟨[], [], .nil, h1, h2⟩
    · rintro ⟨u, v, h, h1, h2⟩
      cases h; exact ⟨h1, h2⟩
  | rep r lo hi ih =>
    rw [lang_rep_nil, ← ih, ← loLeHi_iff]
    simp only [nullable, Bool.and_eq_true, Bool.or_eq_true, beq_iff_eq]

theorem interleave_cons_iff {u v w : List σ} {c : σ} :
    Interleave u v (c :: w) ↔
      (∃ u', u = c :: u' ∧ Interleave u' v w) ∨ (∃ v', v = c :: v' ∧ Interleave u v' w) := by
  constructor
  · intro h
    cases h with
    | left _ h => exact .inl ⟨_, rfl, h⟩
    | right _ h => exact .inr ⟨_, rfl, h⟩
  · rintro (⟨u', rfl, h⟩ | ⟨v', rfl, h⟩)
    · exact .left c h
    · exact .right c h

theorem Interleave.symm {u v w : List σ} (h : Interleave u v w) : Interleave v u w := by
  induction h with
  | nil => exact .nil
  | left c _ ih => exact .right c ih
  | right c _ ih => exact .left c ih

theorem interleave_nil_left {v w : List σ} : Interleave [] v w ↔ v = w := by
  constructor
  · intro h
    generalize hu : ([] : List σ) = u at h
    induction h with
    | nil => rfl
    | left c _ _ => cases hu
    | right c _ ih => rw [ih hu]
  · rintro rfl
    induction v with
    | nil => exact .nil
    | cons c v ih => exact .right c ih

theorem interleave_nil_right {u w : List σ} : Interleave u [] w ↔ u = w :=
  ⟨fun h => interleave_nil_left.mp h.symm, fun h => (interleave_nil_left.mpr h).symm⟩

theorem interleave_append (u v : List σ) : Interleave u v (u ++ v) := by
  induction u with
  | nil => exact interleave_nil_left.mpr rfl
  | cons c u ih => exact .left c ih

theorem lang_shuffle_comm (r s : Rx L) (w : List σ) : Lang m (.shuffle r s) w ↔ Lang m (.shuffle s r) w := by
  constructor <;> rintro ⟨u, v, hi, h1, h2⟩ <;> exact ⟨v, u, hi.symm, h2, h1⟩

theorem peel_first {r : Rx L} {c : σ} :
    ∀ (ws : List (List σ)) (w : List σ), c :: w = ws.flatten → (∀ x ∈ ws, Lang m r x) →
      ∃ (u : List σ) (rest : List (List σ)), w = u ++ rest.flatten ∧ Lang m r (c :: u) ∧
        rest.length + 1 = ws.length ∧
        ∀ x ∈ rest, Lang m r x := by
  intro ws
  induction ws with
  | nil => intro w h; cases h
  | cons x t ih =>
    intro w h hall
    cases x with
    | nil =>
      obtain ⟨u, rest, h1, h2, h3, h4⟩ := ih w h (fun y hy => hall y (List.mem_cons_of_mem _ hy))
      refine ⟨u, [] :: rest, h1, h2, congrArg (· + 1) h3, ?_⟩
      intro y hy
      rcases List.mem_cons.mp hy with rfl | hy
      · exact hall [] List.mem_cons_self
      · exact h4 y hy
    | cons c' u =>
      obtain ⟨rfl, rfl⟩ := List.cons.inj h
      exact ⟨u, t, rfl, hall _ List.mem_cons_self, rfl, fun y hy => hall y (List.mem_cons_of_mem _ hy)⟩

/-- empty iterations before the first non-empty one are dropped -/
theorem lang_rep_cons (r : Rx L) (lo : Nat) (hi : Option Nat) (c : σ) (w : List σ) :
    Lang m (.rep r lo hi) (c :: w) ↔ (hiPos hi = true ∧ loLeHi lo hi = true) ∧
      ∃ u v, w = u ++ v ∧ Lang m r (c :: u) ∧ Lang m (.rep r (lo - 1) (hiPred hi)) v := by
  constructor
  · rintro ⟨ws, hf, hlo, hhi, hall⟩
    obtain ⟨u, rest, h1, h2, h3, h4⟩ := peel_first m ws w hf hall
    rw [← h3] at hlo hhi
    obtain ⟨hpos, hpred⟩ := leHi_succ_iff.mp hhi
    exact ⟨⟨hpos, loLeHi_iff.mpr (leHi_mono hlo hhi)⟩, u, rest.flatten, h1, h2, rest, rfl, by omega, hpred, h4⟩
  · rintro ⟨⟨hpos, _⟩, u, v, rfl, h1, ws, rfl, hlo, hhi, hall⟩
    refine ⟨(c :: u) :: ws, rfl, ?_, leHi_succ_iff.mpr ⟨hpos, hhi⟩, ?_⟩
    · rw [List.length_cons]; omega
    · intro x hx
      rcases List.mem_cons.mp hx with rfl | hx
      · exact h1
      · exact hall x hx

theorem deriv_iff (c : σ) (r : Rx L) : ∀ w, Lang m (deriv m c r) w ↔ Lang m r (c :: w) := by
  induction r with
  | empty => intro w; exact Iff.rfl
  | eps => intro w; exact ⟨False.elim, fun h => List.cons_ne_nil c w h⟩
  | sym a =>
    intro w
    rw [lang_sym_cons]
    simp only [deriv]
    cases m a c
    · exact ⟨False.elim, fun h => Bool.false_ne_true h.1⟩
    · exact ⟨fun h => ⟨rfl, h⟩, fun h => h.2⟩
  | alt r s ihr ihs => intro w; simp only [deriv, Lang, ihr, ihs]
  | cat r s ihr ihs =>
    intro w
    rw [lang_cat_cons, ← nullable_iff, ← ihs]
    have hcat : Lang m (.cat (deriv m c r) s) w ↔ ∃ u v, w = u ++ v ∧ Lang m r (c :: u) ∧ Lang m s v :=
      exists_congr fun u => exists_congr fun v => and_congr_right fun _ => and_congr_left fun _ => ihr u
    simp only [deriv]
    split
    · rename_i hn
      exact (or_congr hcat Iff.rfl).trans (by simp only [hn, true_and])
    · rename_i hn
      exact hcat.trans (by simp only [hn, Bool.false_eq_true, false_and, or_false])
  | shuffle r s ihr ihs =>
    intro w
    simp only [deriv, Lang, ihr, ihs, interleave_cons_iff]
    constructor
    · rintro (⟨u, v, h, h1, h2⟩ | ⟨u, v, h, h1, h2⟩)
      · exact ⟨c :: u, v, .inl ⟨u, rfl, h⟩, h1, h2⟩
      · exact ⟨u, c :: v, .inr ⟨v, rfl, h⟩, h1, h2⟩
    · rintro ⟨u, v, (⟨u', rfl, h⟩ | ⟨v', rfl, h⟩), h1, h2⟩
      · exact .inl ⟨u', v, h, h1, h2⟩
      · exact .inr ⟨u, v', h, h1, h2⟩
  | rep r lo hi ih =>
    intro w
    rw [lang_rep_cons, ← Bool.and_eq_true]
    simp only [deriv]
    split
    · rename_i hc
      simp only [hc, true_and]
      exact exists_congr fun u => exists_congr fun v => and_congr_right fun _ => and_congr_left fun _ => ih u
    · rename_i hc
      simp only [hc, Bool.false_eq_true, false_and, Lang]

theorem isEmpty_sound (r : Rx L) : isEmpty r = true → ∀ w, ¬ Lang m r w := by
  induction r with
  | empty => intro _ w h; exact h
  | eps => intro h; cases h
  | sym a => intro h; cases h
  | rep r lo hi ih => intro h; cases h
  | cat r s ihr ihs =>
    simp only [isEmpty, Bool.or_eq_true]
    rintro (h | h) w ⟨u, v, _, h1, h2⟩
    · exact ihr h u h1
    · exact ihs h v h2
  | alt r s ihr ihs =>
    simp only [isEmpty, Bool.and_eq_true]
    rintro ⟨h1, h2⟩ w (h | h)
    · exact ihr h1 w h
    · exact ihs h2 w h
  | shuffle r s ihr ihs =>
    simp only [isEmpty, Bool.or_eq_true]
    rintro (h | h) w ⟨u, v, _, h1, h2⟩
    · exact ihr h u h1
    · exact ihs h v h2

theorem prune_iff (r : Rx L) : ∀ w, Lang m (prune r) w ↔ Lang m r w := by
  induction r with
  | alt r s ihr ihs =>
    intro w
    simp only [prune]
    split
    · rename_i h
      exact (ihs w).trans (or_iff_right (isEmpty_sound m r h w)).symm
    · split
      · rename_i h
        exact (ihr w).trans (or_iff_left (isEmpty_sound m s h w)).symm
      · exact or_congr (ihr w) (ihs w)
  | cat r s ihr ihs =>
    intro w
    simp only [prune]
    split
    · rename_i h
      exact iff_of_false (fun h => h) (isEmpty_sound m (.cat r s) h w)
    · exact exists_congr fun u => exists_congr fun v => and_congr_right fun _ => and_congr_left fun _ => ihr u
  | shuffle r s ihr ihs =>
    intro w
    simp only [prune]
    split
    · rename_i h
      exact iff_of_false (fun h => h) (isEmpty_sound m (.shuffle r s) h w)
    · exact exists_congr fun u => exists_congr fun v => and_congr_right fun _ => and_congr (ihr u) (ihs v)
  | _ => intro w; exact Iff.rfl

theorem derivs_iff (w : List σ) : ∀ (r : Rx L) (v : List σ),
    Lang m (derivs m r w) v ↔ Lang m r (w ++ v) := by
  induction w with
  | nil => intro r v; simp [derivs]
  | cons c w ih =>
    intro r v
    simp only [derivs, List.cons_append]
    rw [ih, prune_iff, deriv_iff]

theorem accepts_iff (r : Rx L) (w : List σ) : accepts m r w = true ↔ Lang m r w := by
  unfold accepts
  rw [nullable_iff m, derivs_iff]
  simp

end XsVerif.Rx
