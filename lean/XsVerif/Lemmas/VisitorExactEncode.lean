/-
  C01/C05: the encoder's child loop and the validator's child loop agree whenever the
  validator reports no error — the converse of Props/C05Encode.lean `step_simulation`.
-/
import XsVerif.Props.C01
import XsVerif.Props.C05Encode

namespace XsVerif.CM
open XsVerif.Wildcard XsVerif.Props.C01 XsVerif.Props.C05

theorem step_simulation_conv (A : Arena) (oc : OC) (n root i : Nat) (q : QN) :
    ∀ (fuel : Nat) (L : LoopSt), L.broken = false → (childStep A oc n root i q fuel L).errors = L.errors →
      encStep A oc root i q fuel L = childStep A oc n root i q fuel L ∧
        (childStep A oc n root i q fuel L).broken = false := by
  intro fuel
  induction fuel with
  | zero => intro L _ h; exact absurd (List.append_right_eq_self.mp h) (List.cons_ne_nil _ _)
  | succ f ih =>
    intro L hb h
    cases hel : L.s.element with
    | none =>
      -- the model has ended: the validator always reports an error when not broken
      rw [childStep_ended A oc n root i q f hel, hb] at h
      split at h <;> exact absurd (List.append_right_eq_self.mp h) (List.cons_ne_nil _ _)
    | some e =>
      rcases hv : visitorMatchO A oc L.s q with ⟨_ | _, sm⟩
      · rw [childStep_unmatched A oc n root i q f hel hv] at h ⊢
        rw [encStep_unmatched A oc root i q f hel hv]
        cases herr : (advanceO A oc sm false).errs with
        | cons e t =>
          rw [herr] at h
          exact absurd (List.append_right_eq_self.mp h) (List.cons_ne_nil _ _)
        | nil =>
          rw [herr] at h
          rw [List.map_nil, List.append_nil]
          exact ih { L with s := (advanceO A oc sm false).st } hb h
      · rw [childStep_matched A oc n root i q f hel hv, encStep_matched A oc root i q f hel hv]
        exact ⟨rfl, hb⟩

theorem loop_simulation_conv (A : Arena) (oc : OC) (n root : Nat) (w : List QN)
    (h : (decLoop A oc n root w).errors = []) : encLoop A oc n root w = decLoop A oc n root w :=
  foldl_eq_of_silent (fun L => L.broken = false) (childStep_extends A oc n root _)
    (fun L x => step_simulation_conv A oc n root x.2 x.1 _ L) _ _ rfl h

end XsVerif.CM
