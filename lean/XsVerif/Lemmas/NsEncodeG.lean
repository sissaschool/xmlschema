/-
  C17 — the flagged encoder call pattern `encVisitG` with the F10 mechanism switched off: the same stack
  discipline as `encVisit` (Lemmas/NsEncode.lean), the own-tag check of JsonML never fires, and the encoder
  restores exactly the names the data denotes (`encodeDocG_spec`), with the F9 mechanism on (under the attribute
  guard of `ReadableG true`) or off (no guard at all).
-/
import XsVerif.Model.NsMapper
import XsVerif.Lemmas.NsMapper
import XsVerif.Lemmas.NsStack
import XsVerif.Lemmas.NsSpec
import XsVerif.Lemmas.NsEncode
namespace XsVerif.Props.C17
open XsVerif.NsMapper XsVerif.NsMapper.Map XsVerif.NsMapper.Stack

mutual
/-- The data is readable (read from scope `s`): every key denotes a name and an item that is not a mapping
    carries nothing.  With `guard9 = true` (the F9 mechanism is on) in addition an unprefixed attribute key occurs
    only where the element's type declares it unqualified (`sch`, looked up under the name the item's key
    denotes) or where the default namespace is unset. -/
def ReadableG (guard9 : Bool) (sch : EncSchema) (s : Scope) : Item → Prop
  | .node _ key isMap xmlns attrs ch =>
    (isMap = false → xmlns = [] ∧ attrs = [] ∧ ch = []) ∧
    readElem (s.bind xmlns) key ≠ none ∧
    (∀ k ∈ attrs, readAttr (s.bind xmlns) k ≠ none ∧
      (guard9 = true → ∀ l, k = .loc l →
        (∃ q, readElem (s.bind xmlns) key = some q ∧ sch.declared q = true ∧ sch.unq q l = true) ∨
        (s.bind xmlns) "" = none ∨ (s.bind xmlns) "" = some "")) ∧
    ReadableGList guard9 sch (s.bind xmlns) ch
def ReadableGList (guard9 : Bool) (sch : EncSchema) (s : Scope) : List Item → Prop
  | [] => True
  | i :: is => ReadableG guard9 sch s i ∧ ReadableGList guard9 sch s is
end

/-- projection of the flagged model's observations: items the converter refused are not in the produced tree -/
def encProjG (obs : List EncObs) : Names := (obs.filter (fun e => !e.dropped)).map encProj

theorem f10Rename_off {fl : EncFlags} (hf : fl.f10 = false) (wp : Bool) (pns : Map) (t : Unmapped) :
    f10Rename fl wp pns t = t := by
  simp [f10Rename, hf]

theorem encProjG_of_none_dropped (obs : List EncObs) (h : ∀ e ∈ obs, e.dropped = false) :
    encProjG obs = obs.map encProj := by
  unfold encProjG
  rw [List.filter_eq_self.mpr fun e he => by rw [h e he]; rfl]

theorem attrInTableG_true {fl : EncFlags} {sch : EncSchema} {q : QN} {l : String}
    (h : fl.f9 = false ∨ (sch.declared q = true ∧ sch.unq q l = true)) :
    attrInTableG fl sch (.name q) (.loc l) = true := by
  rcases h with h | ⟨h1, h2⟩
  · simp [attrInTableG, h]
  · simp [attrInTableG, h1, h2]

theorem attrs_read_of_readableG {fl : EncFlags} {sch : EncSchema} {ns : Map} {name : Option QN} {q : QN}
    (hq : name = some q) (attrs : List PName)
    (h : ∀ k ∈ attrs, readAttr ns.get k ≠ none ∧ (fl.f9 = true → ∀ l, k = .loc l →
      (∃ q', name = some q' ∧ sch.declared q' = true ∧ sch.unq q' l = true) ∨
      ns.get "" = none ∨ ns.get "" = some "")) :
    (attrs.map fun k => unmapQName ns [] (attrInTableG fl sch (.name q) k) k).map Unmapped.toOpt =
      attrs.map (readAttr ns.get) := by
  refine attrs_read attrs fun k hk => ⟨(h k hk).1, fun l e => ?_⟩
  subst e
  cases h9 : fl.f9 with
  | false => exact .inl (attrInTableG_true (.inl h9))
  | true =>
    rcases (h _ hk).2 h9 l rfl with ⟨q', hq', hd', hu'⟩ | h'
    · cases hq.symm.trans hq'
      exact .inl (attrInTableG_true (.inr ⟨hd', hu'⟩))
    · exact .inr h'

theorem encVisitG_map_eq (v : Variant) (mode : Mode) (fl : EncFlags) (sch : EncSchema) (L : Nat) (tag : Unmapped)
    (id : Nat) (key : PName) (xmlns : Xmlns) (attrs : List PName) (ch : List Item) (m : Mapper) :
    encVisitG v mode fl sch L tag (.node id key true xmlns attrs ch) m =
      if (fl.ownTag && unmapQName (setContext v mode m id L xmlns).m.ns [] false key != tag) = true then
        ((setContext v mode m id L xmlns).m,
          [{ id := id, level := L, ns := (setContext v mode m id L xmlns).m.ns,
             rev := (setContext v mode m id L xmlns).m.rev, tag := tag, attrs := [], dropped := true }])
      else
      ((encVisitListG v mode fl sch (L + 1) (setContext v mode m id L xmlns).m.ns (!tagDeclared sch tag) ch
          (setContext v mode m id L xmlns).m).1,
       { id := id, level := L, ns := (setContext v mode m id L xmlns).m.ns,
         rev := (setContext v mode m id L xmlns).m.rev, tag := tag,
         attrs := attrs.map fun k =>
           unmapQName (setContext v mode m id L xmlns).m.ns [] (attrInTableG fl sch tag k) k } ::
        (encVisitListG v mode fl sch (L + 1) (setContext v mode m id L xmlns).m.ns (!tagDeclared sch tag) ch
          (setContext v mode m id L xmlns).m).2) := rfl

theorem encVisitListG_cons_eq (v : Variant) (mode : Mode) (fl : EncFlags) (sch : EncSchema) (L : Nat) (pns : Map)
    (wp : Bool) (c : Item) (cs : List Item) (m : Mapper) :
    encVisitListG v mode fl sch L pns wp (c :: cs) m =
      ((encVisitListG v mode fl sch L pns wp cs
          (encVisitG v mode fl sch L
            (f10Rename fl wp pns (unmapQName pns (Item.xmlns c) false (Item.key c))) c m).1).1,
       (encVisitG v mode fl sch L
            (f10Rename fl wp pns (unmapQName pns (Item.xmlns c) false (Item.key c))) c m).2 ++
       (encVisitListG v mode fl sch L pns wp cs
          (encVisitG v mode fl sch L
            (f10Rename fl wp pns (unmapQName pns (Item.xmlns c) false (Item.key c))) c m).1).2) := rfl

/-- what `encVisitListG_spec` says of a list of children, for one item encoded under the tag its key denotes -/
def ItemSpecG (v : Variant) (fl : EncFlags) (sch : EncSchema) (item : Item) : Prop :=
  ItemDistinct item →
  ∀ (L : Nat) (tag : Unmapped) (m : Mapper) (base : List Ctx) (ns0 rev0 : Map) (seen : List Nat),
  Below L base → At L base ns0 rev0 seen m → Item.id item ∉ seen →
  ReadableG fl.f9 sch ns0.get item →
  (∃ q, readElem (Scope.bind ns0.get (Item.xmlns item)) (Item.key item) = some q ∧ tag = .name q) →
  At L base ns0 rev0 (Item.id item :: seen) (encVisitG v .stacked fl sch L tag item m).1 ∧
  (∀ e ∈ (encVisitG v .stacked fl sch L tag item m).2, e.dropped = false) ∧
  (encVisitG v .stacked fl sch L tag item m).2.map encProj = readItem ns0.get item

theorem encVisitListG_spec (v : Variant) (fl : EncFlags) (sch : EncSchema) (hf : fl.f10 = false) :
    ∀ (cs : List Item), ItemDistinctList cs → (cs.map Item.id).Nodup →
    ∀ (L : Nat) (wp : Bool) (m : Mapper) (base : List Ctx) (ns0 rev0 : Map) (seen : List Nat), Below L base →
    At L base ns0 rev0 seen m → (∀ c ∈ cs, Item.id c ∉ seen) →
    ReadableGList fl.f9 sch ns0.get cs →
    At L base ns0 rev0 ((cs.map Item.id).reverse ++ seen) (encVisitListG v .stacked fl sch L ns0 wp cs m).1 ∧
    (∀ e ∈ (encVisitListG v .stacked fl sch L ns0 wp cs m).2, e.dropped = false) ∧
    (encVisitListG v .stacked fl sch L ns0 wp cs m).2.map encProj = readItems ns0.get cs := by
  intro cs
  induction cs using Item.rec_1 (motive_1 := ItemSpecG v fl sch) with
  | node id key isMap xmlns attrs ch ih =>
    intro hd L tag m base ns0 rev0 seen hb hr hid hR ht
    obtain ⟨q, (hq : readElem (Scope.bind ns0.get xmlns) key = some q), rfl⟩ := ht
    cases isMap with
    | false =>
      obtain ⟨rfl, rfl, rfl⟩ := hR.1 rfl
      refine ⟨At_mono hr fun x hx => List.mem_cons_of_mem _ hx, fun e he => List.mem_singleton.mp he ▸ rfl, ?_⟩
      show [(id, some q, [])] = [(id, readElem ns0.get key, [])]
      rw [show readElem ns0.get key = some q from hq]
    | true =>
      have hget : (entered v ns0 rev0 base id L xmlns).ns.get = Scope.bind ns0.get xmlns := by
        rw [entered_ns, get_update_bind]
      -- the own-tag check of JsonML resolves the key to the very tag the parent resolved
      have hown : unmapQName (entered v ns0 rev0 base id L xmlns).ns [] false key = .name q :=
        unmap_eq_read (hget ▸ hq)
      rw [encVisitG_map_eq, enc_enter v id xmlns hb hr hid, hown, bne_self_eq_false, Bool.and_false,
        if_neg Bool.false_ne_true]
      obtain ⟨_, _, hattrs, hch⟩ := hR
      rw [← hget] at hch hattrs hq
      obtain ⟨hA, hD, hN⟩ := ih hd.2 hd.1 (L + 1) (!tagDeclared sch (.name q))
        (entered v ns0 rev0 base id L xmlns) _ _ _ [] (entered_stack_below v hb ns0 rev0 id xmlns) (At_init _ _)
        (fun _ _ h => nomatch h) hch
      refine ⟨enc_after v ns0 rev0 seen id xmlns _ hA, fun e he => ?_, ?_⟩
      · rcases List.mem_cons.mp he with e1 | e1
        · rw [e1]
        · exact hD e e1
      · rw [List.map_cons, hN]
        show (id, some q, List.map Unmapped.toOpt
          (attrs.map fun k => unmapQName _ [] (attrInTableG fl sch (.name q) k) k)) :: _ = _
        rw [attrs_read_of_readableG hq attrs hattrs, hget, ← hq, hget]
        rfl
  | nil => exact fun _ _ _ _ _ _ _ _ _ _ hr _ _ => ⟨hr, (fun _ h => nomatch h), rfl⟩
  | cons c cs ihc ihcs =>
    intro hd hn L wp m base ns0 rev0 seen hb hr hs hR
    obtain ⟨hn1, hn2⟩ := List.nodup_cons.mp hn
    rw [encVisitListG_cons_eq, f10Rename_off hf]
    have htag : ∃ q, readElem (Scope.bind ns0.get (Item.xmlns c)) (Item.key c) = some q ∧
        unmapQName ns0 (Item.xmlns c) false (Item.key c) = .name q := by
      have hkey : readElem (Scope.bind ns0.get (Item.xmlns c)) (Item.key c) ≠ none := by
        cases c; exact hR.1.2.1
      obtain ⟨q, hq⟩ := Option.ne_none_iff_exists'.mp hkey
      exact ⟨q, hq, child_tag_name hq⟩
    obtain ⟨hA1, hD1, hN1⟩ := ihc hd.1 L _ m base ns0 rev0 seen hb hr (hs c List.mem_cons_self) hR.1 htag
    obtain ⟨hA2, hD2, hN2⟩ := ihcs hd.2 hn2 L wp _ base ns0 rev0 (Item.id c :: seen) hb hA1
      (unseen_tail hn1 hs) hR.2
    refine ⟨?_, fun e he => ?_, ?_⟩
    · rw [List.map_cons, List.reverse_cons, List.append_assoc]; exact hA2
    · rcases List.mem_append.mp he with h | h
      · exact hD1 e h
      · exact hD2 e h
    · rw [List.map_append, hN1, hN2]; rfl

theorem encodeDocG_eq_list (v : Variant) (fl : EncFlags) (sch : EncSchema) (item : Item) (e0 : Mapper)
    (hf : fl.f10 = false) (h0 : e0.stack = []) (hr : ReadableG fl.f9 sch e0.ns.get item) (wp : Bool) :
    (encVisitListG v .stacked fl sch 0 e0.ns wp [item] e0).2 = (encodeDocG v .stacked fl sch item e0).2 := by
  cases item with
  | node id key isMap xmlns attrs ch =>
    rw [encVisitListG_cons_eq, f10Rename_off hf]
    dsimp only [encodeDocG, Item.xmlns, Item.key]
    rw [enc_root_ns v h0 id fun h => (hr.1 h).1, unmap_override]
    exact List.append_nil _

theorem encodeDocG_spec (v : Variant) (fl : EncFlags) (sch : EncSchema) (item : Item) (e0 : Mapper)
    (hf : fl.f10 = false) (h0 : e0.stack = []) (hd : ItemDistinct item)
    (hr : ReadableG fl.f9 sch e0.ns.get item) :
    (∀ e ∈ (encodeDocG v .stacked fl sch item e0).2, e.dropped = false) ∧
    (encodeDocG v .stacked fl sch item e0).2.map encProj = readItem e0.ns.get item := by
  obtain ⟨_, h2, h3⟩ := encVisitListG_spec v fl sch hf [item] ⟨hd, trivial⟩ (List.pairwise_singleton _ _)
    0 false e0 [] e0.ns e0.rev [] (fun _ h => nomatch h) (At_start h0) (fun _ _ h => nomatch h) ⟨hr, trivial⟩
  rw [encodeDocG_eq_list v fl sch item e0 hf h0 hr] at h2 h3
  exact ⟨h2, h3.trans (List.append_nil _)⟩

end XsVerif.Props.C17
