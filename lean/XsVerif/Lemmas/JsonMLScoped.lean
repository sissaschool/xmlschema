/-
  JsonML with namespace declarations below the root: the contract `ScopedOK` of the scoped recursion
  (Lemmas/Tree.lean).  A converted child is a JsonML list whose head string un-maps to the child's name *in the
  child's scope* — not the name as the parent would write it.
-/
import XsVerif.Lemmas.JsonML

namespace XsVerif.Conv.JsonML
open XsVerif.Conv

theorem encBodyK_xmlns {umK : J → String → String} {useNs f tag a x body hd its}
    (h : encBodyK umK useNs f tag a x body = .ok (hd, its)) : hd.xmlns = x := by
  unfold encBodyK at h
  split at h
  · cases h; rfl
  · split at h
    · cases h; rfl
    · obtain ⟨c, _, hc⟩ := bind_pure_ok h
      cases hc; rfl
  · obtain ⟨c, _, hc⟩ := bind_pure_ok h
    cases hc; rfl

theorem encK_xmlns {m : Mapper} {umK : J → String → String} {f nm v hd its}
    (h : encK m umK true f nm v = .ok (hd, its)) : hd.xmlns = xmlnsOfObj true v := by
  cases v with
  | list xs =>
    cases xs with
    | nil => cases h
    | cons e rest =>
      cases e with
      | atom kd s =>
        by_cases hkd : kd = "s"
        · subst hkd
          rw [encK_cons] at h
          split at h
          · cases h
          · exact encBodyK_xmlns h
        · simp [encK, hkd] at h
      | _ => cases h
  | _ => cases h

/-- what a converted child named `nm` looks like to an element whose scope is `sc`: a JsonML list whose head
    string denotes `nm` under the declarations in `sc` extended with the ones the child carries -/
def InvS (m : NsScope → Mapper) (sc : NsScope) (nm : String) (v : J) : Prop :=
  ∃ h rest, v = .list (.atom "s" h :: rest) ∧ (m (sc.push (xmlnsOf true rest))).um h = nm

theorem InvS.kidsK {m : NsScope → Mapper} {sc : NsScope} {its : List (Item J)}
    (hk : ∀ nm s v, Item.child nm s v ∈ its → InvS m sc nm v) :
    KidsK (fun e s => (m (sc.push (xmlnsOfObj true e))).um s) its := by
  intro nm s v hm
  obtain ⟨h, rest, rfl, hum⟩ := hk nm s v hm
  exact ⟨h, rest, rfl, hum⟩

theorem jsonml_scopedOK (m : NsScope → Mapper) :
    ScopedOK (sconv m) (InvS m) (fun sc f hd sh => WF1K (m sc) f hd sh)
      (fun {_} f hd its => norm1 true f hd its) Eq where
  rt := fun sc f hd its w hk =>
    ⟨_, level_roundtripK w.of_shape (InvS.kidsK hk), ItemsRel.refl_eq _⟩
  encR := fun _ _ _ _ _ h => h ▸ rfl
  inv := by
    intro sc f hd its w hk
    refine ⟨_, _, dec_eq _ true f hd its, ?_⟩
    rw [(split_rest (f := f) w.of_shape (InvS.kidsK hk) true).2]
    exact w.tag
  natural := norm1_natural true
  children := norm1_children true
  encXmlns := fun _ _ _ _ _ _ h => encK_xmlns h
  normXmlns := by
    intro f hd its
    cases hs : shift f hd <;> simp only [norm1, hs, Bool.false_eq_true, if_false, if_true]
  xmlnsR := fun _ _ h => h ▸ rfl

end XsVerif.Conv.JsonML
