/-
  C18 — the invariants of the three machines of Model/Threads.lean (build lock, memo, single-pair widening), each
  kept by every step and hence along every schedule.
-/
import XsVerif.Model.Threads

namespace XsVerif.Threads

@[simp] theorem upd_same {β : Type} (f : Nat → β) (t : Nat) (v : β) : upd f t v t = v := by simp [upd]
theorem upd_other {β : Type} (f : Nat → β) (t x : Nat) (v : β) (h : x ≠ t) : upd f t v x = f x := by
  simp [upd, h]

theorem forall_upd {β : Type} {P : Nat → β → Prop} {f : Nat → β} {t : Nat} {v : β}
    (hv : P t v) (h : ∀ x, x ≠ t → P x (f x)) (x : Nat) : P x (upd f t v x) := by
  by_cases hx : x = t
  · subst hx; rw [upd_same]; exact hv
  · rw [upd_other _ _ _ _ hx]; exact h x hx

theorem forall_mem_snoc {α : Type} {P : α → Prop} {l : List α} {a : α} (h : ∀ x, x ∈ l → P x) (ha : P a) :
    ∀ x, x ∈ l ++ [a] → P x :=
  List.forall_mem_append.2 ⟨h, List.forall_mem_singleton.2 ha⟩

theorem sched_inv {σ : Type} {step : Nat → σ → σ} {run : List Nat → σ → σ} {I : σ → Prop}
    (hnil : ∀ c, run [] c = c) (hcons : ∀ t ts c, run (t :: ts) c = run ts (step t c))
    (hstep : ∀ t c, I c → I (step t c)) (sched : List Nat) : ∀ c, I c → I (run sched c) := by
  induction sched with
  | nil => intro c h; rw [hnil]; exact h
  | cons t ts ih => intro c h; rw [hcons]; exact ih _ (hstep t c h)


theorem step_isSome (t : Nat) (c : Cfg) :
    (step t c).isSome = true ↔ (∀ ph, c.pc t ≠ .done ph) ∧ (c.pc t = .wantLock → c.lock = none) := by
  unfold step
  split <;> rename_i hp <;> rw [hp]
  · split <;> simp
  · split <;> simp [*]
  · split <;> simp
  all_goals simp

/-- What the position of thread `t` says about the shared fields. -/
def Loc (c : Cfg) (t : Nat) : PC → Prop
  | .start | .wantLock => c.lock ≠ some t
  | .locked => c.lock = some t ∧ (c.built = false → c.runs = 0)
  | .body _ => c.lock = some t ∧ c.built = false ∧ c.runs = 1
  | .setBuilt => c.lock = some t ∧ c.built = false ∧ c.runs = 1 ∧ c.maps = .complete
  | .post _ => c.lock = some t ∧ c.built = true
  | .done ph => c.lock ≠ some t ∧ ph = .complete ∧ c.built = true

/-- Invariant of the double-checked lock, over every interleaving. -/
structure BInv (c : Cfg) : Prop where
  ths : ∀ t, Loc c t (c.pc t)
  r2 : c.built = true → c.runs = 1 ∧ c.maps = .complete
  free : c.lock = none → c.built = false → c.runs = 0
  le : c.runs ≤ 1

theorem Loc.holder {c : Cfg} {t : Nat} {p : PC} (h : Loc c t p) (hr : p.inRegion = true) : c.lock = some t := by
  cases p with
  | locked | body | setBuilt | post => exact h.1
  | _ => cases hr

theorem Loc.other {c c' : Cfg} {x t : Nat} {p : PC} (hx : x ≠ t)
    (hl : c.lock = none ∨ c.lock = some t) (hl' : c'.lock = none ∨ c'.lock = some t)
    (hb : c.built = true → c'.built = true) (h : Loc c x p) : Loc c' x p := by
  have out : ∀ {l : Option Nat}, l = none ∨ l = some t → l ≠ some x := by
    rintro _ (rfl | rfl) e
    · cases e
    · exact hx (Option.some.inj e).symm
  cases p with
  | start | wantLock => exact out hl'
  | done ph => exact ⟨out hl', h.2.1, hb h.2.2⟩
  | locked | body | setBuilt | post => exact absurd h.1 (out hl)

theorem binv_init (b p : Nat) : BInv (init b p) :=
  ⟨fun _ => nofun, nofun, fun _ _ => rfl, Nat.zero_le _⟩

theorem binv_step (t : Nat) (c : Cfg) (h : BInv c) : BInv ((step t c).getD c) := by
  cases hs : step t c with
  | none => exact h
  | some c' =>
    show BInv c'
    have ht := h.ths t
    have same : ∀ x, x ≠ t → Loc c x (c.pc x) := fun x _ => h.ths x
    have held : c.lock = some t → ∀ c' : Cfg, c'.lock = none ∨ c'.lock = some t →
        (c.built = true → c'.built = true) → ∀ x, x ≠ t → Loc c' x (c.pc x) :=
      fun hl _ hl' hb x hx => (h.ths x).other hx (.inr hl) hl' hb
    unfold step at hs
    split at hs <;> rename_i hpc <;> rw [hpc] at ht
    · -- start
      split at hs <;> cases hs
      · rename_i hb
        exact ⟨forall_upd ⟨ht, (h.r2 hb).2, hb⟩ same, h.r2, h.free, h.le⟩
      · exact ⟨forall_upd ht same, h.r2, h.free, h.le⟩
    · -- wantLock
      split at hs <;> cases hs
      rename_i hl
      exact ⟨forall_upd ⟨rfl, h.free hl⟩ (fun x hx => (h.ths x).other hx (.inl hl) (.inr rfl) id),
        h.r2, nofun, h.le⟩
    · -- locked
      split at hs <;> cases hs
      · rename_i hb
        exact ⟨forall_upd ⟨nofun, (h.r2 hb).2, hb⟩ (held ht.1 _ (.inl rfl) id),
          h.r2, fun _ hf => (nomatch hb.symm.trans hf), h.le⟩
      · rename_i hb
        have hb : c.built = false := by simpa using hb
        have hr : c.runs + 1 = 1 := by rw [ht.2 hb]
        exact ⟨forall_upd ⟨ht.1, hb, hr⟩ (held ht.1 _ (.inr ht.1) id),
          fun hb' => (nomatch hb.symm.trans hb'), fun hl => (nomatch ht.1.symm.trans hl), Nat.le_of_eq hr⟩
    · -- body (k + 1)
      cases hs
      exact ⟨forall_upd ht (held ht.1 _ (.inr ht.1) id),
        fun hb => (nomatch ht.2.1.symm.trans hb), fun hl => (nomatch ht.1.symm.trans hl), h.le⟩
    · -- body 0
      cases hs
      exact ⟨forall_upd ⟨ht.1, ht.2.1, ht.2.2, rfl⟩ (held ht.1 _ (.inr ht.1) id),
        fun hb => (nomatch ht.2.1.symm.trans hb), fun hl => (nomatch ht.1.symm.trans hl), h.le⟩
    · -- setBuilt
      cases hs
      exact ⟨forall_upd ⟨ht.1, rfl⟩ (held ht.1 _ (.inr ht.1) fun _ => rfl),
        fun _ => ⟨ht.2.2.1, ht.2.2.2⟩, fun hl => (nomatch ht.1.symm.trans hl), h.le⟩
    · -- post (k + 1)
      cases hs
      exact ⟨forall_upd ht same, h.r2, h.free, h.le⟩
    · -- post 0
      cases hs
      exact ⟨forall_upd ⟨nofun, (h.r2 ht.2).2, ht.2⟩ (held ht.1 _ (.inl rfl) id),
        h.r2, fun _ hf => (nomatch ht.2.symm.trans hf), h.le⟩
    · cases hs

theorem binv_exec (s : List Nat) : ∀ c, BInv c → BInv (exec s c) :=
  sched_inv (fun _ => rfl) (fun _ _ _ => rfl) binv_step s

theorem binv_reach (bodyLen postLen : Nat) (sched : List Nat) : BInv (exec sched (init bodyLen postLen)) :=
  binv_exec sched _ (binv_init bodyLen postLen)


def Sound {K V : Type} (f : K → V) (m : K → Option V) : Prop := ∀ k v, m k = some v → v = f k

theorem Sound.store {K V : Type} [DecidableEq K] {f : K → V} {m : K → Option V} (h : Sound f m) (k : K) :
    Sound f (fun x => if x = k then some (f k) else m x) := by
  intro x v hx
  simp only at hx
  split at hx
  · rename_i he; rw [he]; exact (Option.some.inj hx).symm
  · exact h x v hx

/-- per-thread invariant of a memoised call of `f` with key `key t` -/
def MOk {K V : Type} (f : K → V) (key : Nat → K) (t : Nat) : MPC K V → Prop
  | .call k => k = key t
  | .compute k => k = key t
  | .store k v => k = key t ∧ v = f k
  | .ret v => v = f (key t)

structure MInv {K V : Type} (f : K → V) (key : Nat → K) (c : MCfg K V) : Prop where
  memo : Sound f c.memo
  pcs : ∀ t, MOk f key t (c.pc t)

theorem minv_step {K V : Type} [DecidableEq K] (f : K → V) (key : Nat → K) (t : Nat) (c : MCfg K V)
    (h : MInv f key c) : MInv f key (mstep f t c) := by
  obtain ⟨hm, hp⟩ := h
  have ht := hp t
  have same : ∀ x, x ≠ t → MOk f key x (c.pc x) := fun x _ => hp x
  unfold mstep
  split <;> rename_i hpc <;> rw [hpc] at ht
  · split
    · rename_i v hv
      exact ⟨hm, forall_upd ((hm _ v hv).trans (congrArg f ht)) same⟩
    · exact ⟨hm, forall_upd ht same⟩
  · exact ⟨hm, forall_upd ⟨ht, rfl⟩ same⟩
  · obtain ⟨hk, rfl⟩ := ht
    exact ⟨hm.store _, forall_upd (congrArg f hk) same⟩
  · exact ⟨hm, hp⟩

theorem minv_exec {K V : Type} [DecidableEq K] (f : K → V) (key : Nat → K) (s : List Nat) :
    ∀ c, MInv f key c → MInv f key (mexec f s c) :=
  sched_inv (fun _ => rfl) (fun _ _ _ => rfl) (minv_step f key) s


/-- `sel` is the shared `selBy` flag; `pubFirst` exists only in `Mode.old`, and `curCall` never stops between
    `setElems` and `addSel` -/
def WOk (m : Mode) (sel : Bool) : WPC → Prop
  | .pub | .child => sel = true
  | .fin b => b = true
  | .pubFirst => False
  | .addSel => m ≠ .curCall
  | _ => True

structure WInv (m : Mode) (c : WCfg) : Prop where
  pubSel : c.published = true → c.selBy = true
  elemsSel : m = .curCall → c.inElems = true → c.selBy = true
  pcs : ∀ t, WOk m c.selBy (c.pc t)

theorem WOk.set {m : Mode} {sel : Bool} {p : WPC} (h : WOk m sel p) : WOk m true p := by
  cases p <;> first | rfl | exact h

theorem winv_step (m : Mode) (hm : m = .curCall ∨ m = .patched) (t : Nat) (c : WCfg) (h : WInv m c) :
    WInv m (wstep m t c) := by
  obtain ⟨h1, h2, h4⟩ := h
  have ht := h4 t
  have same : ∀ x, x ≠ t → WOk m c.selBy (c.pc x) := fun x _ => h4 x
  have set : ∀ x, x ≠ t → WOk m true (c.pc x) := fun x _ => (h4 x).set
  have hold : m ≠ .old := by rcases hm with rfl | rfl <;> decide
  unfold wstep
  split <;> rename_i hpc <;> rw [hpc] at ht
  · -- chk
    split
    · rename_i hpub
      exact ⟨h1, h2, forall_upd (h1 hpub) same⟩
    · exact ⟨h1, h2, forall_upd trivial same⟩
  · -- pubFirst
    exact ht.elim
  · -- rdElems
    split
    · rename_i hin
      refine ⟨h1, h2, forall_upd ?_ same⟩
      by_cases hp : m = .patched
      · rw [if_pos hp]; exact fun hc => (nomatch hp.symm.trans hc)
      · rw [if_neg hp]; exact h2 (hm.resolve_right hp) hin
    · exact ⟨h1, h2, forall_upd trivial same⟩
  · -- setElems
    split
    · exact ⟨fun _ => rfl, fun _ _ => rfl, forall_upd rfl set⟩
    · rename_i hc
      exact ⟨h1, fun h => absurd h hc, forall_upd hc same⟩
  · -- addSel
    refine ⟨fun _ => rfl, fun _ _ => rfl, forall_upd ?_ set⟩
    rw [if_neg hold]; rfl
  · -- pub
    exact ⟨fun _ => ht, h2, forall_upd ht same⟩
  · -- child
    exact ⟨h1, h2, forall_upd ht same⟩
  · exact ⟨h1, h2, h4⟩

theorem winv_exec (m : Mode) (hm : m = .curCall ∨ m = .patched) (s : List Nat) :
    ∀ c, WInv m c → WInv m (wexec m s c) :=
  sched_inv (fun _ => rfl) (fun _ _ _ => rfl) (winv_step m hm) s

theorem winv_init (m : Mode) : WInv m winit :=
  ⟨nofun, fun _ => nofun, fun _ => trivial⟩

end XsVerif.Threads
