import XsVerif.Model.Localise
/-
  Lemmas on the error-location model of Model/Localise.lean, for the theorems of Props/C19.lean: the errors after an
  edit at a governed position, what stays silent when the choice of declarations is local (`GovLocal`), positions of
  errors, and the states of a lazy resource as prefix cuts of the document.
-/
namespace XsVerif.Localise
variable {D E : Type}

section
variable {v : Val D E} {d d' dp : D} {tg : String} {a : Attrs} {tx : String} {ns : List String}
  {cs : List Doc} {c c' sub t : Doc} {i j : Nat} {p : List Nat} {l : List (Located E)} {e : Located E}

theorem below_nil (l : List (Located E)) : below [] l = l := by
  simp [below]

theorem under_below (j : Nat) (p : List Nat) (l : List (Located E)) :
    under j (below p l) = below (j :: p) l := by
  simp [under, below]

theorem mem_below : e ∈ below p l ↔ ∃ e0 ∈ l, (p ++ e0.1, e0.2) = e := List.mem_map

theorem exists_mem_below (h : ∃ e ∈ l, e.1 = []) : ∃ e ∈ below p l, e.1 = p := by
  obtain ⟨e, he, h0⟩ := h
  exact ⟨_, mem_below.mpr ⟨e, he, rfl⟩, by rw [h0, List.append_nil]⟩

theorem mem_here {l : List E} (he : e ∈ here l) : e.1 = [] := by
  obtain ⟨_, _, rfl⟩ := List.mem_map.mp he
  rfl

theorem errs_node : errs v d (.node tg a tx cs) =
      here (v.pre d tg a tx (names cs)) ++ errsKids v d a (names cs) 0 cs ++ here (v.post d tg a tx (names cs)) := by
  rw [errs]

theorem errsKids_eq_flatMap : errsKids v d a ns j cs =
    (cs.zipIdx j).flatMap fun ck => match v.gov d a ns ck.2 with
      | some d' => under ck.2 (errs v d' ck.1)
      | none => [] := by
  induction cs generalizing j with
  | nil => rfl
  | cons c cs ih =>
    rw [errsKids, ih, List.zipIdx_cons, List.flatMap_cons]
    rfl

theorem errsKids_append (l r : List Doc) :
    errsKids v d a ns j (l ++ r) = errsKids v d a ns j l ++ errsKids v d a ns (j + l.length) r := by
  rw [errsKids_eq_flatMap, errsKids_eq_flatMap, errsKids_eq_flatMap, List.zipIdx_append, List.flatMap_append]

theorem errsKids_congr_gov {a' : Attrs} (h : ∀ k, v.gov d a' ns k = v.gov d a ns k) :
    errsKids v d a' ns j cs = errsKids v d a ns j cs := by
  simp only [errsKids_eq_flatMap, h]

theorem mem_errsKids : e ∈ errsKids v d a ns j cs ↔
    ∃ i c d' e0, cs[i]? = some c ∧ v.gov d a ns (j + i) = some d' ∧ e0 ∈ errs v d' c ∧
      e = ((j + i) :: e0.1, e0.2) := by
  rw [errsKids_eq_flatMap, List.mem_flatMap]
  constructor
  · rintro ⟨⟨c, k⟩, hck, he⟩
    obtain ⟨hle, hc⟩ := List.mk_mem_zipIdx_iff_le_and_getElem?_sub.mp hck
    obtain ⟨i, rfl⟩ := Nat.exists_eq_add_of_le hle
    rw [Nat.add_sub_cancel_left] at hc
    cases hg : v.gov d a ns (j + i) with
    | none => rw [hg] at he; cases he
    | some d' =>
      rw [hg] at he
      obtain ⟨e0, he0, rfl⟩ := List.mem_map.mp he
      exact ⟨i, c, d', e0, hc, hg, he0, rfl⟩
  · rintro ⟨i, c, d', e0, hc, hg, he0, rfl⟩
    refine ⟨(c, j + i), List.mk_add_mem_zipIdx_iff_getElem?.mpr hc, ?_⟩
    show _ ∈ match v.gov d a ns (j + i) with | some d' => _ | none => _
    rw [hg]
    exact List.mem_map.mpr ⟨e0, he0, rfl⟩

theorem errsKids_nil_get (h : errsKids v d a ns j cs = []) (hc : cs[i]? = some c)
    (hg : v.gov d a ns (j + i) = some d') : errs v d' c = [] := by
  cases he : errs v d' c with
  | nil => rfl
  | cons e0 _ =>
    exact absurd h (List.ne_nil_of_mem (mem_errsKids.mpr ⟨i, c, d', e0, hc, hg, he ▸ List.mem_cons_self, rfl⟩))

theorem errsKids_set (c' : Doc) (h : errsKids v d a ns j cs = []) (hc : cs[i]? = some c)
    (hg : v.gov d a ns (j + i) = some d') :
    errsKids v d a ns j (cs.set i c') = under (j + i) (errs v d' c') := by
  induction cs generalizing j i with
  | nil => cases hc
  | cons x xs ih =>
    rw [errsKids, List.append_eq_nil_iff] at h
    cases i with
    | zero =>
      rw [Nat.add_zero] at hg ⊢
      rw [List.set_cons_zero, errsKids, hg, h.2, List.append_nil]
    | succ i =>
      rw [← Nat.add_assoc, Nat.add_right_comm] at hg ⊢
      rw [List.set_cons_succ, errsKids, h.1, List.nil_append, ih h.2 hc hg]

theorem names_get (hc : cs[i]? = some c) : (names cs)[i]? = some c.tag := by
  rw [names, List.getElem?_map, hc]
  rfl

theorem names_set (hc : cs[i]? = some c) (ht : c'.tag = c.tag) : names (cs.set i c') = names cs := by
  obtain ⟨h, rfl⟩ := List.getElem?_eq_some_iff.mp hc
  show (cs.set i c').map Doc.tag = cs.map Doc.tag
  rw [List.map_set, ht, ← List.getElem_map Doc.tag, List.set_getElem_self]
  rwa [List.length_map]

theorem kids_valid (h : errs v d (.node tg a tx cs) = []) : errsKids v d a (names cs) 0 cs = [] := by
  rw [errs_node, List.append_eq_nil_iff, List.append_eq_nil_iff] at h
  exact h.1.2

theorem reach_cons {is : List Nat} {r : D × Doc} (hr : reach v d (.node tg a tx cs) (i :: is) = some r) :
    ∃ c d', cs[i]? = some c ∧ v.gov d a (names cs) i = some d' ∧ reach v d' c is = some r := by
  rw [reach] at hr
  split at hr
  · exact ⟨_, _, ‹_›, ‹_›, hr⟩
  · cases hr

theorem editAt_tag {f : Doc → Doc} (hr : reach v d t p = some (dp, sub)) (ht : (f sub).tag = sub.tag) :
    (editAt f t p).tag = t.tag := by
  cases p with
  | nil => cases hr; exact ht
  | cons i is => cases t; rfl

/-- **The core of locality**: editing the subtree at a governed position of a document without errors (keeping
    the tag of its root) yields exactly the errors of the edited subtree under its governing declaration, moved
    below that position. -/
theorem errs_editAt (f : Doc → Doc) (hv : errs v d t = []) (hr : reach v d t p = some (dp, sub))
    (ht : (f sub).tag = sub.tag) : errs v d (editAt f t p) = below p (errs v dp (f sub)) := by
  induction p generalizing d t with
  | nil => cases hr; exact (below_nil _).symm
  | cons i is ih =>
    obtain ⟨tg, a, tx, cs⟩ := t
    obtain ⟨c, d', hc, hg, hr⟩ := reach_cons hr
    have hk := kids_valid hv
    rw [← Nat.zero_add i] at hg
    rw [errs_node, hk, List.append_nil, List.append_eq_nil_iff] at hv
    rw [editAt, hc, errs_node, names_set hc (editAt_tag hr ht), hv.1, hv.2, errsKids_set _ hk hc hg,
      ih (errsKids_nil_get hk hc hg) hr, under_below, Nat.zero_add, List.nil_append, List.append_nil]

theorem reach_valid (hv : errs v d t = []) (hr : reach v d t p = some (dp, sub)) : errs v dp sub = [] := by
  induction p generalizing d t with
  | nil => cases hr; exact hv
  | cons i is ih =>
    obtain ⟨tg, a, tx, cs⟩ := t
    obtain ⟨c, d', hc, hg, hr⟩ := reach_cons hr
    rw [← Nat.zero_add i] at hg
    exact ih (errsKids_nil_get (kids_valid hv) hc hg) hr

theorem own_located (h : own v d tg a tx (names cs) ≠ []) : ∃ e ∈ errs v d (.node tg a tx cs), e.1 = [] := by
  obtain ⟨x, hx⟩ := List.exists_mem_of_ne_nil _ h
  refine ⟨([], x), ?_, rfl⟩
  rw [errs_node, List.mem_append, List.mem_append]
  rcases List.mem_append.mp hx with hx | hx
  · exact .inl (.inl (List.mem_map.mpr ⟨x, hx, rfl⟩))
  · exact .inr (List.mem_map.mpr ⟨x, hx, rfl⟩)

end

/-- the declaration of a child depends only on the parent's declaration, the parent's attributes and the
    child's own name — not on its position or on its siblings (the modelling assumption behind clause (c)) -/
def GovLocal (v : Val D E) : Prop :=
  ∀ d a (ns ns' : List String) (j j' : Nat) (x : String),
    ns[j]? = some x → ns'[j']? = some x → v.gov d a ns j = v.gov d a ns' j'

section
variable {v : Val D E} (hl : GovLocal v) {d d' : D} {tg : String} {a : Attrs} {tx : String} {cs : List Doc}
include hl

theorem former_child_silent (hk : errsKids v d a (names cs) 0 cs = []) {x : Doc} (hx : x ∈ cs)
    {ns' : List String} {i : Nat} (hn : ns'[i]? = some x.tag) (hg : v.gov d a ns' i = some d') :
    errs v d' x = [] := by
  obtain ⟨k, hk0⟩ := List.getElem?_of_mem hx
  refine errsKids_nil_get hk hk0 ?_
  rw [Nat.zero_add, hl d a (names cs) ns' k i x.tag (names_get hk0) hn]
  exact hg

/-- when the children of an element validated without errors are replaced, every error is located at the element
    or below a child that was not one of its children before -/
theorem errs_newKids (hsub : errs v d (.node tg a tx cs) = []) (new : List Doc) {e : Located E}
    (he : e ∈ errs v d (.node tg a tx new)) :
    e.1 = [] ∨ ∃ i x rest, new[i]? = some x ∧ x ∉ cs ∧ e.1 = i :: rest := by
  rw [errs_node, List.mem_append, List.mem_append] at he
  rcases he with (he | he) | he
  · exact .inl (mem_here he)
  · obtain ⟨i, x, d', e0, hx, hg, he0, rfl⟩ := mem_errsKids.mp he
    rw [Nat.zero_add] at hg ⊢
    refine .inr ⟨i, x, e0.1, hx, fun hmem => ?_, rfl⟩
    rw [former_child_silent hl (kids_valid hsub) hmem (names_get hx) hg] at he0
    cases he0
  · exact .inl (mem_here he)

end

theorem near_iff {p e : List Nat} : near p e = true ↔ e = p ∨ e = p.dropLast := by
  rw [near, Bool.or_eq_true, beq_iff_eq, beq_iff_eq]

theorem near_self {p e : List Nat} (h : e = p) : near p e = true :=
  near_iff.mpr (.inl h)

theorem near_parent {q e : List Nat} (i : Nat) (h : e = q) : near (q ++ [i]) e = true :=
  near_iff.mpr (.inr (h.trans List.dropLast_concat.symm))

theorem inZone_of_prefix {p e : List Nat} (h : p <+: e) : inZone p e = true := by
  rw [inZone, List.isPrefixOf_iff_prefix.mpr h, Bool.or_true]

theorem inZone_self {p e : List Nat} (h : e = p) : inZone p e = true :=
  inZone_of_prefix ⟨[], by rw [h, List.append_nil]⟩

theorem inZone_parent {q e : List Nat} (i : Nat) (h : e = q) : inZone (q ++ [i]) e = true := by
  rw [inZone, List.isPrefixOf_iff_prefix.mpr ⟨[i], by rw [h]⟩, Bool.true_or]

/-- a position of the document (every index within the children on the way down) -/
def IsPos : Doc → List Nat → Prop
  | _, [] => True
  | .node _ _ _ cs, i :: is => ∃ c, cs[i]? = some c ∧ IsPos c is

theorem errsKids_pos (v : Val D E) (d : D) (a : Attrs) (ns : List String) (cs : List Doc) (j : Nat)
    (ih : ∀ c ∈ cs, ∀ d' e, e ∈ errs v d' c → IsPos c e.1) (e : Located E)
    (he : e ∈ errsKids v d a ns j cs) : ∃ i c rest, cs[i]? = some c ∧ e.1 = (j + i) :: rest ∧ IsPos c rest := by
  obtain ⟨i, c, d', e0, hc, _, he0, rfl⟩ := mem_errsKids.mp he
  exact ⟨i, c, e0.1, hc, rfl, ih c (List.mem_of_getElem? hc) d' e0 he0⟩

theorem errs_pos (v : Val D E) (t : Doc) : ∀ (d : D) (e : Located E), e ∈ errs v d t → IsPos t e.1 := by
  refine Doc.rec (motive_1 := fun t => ∀ d e, e ∈ errs v d t → IsPos t e.1)
    (motive_2 := fun cs => ∀ c ∈ cs, ∀ d e, e ∈ errs v d c → IsPos c e.1) ?_ ?_ ?_ t
  · intro tg a tx cs ih d e he
    rw [errs_node, List.mem_append, List.mem_append] at he
    rcases he with (he | he) | he
    · rw [mem_here he]; trivial
    · obtain ⟨i, c, rest, hc, hp, hpos⟩ := errsKids_pos v d a (names cs) cs 0 ih e he
      rw [hp, Nat.zero_add]
      exact ⟨c, hc, hpos⟩
    · rw [mem_here he]; trivial
  · intro c hc
    cases hc
  · intro c cs ihc ihcs x hx
    rcases List.mem_cons.mp hx with rfl | hx
    · exact ihc
    · exact ihcs x hx

theorem errsKids_pos' (v : Val D E) : ∀ (cs : List Doc) (d : D) (a : Attrs) (ns : List String) (j : Nat)
    (e : Located E), e ∈ errsKids v d a ns j cs →
    ∃ i c rest, cs[i]? = some c ∧ e.1 = (j + i) :: rest ∧ IsPos c rest :=
  fun cs d a ns j => errsKids_pos v d a ns cs j fun c _ => errs_pos v c

open XsVerif.Paths

theorem pre_node {tg' tg : String} {cs' cs : List T} :
    pre (.node tg' cs') (.node tg cs) = true ↔ tg' = tg ∧ preF cs' cs = true := by
  rw [pre, Bool.and_eq_true, beq_iff_eq]

theorem preF_cons {c' c : T} {cs' cs : List T} :
    preF (c' :: cs') (c :: cs) = true ↔ pre c' c = true ∧ preF cs' cs = true := by
  rw [preF, Bool.and_eq_true]

theorem pre_tag {t' t : T} (h : pre t' t = true) : t'.tag = t.tag := by
  cases t'; cases t; exact (pre_node.mp h).1

theorem preF_nil (cs : List T) : preF [] cs = true := by rw [preF]

theorem preF_cons_left {c' : T} {cs' l : List T} (h : preF (c' :: cs') l = true) :
    ∃ c cs, l = c :: cs ∧ pre c' c = true ∧ preF cs' cs = true := by
  cases l with
  | nil => rw [preF] at h; cases h
  | cons c cs => exact ⟨c, cs, rfl, preF_cons.mp h⟩

mutual
theorem pre_refl : ∀ t : T, pre t t = true
  | .node _ cs => pre_node.mpr ⟨rfl, preF_refl cs⟩
theorem preF_refl : ∀ cs : List T, preF cs cs = true
  | [] => preF_nil _
  | c :: cs => preF_cons.mpr ⟨pre_refl c, preF_refl cs⟩
end

mutual
theorem pre_trans : ∀ (a b c : T), pre a b = true → pre b c = true → pre a c = true
  | .node _ ca, .node _ cb, .node _ cc, h1, h2 =>
    pre_node.mpr ⟨(pre_node.mp h1).1.trans (pre_node.mp h2).1,
      preF_trans ca cb cc (pre_node.mp h1).2 (pre_node.mp h2).2⟩
theorem preF_trans : ∀ (a b c : List T), preF a b = true → preF b c = true → preF a c = true
  | [], _, _, _, _ => preF_nil _
  | x :: xs, _, _, h1, h2 => by
    obtain ⟨y, ys, rfl, hy, hys⟩ := preF_cons_left h1
    obtain ⟨z, zs, rfl, hz, hzs⟩ := preF_cons_left h2
    exact preF_cons.mpr ⟨pre_trans x y z hy hz, preF_trans xs ys zs hys hzs⟩
end

mutual
theorem started_pre : ∀ (t : T) (n : Nat) (t' : T) (m : Nat), started n t = (some t', m) → pre t' t = true
  | .node tg cs, 0, t', m, h => by cases h
  | .node tg cs, n + 1, t', m, h => by
    cases h
    exact pre_node.mpr ⟨rfl, startedF_pre cs n⟩
theorem startedF_pre : ∀ (cs : List T) (n : Nat), preF (startedF n cs).1 cs = true
  | [], _ => preF_nil _
  | c :: cs, n => by
    rw [startedF]
    split
    · exact preF_nil _
    · rename_i c' m hs
      exact preF_cons.mpr ⟨started_pre c n c' m hs, startedF_pre cs m⟩
end

mutual
theorem cleared_pre : ∀ (t : T) (k done : Nat), pre (cleared k done t).1 t = true
  | .node tg cs, 0, done => by
    rw [cleared]
    split
    · exact pre_refl _
    · exact pre_node.mpr ⟨rfl, preF_nil cs⟩
  | .node tg cs, k + 1, done => pre_node.mpr ⟨rfl, clearedF_pre cs k done⟩
theorem clearedF_pre : ∀ (cs : List T) (k done : Nat), preF (clearedF k done cs).1 cs = true
  | [], _, _ => preF_nil _
  | c :: cs, k, done => preF_cons.mpr ⟨cleared_pre c k done, clearedF_pre cs k _⟩
end

theorem lazyState_pre (k done n : Nat) (t t' : T) (h : lazyState k done n t = some t') : pre t' t = true :=
  pre_trans _ _ _ (started_pre _ n t' _ (Prod.ext h rfl)) (cleared_pre t k done)

theorem idxOf_preF (name : String) {cs' cs : List T} (h : preF cs' cs = true) (k : Nat) :
    ∃ C, idxOf name cs k = idxOf name cs' k ++ C := by
  induction cs' generalizing cs k with
  | nil => exact ⟨_, rfl⟩
  | cons x xs ih =>
    obtain ⟨y, ys, rfl, hy, hys⟩ := preF_cons_left h
    obtain ⟨C, hC⟩ := ih hys (k + 1)
    rw [idxOf, idxOf, hC, pre_tag hy]
    split
    · exact ⟨C, rfl⟩
    · exact ⟨C, rfl⟩

theorem preF_get {cs' cs : List T} {i : Nat} {c' : T} (h : preF cs' cs = true) (hc : cs'[i]? = some c') :
    ∃ c, cs[i]? = some c ∧ pre c' c = true := by
  induction cs' generalizing cs i with
  | nil => cases hc
  | cons x xs ih =>
    obtain ⟨y, ys, rfl, hy, hys⟩ := preF_cons_left h
    cases i with
    | zero => cases hc; exact ⟨y, rfl, hy⟩
    | succ i => exact ih (cs := ys) hys hc

end XsVerif.Localise
