import XsVerif.Model.Datatypes
import XsVerif.Model.DatatypesDate
import XsVerif.Model.DatatypesEnc
import XsVerif.Lemmas.Datatypes
import XsVerif.Lemmas.DatatypesDec
import XsVerif.Lemmas.DatatypesDateLex
namespace XsVerif.Datatypes

/-
  C02, xs:date: the text written by `str(Date)` (`dateStr`) for a decoded xs:date decodes
  (`parseDt .date`) to the same value, on the years where `iso_year` undoes the year shift.
  Core Lean only.
-/

/-- years for which `str(Date)` is judged: in XSD 1.1 years below -9999 are written without undoing the
    year shift (finding C02-F10) -/
def DateRtJudged (v11 : Bool) (y : Int) : Prop := ¬ (v11 = true ∧ y < -9999)

instance (v11 : Bool) (y : Int) : Decidable (DateRtJudged v11 y) := by
  unfold DateRtJudged; infer_instance

/-! ## `'{:0w}'.format(n)` -/

theorem natDigits_len_le (w n : Nat) (hw : 0 < w) (h : n < 10 ^ w) : (natDigits n).length ≤ w := by
  by_cases h0 : n = 0
  · subst h0; rw [natDigits_zero]; simp only [List.length_cons, List.length_nil]; omega
  · exact (IntDigits_le_iff (natDigits_intDigits n (by omega)) w).mpr h

theorem padNat_spec (w n : Nat) (hw : 0 < w) (h : n < 10 ^ w) :
    (padNat w n).length = w ∧ (∀ c ∈ padNat w n, isDig c = true) ∧ posVal (padNat w n) = n := by
  have hl := natDigits_len_le w n hw h
  obtain ⟨hv, -, hd⟩ := natDigits_spec n
  simp only [padNat]
  obtain ⟨z1, z2⟩ := zeroPad_spec (w - (natDigits n).length) _ hd
  exact ⟨by rw [List.length_append, List.length_replicate, Nat.sub_add_cancel hl], z1, z2.trans hv⟩

/-- `'{:02}'.format(n)` for n ≤ 99: two digits -/
theorem padNat2 (n : Nat) (h : n ≤ 99) :
    ∃ a b, padNat 2 n = [a, b] ∧ isDig a = true ∧ isDig b = true ∧ digVal a * 10 + digVal b = n := by
  obtain ⟨h1, h2, h3⟩ := padNat_spec 2 n (by omega) (by omega)
  generalize padNat 2 n = l at h1 h2 h3
  rcases l with _ | ⟨a, _ | ⟨b, _ | ⟨c, t⟩⟩⟩
  · simp at h1
  · simp at h1
  · refine ⟨a, b, rfl, h2 a (by simp), h2 b (by simp), ?_⟩
    simpa [posVal] using h3
  · simp at h1

theorem offset_split (n : Nat) (h : n ≤ 840) :
    ((n / 60 ≤ 13 ∧ n % 60 ≤ 59) ∨ (n / 60 = 14 ∧ n % 60 = 0)) ∧ n / 60 * 60 + n % 60 = n ∧
    n / 60 ≤ 99 ∧ n % 60 ≤ 99 := by
  omega

theorem tzStr_roundtrip (z : Int) (hz : z.natAbs ≤ 840) : parseTz (tzStr (some z)) = some (some z) := by
  by_cases h0 : z = 0
  · subst h0; rfl
  · obtain ⟨hr, hv, b1, b2⟩ := offset_split _ hz
    obtain ⟨a, b, e1, ha, hb, hab⟩ := padNat2 (z.natAbs / 60) b1
    obtain ⟨c, d, e2, hc, hd, hcd⟩ := padNat2 (z.natAbs % 60) b2
    have hs : tzStr (some z) = [if z < 0 then '-' else '+', a, b, ':', c, d] := by
      simp only [tzStr, beq_iff_eq, h0, if_false, e1, e2, List.cons_append, List.nil_append]
    rw [hs]
    refine (parseTz_iff _ _).mpr (.inr (.inr ⟨_, a, b, c, d, rfl, ?_, ha, hb, hc, hd, ?_, ?_⟩))
    · split <;> simp
    · rw [hab, hcd]; exact hr
    · rw [hab, hcd, hv]
      by_cases hneg : z < 0
      · rw [if_pos hneg, if_pos rfl, Int.ofNat_natAbs_of_nonpos (Int.le_of_lt hneg), Int.neg_neg]
      · rw [if_neg hneg, if_neg (by decide), Int.natAbs_of_nonneg (Int.not_lt.mp hneg)]

theorem tz_roundtrip {s : Str} {tz : Tz} (h : TzLex s tz) : parseTz (tzStr tz) = some tz := by
  cases tz with
  | none => rfl
  | some z => exact tzStr_roundtrip z (by have := TzLex_range h; omega)

/-- the digits `iso_year` writes for the number `n`: `'{:04}'` up to 9999, `str(int)` above -/
theorem yearDigits_spec (n : Nat) (ds : Str) (h : ds = if n ≤ 9999 then padNat 4 n else natDigits n) :
    (∀ c ∈ ds, isDig c = true) ∧ 4 ≤ ds.length ∧ (4 < ds.length → ds.head? ≠ some '0') ∧ posVal ds = n := by
  subst h
  split
  · rename_i hn
    obtain ⟨h1, h2, h3⟩ := padNat_spec 4 n (by decide) (Nat.lt_of_le_of_lt hn (by decide))
    exact ⟨h2, Nat.le_of_eq h1.symm, fun hl => absurd hl (by omega), h3⟩
  · rename_i hn
    obtain ⟨hv, -, hd⟩ := natDigits_spec n
    refine ⟨hd, Nat.le_of_lt (Nat.lt_of_not_le fun hle => ?_), fun _ => natDigits_head n (by omega), hv⟩
    have := (IntDigits_le_iff (natDigits_intDigits n (by omega)) 4).mp hle
    omega

/-- the year number `Y` written for the stored year `y`: XSD 1.1 stores non-positive years shifted by one -/
theorem year_shift (v11 : Bool) (y Y : Int) (hy0 : y ≠ 0) (hY : Y = if v11 = true ∧ y < 0 then y + 1 else y) :
    (v11 = false → Y ≠ 0) ∧ y = (if v11 = true ∧ Y ≤ 0 then Y - 1 else Y) := by
  cases v11 with
  | false => simp only [Bool.false_eq_true, false_and, if_false] at hY ⊢; subst hY; exact ⟨fun _ => hy0, rfl⟩
  | true =>
    simp only [true_and] at hY ⊢
    refine ⟨nofun, ?_⟩
    split at hY <;> split <;> omega

theorem ite_neg_natAbs (Y : Int) : (if Y < 0 then -(Y.natAbs : Int) else (Y.natAbs : Int)) = Y := by
  split <;> omega

theorem isoYear_eq (v11 : Bool) (y Y : Int) (hg : DateRtJudged v11 y)
    (hY : Y = if v11 = true ∧ y < 0 then y + 1 else y) :
    isoYear v11 y =
      (if Y < 0 then ['-'] else []) ++ (if Y.natAbs ≤ 9999 then padNat 4 Y.natAbs else natDigits Y.natAbs) := by
  unfold DateRtJudged at hg
  simp only [isoYear, Bool.and_eq_true, decide_eq_true_eq, beq_iff_eq]
  by_cases c1 : -9999 ≤ y ∧ y < -1
  · have e : (if v11 = true then y + 1 else y) = Y := by
      rw [hY]; cases v11
      · rfl
      · simp only [true_and, if_true]; rw [if_pos (by omega)]
    have hn : Y < 0 := by rw [hY]; split <;> omega
    have hs : Y.natAbs ≤ 9999 := by rw [hY]; split <;> omega
    rw [if_pos c1, e, if_pos hn, if_pos hn, if_pos hs]; rfl
  · rw [if_neg c1]
    by_cases c2 : y = -1
    · subst c2
      cases v11 <;> subst hY <;> decide
    · rw [if_neg c2]
      have e : Y = y := by
        rw [hY]; split
        · rename_i h; exact absurd ⟨h.1, by omega⟩ hg
        · rfl
      subst e
      clear hY hg
      by_cases c3 : 0 ≤ Y ∧ Y ≤ 9999
      · rw [if_pos c3, if_neg (by omega), if_pos (by omega)]; rfl
      · rw [if_neg c3, intToStr]
        split
        · rw [if_neg (by omega)]; rfl
        · rw [if_neg (by omega)]; rfl

theorem isoYear_parse (v11 : Bool) (y : Int) (hy0 : y ≠ 0) (hg : DateRtJudged v11 y) :
    ∃ neg ds, isoYear v11 y = (if neg then ['-'] else []) ++ ds ∧ (∀ c ∈ ds, isDig c = true) ∧
      4 ≤ ds.length ∧ yearValue v11 neg ds = some y := by
  have hY := year_shift v11 y _ hy0 rfl
  have hs := isoYear_eq v11 y _ hg rfl
  generalize (if v11 = true ∧ y < 0 then y + 1 else y) = Y at hY hs
  obtain ⟨d1, d2, d3, d4⟩ := yearDigits_spec Y.natAbs _ rfl
  refine ⟨decide (Y < 0), _, by simpa only [decide_eq_true_eq] using hs, d1, d2, (yearValue_iff _ _ _ _).mpr ⟨d3, ?_⟩⟩
  simpa only [d4, decide_eq_true_eq, ite_neg_natAbs] using hY

theorem daysInMonth_le (leap : Bool) (m : Nat) : daysInMonth leap m ≤ 31 := by
  unfold daysInMonth
  split
  · split <;> omega
  · split <;> omega

/-- FULL statement (false for the code: `Props.C02.date_roundtrip_counterexample`):
      ∀ v11 s v, parseDt .date v11 s = some v → parseDt .date v11 (dateStr v11 v) = some v
    i.e. the text written for a decoded xs:date decodes to the same value; proved with the guard: -/
theorem date_roundtrip_partial (v11 : Bool) (s : Str) (v : DtVal)
    (h : parseDt .date v11 s = some v) (hg : DateRtJudged v11 v.year) :
    parseDt .date v11 (dateStr v11 v) = some v := by
  obtain ⟨-, -, c1, c2, c3, c4, tzs, -, -, -, -, -, -, -, tz, y, hz, -, hm⟩ := (parseDt_date_iff v11 s v).mp h
  generalize digVal c1 * 10 + digVal c2 = mo, digVal c3 * 10 + digVal c4 = d at hm
  obtain ⟨hy0, hyb, a1, a2, a3, a4, rfl⟩ := (mkDt_date_iff _ _ _ _ _ _).mp hm
  have hz' := tz_roundtrip ((parseTz_iff _ _).mp hz)
  simp only at hg
  obtain ⟨neg', ds', hiso, hdig, hlen, hyv⟩ := isoYear_parse v11 y hy0 hg
  have hd31 := Nat.le_trans a4 (daysInMonth_le _ _)
  obtain ⟨m1, m2, em, hm1, hm2, hmv⟩ := padNat2 mo (by omega)
  obtain ⟨d1, d2, ed, hd1, hd2, hdv⟩ := padNat2 d (by omega)
  refine (parseDt_date_iff v11 _ _).mpr ⟨neg', ds', m1, m2, d1, d2, tzStr tz, ?_, hdig, hlen, hm1, hm2, hd1, hd2,
    tz, y, hz', hyv, by rw [hmv, hdv]; exact hm⟩
  simp [dateStr, hiso, em, ed]

example : dateStr true ⟨.date, -1, 2, 29, 0, 0, 0, 0, some (-300)⟩ = "0000-02-29-05:00".toList := by decide +kernel

/-- non-vacuity of the round trip: a leap day with a time zone, in the year written 0000 -/
example : parseDt .date true (dateStr true ⟨.date, -1, 2, 29, 0, 0, 0, 0, some (-300)⟩) =
    some ⟨.date, -1, 2, 29, 0, 0, 0, 0, some (-300)⟩ :=
  date_roundtrip_partial true "0000-02-29-05:00".toList _ (by decide +kernel) (by decide)

end XsVerif.Datatypes
