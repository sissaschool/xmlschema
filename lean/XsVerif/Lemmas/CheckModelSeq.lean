/-
  C15, M side of the flat-sequence fragment: the model `flatSeq`, `sequence(e1 … en){lo,hi}` of plain element
  particles.  For a root
  with `maxOccurs = 1` (`SeqCtx`): the loop of the port over the particles does not miss a bad pair
  (`SeqCtx.outer_bad`).
-/
import XsVerif.Lemmas.FlatSeqLang

set_option linter.unusedSectionVars false

namespace XsVerif.CM
open XsVerif.Wildcard XsVerif.Rx


/-- `sequence(items){lo,hi}` with root id `r` -/
def flatSeq (r lo : Nat) (hi : Option Nat) (items : List FItem) : Particle :=
  .group r .seq lo hi (mkParticles items)

/-- what the theorem assumes about the context of a flat sequence of plain element particles (either XSD
    version, no substitution groups, same name ⇒ same declaration): the lookups of the port return the
    data of the items; the root has `maxOccurs = rhi` -/
structure SeqCtxR (M : Ctx) (r : Nat) (rhi : Option Nat) (items : List FItem) : Prop where
  rootSeq : (M.node r).kind = .seq
  rootHi : (M.node r).hi = rhi
  content : (M.node r).content = items.map (·.id)
  elemK : ∀ it ∈ items, (M.node it.id).kind = .elem
  lo : ∀ it ∈ items, (M.node it.id).lo = it.lo
  hi : ∀ it ∈ items, (M.node it.id).hi = it.hi
  name : ∀ it ∈ items, (M.info it.id).name = it.name
  plain : ∀ it ∈ items, (M.info it.id).sgHead = none
  nosubs : ∀ it ∈ items, (M.info it.id).subs = []
  ids : items.Pairwise fun a b => a.id ≠ b.id
  rootId : ∀ it ∈ items, it.id ≠ r
  sameDecl : ∀ it ∈ items, ∀ jt ∈ items, it.name = jt.name → (M.info it.id).ty = (M.info jt.id).ty

/-- the root has `maxOccurs = 1` -/
abbrev SeqCtx (M : Ctx) (r : Nat) (items : List FItem) : Prop := SeqCtxR M r (some 1) items

variable {M : Ctx} {r : Nat} {rhi : Option Nat} {items : List FItem}

theorem SeqCtxR.isElem (h : SeqCtxR M r rhi items) {it : FItem} (hit : it ∈ items) : M.isElem it.id = true := by
  simp [Ctx.isElem, h.elemK it hit]

theorem SeqCtxR.notAny (h : SeqCtxR M r rhi items) {it : FItem} (hit : it ∈ items) : M.isAny it.id = false :=
  isAny_of_isElem M (h.isElem hit)

theorem SeqCtxR.key (h : SeqCtxR M r rhi items) {it : FItem} (hit : it ∈ items) : M.key it.id = some it.name := by
  rw [key_elem M (h.isElem hit), h.name it hit]

theorem SeqCtxR.emptiable (h : SeqCtxR M r rhi items) {it : FItem} (hit : it ∈ items) :
    M.emptiable it.id = (it.lo == 0) := by
  have hk := h.elemK it hit
  have hl := h.lo it hit
  simp only [Ctx.node] at hk hl
  unfold Ctx.emptiable emptiableF
  simp only [Ctx.node, hk, hl]

theorem SeqCtxR.univocal (h : SeqCtxR M r rhi items) {it : FItem} (hit : it ∈ items) :
    M.univocal it.id = (it.hi == some it.lo) := by
  simp [Ctx.univocal, Ctx.node, ← h.lo it hit, ← h.hi it hit]

theorem SeqCtxR.overlap (h : SeqCtxR M r rhi items) {it jt : FItem} (hit : it ∈ items) (hjt : jt ∈ items) :
    M.overlap it.id jt.id = (it.name == jt.name) := by
  rw [overlap_plain M (h.isElem hit) (h.isElem hjt) ⟨h.plain it hit, h.nosubs it hit⟩
    ⟨h.plain jt hjt, h.nosubs jt hjt⟩, h.name it hit, h.name jt hjt]

theorem SeqCtxR.consistent (h : SeqCtxR M r rhi items) {it jt : FItem} (hit : it ∈ items) (hjt : jt ∈ items) :
    M.consistent jt.id it.id = true := by
  rw [consistent_plain M (h.nosubs jt hjt) (h.nosubs it hit), h.name it hit, h.name jt hjt]
  by_cases hn : jt.name = it.name
  · simp [h.sameDecl jt hjt it hit hn]
  · simp [hn]

theorem idxOf_mid {α : Type} [BEq α] [LawfulBEq α] {pre : List α} {a : α} (post : List α) (h : a ∉ pre) :
    (pre ++ a :: post).idxOf a = pre.length := by
  rw [List.idxOf_append, if_neg h, List.idxOf_cons_self, Nat.zero_add]

/-- positions and segments of `l = a ++ x :: m ++ y :: c` as `distinguishable_paths` computes them -/
theorem split_views {α : Type} [BEq α] [LawfulBEq α] {a m c : List α} {x y : α} (hx : x ∉ a)
    (hy : y ∉ a ++ x :: m) :
    ((a ++ x :: m) ++ y :: c).idxOf x = a.length ∧ ((a ++ x :: m) ++ y :: c).idxOf y = a.length + 1 + m.length ∧
    ((a ++ x :: m) ++ y :: c).take a.length = a ∧
    ((((a ++ x :: m) ++ y :: c).drop (a.length + 1)).take (a.length + 1 + m.length - (a.length + 1))) = m ∧
    ((a ++ x :: m) ++ y :: c).drop (a.length + 1 + m.length + 1) = c := by
  have e1 : (a ++ x :: m) ++ y :: c = a ++ x :: (m ++ y :: c) := by simp
  have e2 : (a ++ x :: m) ++ y :: c = (a ++ [x]) ++ (m ++ y :: c) := by simp
  have e3 : (a ++ x :: m) ++ y :: c = ((a ++ x :: m) ++ [y]) ++ c := by simp
  refine ⟨by rw [e1, idxOf_mid _ hx], ?_, by rw [e1, List.take_left' rfl], ?_, ?_⟩
  · rw [idxOf_mid _ hy]; simp; omega
  · rw [e2, List.drop_left' (by simp), Nat.add_sub_cancel_left, List.take_left' rfl]
  · rw [e3, List.drop_left' (by simp; omega)]

theorem SeqCtxR.anyNonEmptiable (h : SeqCtxR M r rhi items) (l : List FItem) (hl : ∀ m ∈ l, m ∈ items) :
    M.anyNonEmptiable (l.map (·.id)) = l.any fun m => m.lo != 0 := by
  induction l with
  | nil => rfl
  | cons m l ih =>
    have := ih fun k hk => hl k (by simp [hk])
    simp only [Ctx.anyNonEmptiable] at this
    simp [Ctx.anyNonEmptiable, h.emptiable (hl m (by simp)), this, bne]

theorem SeqCtxR.ids_split (h : SeqCtxR M r rhi items) {p1 midl p2 : List FItem} {it jt : FItem}
    (hsplit : items = (p1 ++ it :: midl) ++ jt :: p2) :
    it.id ∉ p1.map (·.id) ∧ jt.id ∉ (p1 ++ it :: midl).map (·.id) := by
  have hids := h.ids
  rw [hsplit] at hids
  obtain ⟨h1, _, h2⟩ := List.pairwise_append.mp hids
  constructor
  · intro hm
    obtain ⟨k, hk, hkid⟩ := List.mem_map.mp hm
    exact (List.pairwise_append.mp h1).2.2 k hk it (by simp) hkid
  · intro hm
    obtain ⟨k, hk, hkid⟩ := List.mem_map.mp hm
    exact h2 k hk jt (by simp) hkid

/-- The paths
    are NOT distinguishable iff there are only emptiable particles between them and `it` is not univocal (the
    in-iteration test) or, when the sequence repeats, there are only emptiable particles around them and `jt` is
    not univocal (the wrap-around test). -/
theorem SeqCtxR.distinguishable_eq (h : SeqCtxR M r rhi items) {p1 midl p2 : List FItem} {it jt : FItem}
    (hsplit : items = (p1 ++ it :: midl) ++ jt :: p2) :
    M.distinguishable ([r] ++ [it.id]) ([r] ++ [jt.id]) =
      (rhi == some 0 || (((midl.any fun m => m.lo != 0) || it.hi == some it.lo) &&
        (rhi == some 1 || (p1.any fun m => m.lo != 0) || jt.hi == some jt.lo || p2.any fun m => m.lo != 0))) := by
  have hit : it ∈ items := by rw [hsplit]; simp
  have hjt : jt ∈ items := by rw [hsplit]; simp
  obtain ⟨hi1, hj1⟩ := h.ids_split hsplit
  have hij : it.id ≠ jt.id := fun hc => hj1 (hc ▸ List.mem_map.mpr ⟨it, by simp, rfl⟩)
  have hcont : (M.node r).content = ((p1.map (·.id) ++ it.id :: midl.map (·.id)) ++ jt.id :: p2.map (·.id)) := by
    rw [h.content, hsplit]; simp
  obtain ⟨hidx1, hidx2, hbef, hmid, haft⟩ :=
    split_views (m := midl.map (·.id)) (y := jt.id) (c := p2.map (·.id)) hi1 (by simpa using hj1)
  simp only [List.length_map] at hidx1 hidx2 hbef hmid haft
  have any1 := h.anyNonEmptiable p1 fun m hm => by rw [hsplit]; simp [hm]
  have any2 := h.anyNonEmptiable midl fun m hm => by rw [hsplit]; simp [hm]
  have any3 := h.anyNonEmptiable p2 fun m hm => by rw [hsplit]; simp [hm]
  -- the paths part at depth 0, and nothing is left for `walk`
  have hf : ([r] ++ [it.id]).findIdx? (fun e => !([r] ++ [jt.id]).contains e) = some 1 := by
    simp [List.findIdx?_cons, hij, h.rootId it hit]
  unfold Ctx.distinguishable
  rw [hf]
  simp only [Nat.sub_self, List.getD_cons_zero, List.cons_append, List.nil_append, List.getD_cons_succ,
    h.rootHi, h.rootSeq, Ctx.indexIn, hcont, hidx1, hidx2, hbef, hmid, haft, any1, any2, any3, pairsFrom,
    List.drop_succ_cons, List.drop_zero, List.drop_nil, List.zip_nil_right, Ctx.walk, List.getLast?_cons_cons,
    List.getLast?_singleton, Option.getD_some, h.univocal hit, h.univocal hjt]
  cases rhi == some 0 <;> cases rhi == some 1 <;> simp [Bool.or_comm (it.hi == some it.lo), Bool.or_assoc]

theorem SeqCtx.distinguishable (h : SeqCtx M r items) {p1 midl p2 : List FItem} {it jt : FItem}
    (hsplit : items = (p1 ++ it :: midl) ++ jt :: p2) (hnu : M.univocal it.id = false) :
    M.distinguishable ([r] ++ [it.id]) ([r] ++ [jt.id]) = midl.any (fun m => m.lo != 0) := by
  rw [h.univocal (by rw [hsplit]; simp)] at hnu
  rw [h.distinguishable_eq hsplit, hnu]
  simp

theorem SeqCtxR.pairErr_eq (h : SeqCtxR M r rhi items) {p1 midl p2 : List FItem} {it jt : FItem}
    (hsplit : items = (p1 ++ it :: midl) ++ jt :: p2) :
    M.pairErr jt.id [r] it.id [r] =
      if it.name == jt.name && !(it.hi == some it.lo && (!M.fx.repSeq || rhi == some 1)) &&
          !M.distinguishable ([r] ++ [it.id]) ([r] ++ [jt.id]) then some (.upa it.id jt.id) else none := by
  have hit : it ∈ items := by rw [hsplit]; simp
  have hjt : jt ∈ items := by rw [hsplit]; simp
  have hij : (it.id == jt.id) = false :=
    beq_eq_false_iff_ne.mpr fun hc => (h.ids_split hsplit).2 (hc ▸ List.mem_map.mpr ⟨it, by simp, rfl⟩)
  unfold Ctx.pairErr
  simp only [h.consistent hit hjt, h.overlap hit hjt, hij, Bool.not_true, Bool.and_false, Bool.false_or,
    Bool.false_eq_true, if_false]
  simp only [List.cons_append, List.nil_append]
  cases hn : it.name == jt.name
  · simp
  cases hu : (it.hi == some it.lo && (!M.fx.repSeq || rhi == some 1))
  · by_cases hd : M.distinguishable [r, it.id] [r, jt.id] = true <;>
      simp [Ctx.upaStep, Ctx.stage1, h.rootSeq, h.rootHi, h.univocal hit, hu, stage2_snd, Ctx.stage2Err,
        h.notAny hit, h.notAny hjt, hd]
  · simp [Ctx.upaStep, Ctx.stage1, h.rootSeq, h.rootHi, h.univocal hit, hu]

theorem SeqCtx.pairErr_none (h : SeqCtx M r items) {p1 midl p2 : List FItem} {it jt : FItem}
    (hsplit : items = (p1 ++ it :: midl) ++ jt :: p2) :
    M.pairErr jt.id [r] it.id [r] = none ↔
      ¬ (it.name = jt.name ∧ Bad1 it midl) := by
  rw [h.pairErr_eq hsplit, h.distinguishable_eq hsplit]
  by_cases hu : it.hi = some it.lo <;> simp [hu, Bad1]

theorem snoc_split {α : Type} {done p1 p2 : List α} {jt it : α} (h : done ++ [jt] = p1 ++ it :: p2) :
    (p2 = [] ∧ done = p1 ∧ jt = it) ∨ ∃ q, p2 = q ++ [jt] ∧ done = p1 ++ it :: q := by
  rcases List.eq_nil_or_concat p2 with rfl | ⟨q, z, rfl⟩
  · have := List.append_inj' h (by simp)
    exact .inl ⟨rfl, this.1, by simpa using this.2⟩
  · have h' : done ++ [jt] = (p1 ++ it :: q) ++ [z] := by simpa using h
    have := List.append_inj' h' (by simp)
    have hz : jt = z := by simpa using this.2
    subst hz
    exact .inr ⟨q, by simp, this.1⟩

/-- every live item visited so far is represented in the dict by a live item of its name at or after it -/
def Covers (M : Ctx) (r : Nat) (done : List FItem) (d : List Entry) : Prop :=
  ∀ p1 kt p2, done = p1 ++ kt :: p2 → kt.hi ≠ some 0 →
    ∃ q lt q', kt :: p2 = q ++ lt :: q' ∧ lt.hi ≠ some 0 ∧ lt.name = kt.name ∧ entryOf M r lt ∈ d

theorem covers_dead {done : List FItem} {jt : FItem} {d : List Entry} (hj : jt.hi = some 0)
    (hc : Covers M r done d) : Covers M r (done ++ [jt]) d := by
  intro p1 kt p2 hs hk
  rcases snoc_split hs with ⟨_, _, rfl⟩ | ⟨q, rfl, rfl⟩
  · exact absurd hj hk
  · obtain ⟨a, lt, b, hq, hl, hn, hen⟩ := hc p1 kt q rfl hk
    exact ⟨a, lt, b ++ [jt], by rw [← List.cons_append, hq]; simp, hl, hn, hen⟩

theorem SeqCtxR.covers_step (h : SeqCtxR M r rhi items) {done : List FItem} {jt : FItem} {d : List Entry}
    (hmem : ∀ it ∈ done ++ [jt], it ∈ items) (hj : jt.hi ≠ some 0) (hc : Covers M r done d) :
    Covers M r (done ++ [jt]) (dictSet d (entryOf M r jt)) := by
  intro p1 kt p2 hs hk
  rcases snoc_split hs with ⟨rfl, rfl, rfl⟩ | ⟨q, rfl, rfl⟩
  · exact ⟨[], jt, [], rfl, hj, rfl, (mem_dictSet _ _ _).mpr (.inl rfl)⟩
  · obtain ⟨a, lt, b, hq, hl, hn, hen⟩ := hc p1 kt q rfl hk
    by_cases hnm : lt.name = jt.name
    · exact ⟨kt :: q, jt, [], by simp, hj, hnm.symm.trans hn, (mem_dictSet _ _ _).mpr (.inl rfl)⟩
    · refine ⟨a, lt, b ++ [jt], by rw [← List.cons_append, hq]; simp, hl, hn,
        (mem_dictSet _ _ _).mpr (.inr ⟨hen, ?_⟩)⟩
      have hlt : lt ∈ items :=
        hmem lt (List.mem_append_left _ (List.mem_append_right _ (by rw [hq]; simp)))
      simp only [entryOf]
      rw [h.key hlt, h.key (hmem jt (by simp))]
      simpa using hnm

/-- `Covers` keeps for `it` a live item `lt` of its
    name at or after it; the port compares `jt` with `lt`, and (`lt`, `jt`) is a bad pair as well: between them
    there are only emptiable particles, and `lt` is `it` or one of these (emptiable and live, so not univocal). -/
theorem SeqCtx.against_bad (h : SeqCtx M r items) {p1 midl rest : List FItem} {it jt : FItem} {d : List Entry}
    (hs : items = (p1 ++ it :: midl) ++ jt :: rest) (hc : Covers M r (p1 ++ it :: midl) d)
    (hil : it.hi ≠ some 0) (hn : it.name = jt.name) (hb : Bad1 it midl) : M.againstErr jt.id [r] d ≠ none := by
  obtain ⟨q, lt, q', hq, hl, hln, hen⟩ := hc p1 it midl rfl hil
  have hsp : items = ((p1 ++ q) ++ lt :: q') ++ jt :: rest := by rw [hs, List.append_assoc p1 q, ← hq]
  have hbad : Bad1 lt q' := by
    rcases List.cons_eq_append_iff.mp hq with ⟨_, hq⟩ | ⟨q0, _, rfl⟩
    · obtain ⟨rfl, rfl⟩ := List.cons.inj hq
      exact hb
    · exact ⟨by rw [hb.2 lt (by simp)]; exact hl, fun m hmq => hb.2 m (by simp [hmq])⟩
  intro hnone
  have hp := (againstErr_eq_none_iff M).mp hnone _ hen
  simp only [entryOf] at hp
  exact (h.pairErr_none hsp).mp hp ⟨hln.trans hn, hbad⟩

theorem SeqCtx.outer_bad (h : SeqCtx M r items) : ∀ (todo done : List FItem) (d : List Entry),
    items = done ++ todo → Covers M r done d →
    (∃ p1 it midl jt t1 t2, todo = t1 ++ jt :: t2 ∧ done ++ t1 = p1 ++ it :: midl ∧ it.hi ≠ some 0 ∧
      jt.hi ≠ some 0 ∧ it.name = jt.name ∧ Bad1 it midl) →
    M.outerErr ((live todo).map fun it => (it.id, [r])) d ≠ none := by
  intro todo
  induction todo with
  | nil =>
    rintro done d _ _ ⟨_, _, _, _, _, _, ht, _⟩
    simp at ht
  | cons kt rest ih =>
    rintro done d hsplit hc ⟨p1, it, midl, jt, t1, t2, ht, hd, hil, hjl, hn, hb⟩
    have hsplit' : items = (done ++ [kt]) ++ rest := by simp [hsplit]
    have hmem : ∀ x ∈ done ++ [kt], x ∈ items := fun x hx => by rw [hsplit']; exact List.mem_append_left _ hx
    -- `jt` is the item visited now, or it lies further on
    rcases List.cons_eq_append_iff.mp ht with ⟨rfl, ht⟩ | ⟨t1', rfl, hrest⟩
    · obtain ⟨rfl, rfl⟩ := List.cons.inj ht
      rw [List.append_nil] at hd
      subst hd
      have hlive : live (kt :: rest) = kt :: live rest := by simp [live, hjl]
      rw [hlive, List.map_cons, Ctx.outerErr, Ne, Option.or_eq_none_iff]
      exact fun hnone => h.against_bad hsplit hc hil hn hb hnone.1
    · have hd' : (done ++ [kt]) ++ t1' = p1 ++ it :: midl := by simpa using hd
      by_cases hk : kt.hi = some 0
      · have hlive : live (kt :: rest) = live rest := by simp [live, hk]
        rw [hlive]
        exact ih (done ++ [kt]) d hsplit' (covers_dead hk hc) ⟨p1, it, midl, jt, t1', t2, hrest, hd', hil, hjl, hn, hb⟩
      · have hlive : live (kt :: rest) = kt :: live rest := by simp [live, hk]
        rw [hlive, List.map_cons, Ctx.outerErr, Ne, Option.or_eq_none_iff]
        exact fun hnone => ih (done ++ [kt]) _ hsplit' (h.covers_step hmem hk hc)
          ⟨p1, it, midl, jt, t1', t2, hrest, hd', hil, hjl, hn, hb⟩ hnone.2

end XsVerif.CM
