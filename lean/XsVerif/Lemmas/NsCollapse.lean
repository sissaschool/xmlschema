/-
  C17 — the modes of `set_xmlns_context` that keep ONE map (collapsed / root-only / none): the merge only adds
  bindings and records and keeps the maps consistent, so a name mapped earlier still resolves in the grown maps
  (with a guard on the default namespace; none under the repaired attribute rule).
-/
import XsVerif.Model.NsMapper
import XsVerif.Lemmas.NsMapper
import XsVerif.Lemmas.NsStack
import XsVerif.Lemmas.NsSpec
namespace XsVerif.Props.C17
open XsVerif.NsMapper XsVerif.NsMapper.Map XsVerif.NsMapper.Stack

theorem grows_refl (a : Map) : Grows a a := fun _ _ h => h

theorem grows_trans {a b c : Map} (h1 : Grows a b) (h2 : Grows b c) : Grows a c :=
  fun k v h => h2 k v (h1 k v h)

theorem findSlot_spec {ns : Map} {uri : String} {f : Nat} {p q : String} :
    (findSlot ns uri f p = .fresh q → ns.get q = none) ∧ (findSlot ns uri f p = .bound q → ns.get q = some uri) := by
  induction f generalizing p with
  | zero => exact ⟨nofun, nofun⟩
  | succ n ih =>
    unfold findSlot
    cases hg : ns.get p with
    | none => exact ⟨fun h => Slot.fresh.inj h ▸ hg, nofun⟩
    | some u =>
      dsimp only
      split
      · rename_i e
        exact ⟨nofun, fun h => by cases h; exact e ▸ hg⟩
      · exact ih

theorem good_set_fresh {ns rev : Map} {q uri : String} (h : Good ns rev) (hq : ns.get q = none) :
    Good (ns.set q uri) (if rev.has uri then rev else rev.set uri q) ∧
    Grows ns (ns.set q uri) ∧ Grows rev (if rev.has uri then rev else rev.set uri q) := by
  have hg : Grows ns (ns.set q uri) := fun k v hk => by
    rw [get_set_ne _ _ fun e => by rw [e, hk] at hq; cases hq]
    exact hk
  cases hh : rev.has uri with
  | true => exact ⟨⟨fun u p hp => hg _ _ (h.1 u p hp), nodup_set h.2 _ _⟩, hg, grows_refl _⟩
  | false =>
    have hnone := (has_eq_false _ _).mp hh
    refine ⟨⟨reverseOk_set fun u p _ hp => hg _ _ (h.1 u p hp), nodup_set h.2 _ _⟩, hg, fun k v hk => ?_⟩
    show (rev.set uri q).get k = some v
    rw [get_set_ne _ _ fun e => by rw [e, hk] at hnone; cases hnone]
    exact hk

theorem collapseOne_cases (root : Bool) (ns rev : Map) (ok : Bool) (d : String × String) :
    (∃ ok', collapseOne root (ns, rev, ok) d = (ns, rev, ok')) ∨
    ∃ q, ns.get q = none ∧
      collapseOne root (ns, rev, ok) d = (ns.set q d.2, if rev.has d.2 then rev else rev.set d.2 q, ok) := by
  unfold collapseOne
  dsimp only
  by_cases h1 : d.1 = ""
  · rw [if_pos h1]
    by_cases h2 : d.2 = ""
    · rw [if_pos h2]; exact .inl ⟨ok, rfl⟩
    · rw [if_neg h2]
      cases hg : ns.get "" with
      | none =>
        cases root with
        | true => exact .inr ⟨"", hg, rfl⟩
        | false =>
          cases hf : findSlot ns d.2 (ns.length + 1) "default" with
          | bound q => exact .inl ⟨ok, rfl⟩
          | fresh q => exact .inr ⟨q, findSlot_spec.1 hf, rfl⟩
          | fuel => exact .inl ⟨false, rfl⟩
      | some d0 =>
        by_cases h3 : d0 = d.2
        · exact .inl ⟨ok, if_pos h3⟩
        · dsimp only
          rw [if_neg h3]
          cases hf : findSlot ns d.2 (ns.length + 1) "default" with
          | bound q => exact .inl ⟨ok, rfl⟩
          | fresh q => exact .inr ⟨q, findSlot_spec.1 hf, rfl⟩
          | fuel => exact .inl ⟨false, rfl⟩
  · rw [if_neg h1]
    cases hf : findSlot ns d.2 (ns.length + 1) d.1 with
    | bound q => exact .inl ⟨ok, rfl⟩
    | fresh q => exact .inr ⟨q, findSlot_spec.1 hf, rfl⟩
    | fuel => exact .inl ⟨false, rfl⟩

theorem collapseOne_spec (root : Bool) (st : Map × Map × Bool) (d : String × String) (h : Good st.1 st.2.1) :
    Good (collapseOne root st d).1 (collapseOne root st d).2.1 ∧
    Grows st.1 (collapseOne root st d).1 ∧ Grows st.2.1 (collapseOne root st d).2.1 := by
  obtain ⟨ns, rev, ok⟩ := st
  rcases collapseOne_cases root ns rev ok d with ⟨ok', e⟩ | ⟨q, hq, e⟩
  · rw [e]; exact ⟨h, grows_refl _, grows_refl _⟩
  · rw [e]; exact good_set_fresh h hq

theorem collapse_foldl_spec (root : Bool) (xmlns : Xmlns) (st : Map × Map × Bool) (h : Good st.1 st.2.1) :
    Good (xmlns.foldl (collapseOne root) st).1 (xmlns.foldl (collapseOne root) st).2.1 ∧
    Grows st.1 (xmlns.foldl (collapseOne root) st).1 ∧ Grows st.2.1 (xmlns.foldl (collapseOne root) st).2.1 := by
  induction xmlns generalizing st with
  | nil => exact ⟨h, grows_refl _, grows_refl _⟩
  | cons d t ih =>
    obtain ⟨g1, g2, g3⟩ := collapseOne_spec root st d h
    obtain ⟨k1, k2, k3⟩ := ih _ g1
    exact ⟨k1, grows_trans g2 k2, grows_trans g3 k3⟩

theorem collapse_spec (root : Bool) (ns rev : Map) (xmlns : Xmlns) (h : Good ns rev) :
    Good (collapse root ns rev xmlns).1 (collapse root ns rev xmlns).2.1 ∧
    Grows ns (collapse root ns rev xmlns).1 ∧ Grows rev (collapse root ns rev xmlns).2.1 :=
  collapse_foldl_spec root xmlns (ns, rev, true) h

theorem mapQName_cases (m : Mapper) (q : QN) :
    q.ns = "" ∧ mapQName m q = .loc q.loc ∨
    q.ns ≠ "" ∧ (mapQName m q = .braced q.ns q.loc ∨
      m.rev.get q.ns = some "" ∧ mapQName m q = .loc q.loc ∨
      ∃ p, p ≠ "" ∧ m.rev.get q.ns = some p ∧ mapQName m q = .pre p q.loc) := by
  unfold mapQName
  by_cases h0 : q.ns = ""
  · exact .inl ⟨h0, if_pos h0⟩
  · refine .inr ⟨h0, ?_⟩
    rw [if_neg h0]
    by_cases he : m.ns.isEmpty = true
    · exact .inl (if_pos he)
    · rw [if_neg he]
      cases hg : m.rev.get q.ns with
      | none => exact .inl rfl
      | some p =>
        by_cases hp : p = ""
        · exact .inr (.inl ⟨hp ▸ rfl, if_pos hp⟩)
        · exact .inr (.inr ⟨p, hp, rfl, if_neg hp⟩)

theorem resolveElem_pre {ns : Map} {p u : String} (l : String) (h : ns.get p = some u) (hu : u ≠ "") :
    resolveElem ns (.pre p l) = some ⟨u, l⟩ := by
  simp only [resolveElem, h, if_neg hu]

theorem resolveElem_loc {ns : Map} {d : String} (l : String) (h : ns.get "" = some d) :
    resolveElem ns (.loc l) = some ⟨d, l⟩ := by
  simp only [resolveElem, h]

theorem resolveElem_loc_unset {ns : Map} (l : String) (h : DefaultUnset ns) :
    resolveElem ns (.loc l) = some ⟨"", l⟩ := by
  rcases h with h | h <;> simp only [resolveElem, h]

theorem roundtrip_elem_grows (m : Mapper) (q : QN) (ns' : Map) (hr : ReverseOk m.ns m.rev) (hg : Grows m.ns ns')
    (hd : q.ns = "" → DefaultUnset ns') : resolveElem ns' (mapQName m q) = some q := by
  obtain ⟨u, l⟩ := q
  rcases mapQName_cases m ⟨u, l⟩ with ⟨h0, e⟩ | ⟨h0, e | ⟨hp, e⟩ | ⟨p, _, hp, e⟩⟩ <;> rw [e]
  · cases h0
    exact resolveElem_loc_unset l (hd rfl)
  · rfl
  · exact resolveElem_loc l (hg _ _ (hr _ _ hp))
  · exact resolveElem_pre l (hg _ _ (hr _ _ hp)) h0

theorem roundtrip_attr_grows_partial (m : Mapper) (q : QN) (ns' : Map) (hr : ReverseOk m.ns m.rev)
    (hg : Grows m.ns ns') (hguard : q.ns ≠ "" → m.rev.get q.ns ≠ some "") :
    resolveAttr ns' (mapQName m q) = some q := by
  obtain ⟨u, l⟩ := q
  rcases mapQName_cases m ⟨u, l⟩ with ⟨h0, e⟩ | ⟨h0, e | ⟨hp, e⟩ | ⟨p, _, hp, e⟩⟩ <;> rw [e]
  · cases h0
    rfl
  · rfl
  · exact absurd hp (hguard h0)
  · exact resolveElem_pre l (hg _ _ (hr _ _ hp)) h0

theorem roundtrip_attr_grows_of_default (m : Mapper) (q : QN) (ns' : Map) (hr : ReverseOk m.ns m.rev)
    (hg : Grows m.ns ns') (hd : q.ns ≠ "" → ns'.get "" ≠ some q.ns) :
    resolveAttr ns' (mapQName m q) = some q :=
  roundtrip_attr_grows_partial m q ns' hr hg fun hne hrev => hd hne (hg _ _ (hr _ _ hrev))

theorem roundtrip_attrR_grows (m : Mapper) (q : QN) (ns' : Map) (hr : ReverseOk m.ns m.rev)
    (hn : Map.Nodup m.ns) (hg : Grows m.ns ns') : resolveAttr ns' (mapAttr .repaired m q) = some q := by
  obtain ⟨u, l⟩ := q
  unfold mapAttr
  rcases mapQName_cases m ⟨u, l⟩ with ⟨h0, e⟩ | ⟨h0, e | ⟨_, e⟩ | ⟨p, _, hp, e⟩⟩ <;> rw [e] <;> dsimp only
  · cases h0
    rfl
  · rfl
  · -- the empty prefix is recorded: the last proper prefix of the namespace, else the extended form
    rw [if_neg h0]
    cases hl : m.ns.lastKey (fun k w => k ≠ "" && w = u) with
    | none => rfl
    | some p' => exact resolveElem_pre l (hg _ _ (lastKey_filter_get hn hl).1) h0
  · exact resolveElem_pre l (hg _ _ (hr _ _ hp)) h0

theorem mapAttr_repaired_loc {m : Mapper} {q : QN} {l : String} (h : mapAttr .repaired m q = .loc l) : q.ns = "" := by
  unfold mapAttr at h
  simp only at h
  split at h
  · split at h
    · assumption
    · split at h <;> cases h
  · rename_i n hn
    exact absurd h (hn l)

theorem setContext_flat_cases (v : Variant) {mode : Mode} (hm : mode ≠ .stacked) {m : Mapper} (hs : m.stack = [])
    (obj level : Nat) (decl : Xmlns) :
    (setContext v mode m obj level decl).ret = none ∧
    ((setContext v mode m obj level decl).m = m ∨
      mode ≠ .none ∧ (level = 0 ∨ mode = .collapsed) ∧
        (setContext v mode m obj level decl).m =
          ⟨(collapse (level = 0) m.ns m.rev decl).1, (collapse (level = 0) m.ns m.rev decl).2.1, []⟩) := by
  obtain ⟨ns, rev, stack⟩ := m
  subst hs
  unfold setContext
  dsimp only [popLoop]
  by_cases h1 : mode = .none
  · rw [if_pos h1]; exact ⟨rfl, .inl rfl⟩
  · rw [if_neg h1]
    by_cases h2 : decl.isEmpty = true
    · rw [if_pos h2]; exact ⟨rfl, .inl rfl⟩
    · rw [if_neg h2, if_neg hm]
      by_cases h3 : level = 0 ∨ mode = .collapsed
      · rw [if_pos h3]; exact ⟨rfl, .inr ⟨h1, h3, rfl⟩⟩
      · rw [if_neg h3]; exact ⟨rfl, .inl rfl⟩

theorem setContext_flat (v : Variant) (mode : Mode) (hm : mode ≠ .stacked) (m : Mapper) (obj level : Nat)
    (decl : Xmlns) (hi : Inv m) (hs : m.stack = []) :
    Inv (setContext v mode m obj level decl).m ∧ (setContext v mode m obj level decl).m.stack = [] ∧
    Grows m.ns (setContext v mode m obj level decl).m.ns ∧ Grows m.rev (setContext v mode m obj level decl).m.rev ∧
    (setContext v mode m obj level decl).ret = none := by
  obtain ⟨hret, e | ⟨_, _, e⟩⟩ := setContext_flat_cases v hm hs obj level decl
  · rw [e]; exact ⟨hi, hs, grows_refl _, grows_refl _, hret⟩
  · obtain ⟨c1, c2, c3⟩ := collapse_spec (level = 0) m.ns m.rev decl hi.1
    rw [e]; exact ⟨⟨c1, fun _ h => nomatch h⟩, rfl, c2, c3, hret⟩

theorem setContext_none_id (v : Variant) (m : Mapper) (obj level : Nat) (decl : Xmlns) (hs : m.stack = []) :
    (setContext v .none m obj level decl).m = m :=
  (setContext_flat_cases v (mode := .none) (fun h => nomatch h) hs obj level decl).2.elim id
    fun h => absurd rfl h.1

theorem setContext_rootOnly_id (v : Variant) (m : Mapper) (obj level : Nat) (decl : Xmlns) (hs : m.stack = [])
    (hl : level ≠ 0) : (setContext v .rootOnly m obj level decl).m = m :=
  (setContext_flat_cases v (mode := .rootOnly) (fun h => nomatch h) hs obj level decl).2.elim id
    fun h => absurd h.2.1 fun h' => h'.elim hl fun h'' => nomatch h''

/-- an observation whose names were produced by consistent mapper states that the final maps (nsF, revF) extend -/
def FlatObsOk (nsF revF : Map) (o : Obs) : Prop :=
  ∃ m1 m3 : Mapper, Inv m1 ∧ Inv m3 ∧ Grows m1.ns nsF ∧ Grows m3.ns nsF ∧ Grows m3.rev revF ∧
    o.key = mapQName m1 o.tag ∧ (∀ a ∈ o.attrs, a.2 = mapQName m3 a.1) ∧
    (∀ a ∈ o.attrsR, a.2 = mapAttr .repaired m3 a.1) ∧ o.ret = none ∧ o.nsAtAttrs = m3.ns

theorem FlatObsOk.mono {nsF revF nsG revG : Map} {o : Obs} (h : FlatObsOk nsF revF o)
    (h1 : Grows nsF nsG) (h2 : Grows revF revG) : FlatObsOk nsG revG o := by
  obtain ⟨m1, m3, i1, i3, g1, g3, g3r, r⟩ := h
  exact ⟨m1, m3, i1, i3, grows_trans g1 h1, grows_trans g3 h1, grows_trans g3r h2, r⟩

theorem flatObsOk_obsOf {id L : Nat} {tag : QN} {attrs : List QN} {r1 r3 : SetResult} {nsF revF : Map}
    (i1 : Inv r1.m) (i3 : Inv r3.m) (g1 : Grows r1.m.ns nsF) (g3 : Grows r3.m.ns nsF) (g3r : Grows r3.m.rev revF)
    (e3 : r3.ret = none) : FlatObsOk nsF revF (obsOf id L tag attrs r1 r3) :=
  ⟨r1.m, r3.m, i1, i3, g1, g3, g3r, rfl, fun _ => mem_map_graph, fun _ => mem_map_graph, e3, rfl⟩

/-- what `visitList_flat` says of a list of siblings, for one element -/
def FlatSpec (v : Variant) (mode : Mode) (t : Tree) : Prop :=
  ∀ (L : Nat) (m : Mapper), Inv m → m.stack = [] →
    Inv (visit v mode L t m).1 ∧ (visit v mode L t m).1.stack = [] ∧
    Grows m.ns (visit v mode L t m).1.ns ∧ Grows m.rev (visit v mode L t m).1.rev ∧
    ∀ o ∈ (visit v mode L t m).2, FlatObsOk (visit v mode L t m).1.ns (visit v mode L t m).1.rev o

theorem visitList_flat (v : Variant) (mode : Mode) (hm : mode ≠ .stacked) : ∀ (ts : List Tree) (L : Nat) (m : Mapper),
    Inv m → m.stack = [] →
    Inv (visitList v mode L ts m).1 ∧ (visitList v mode L ts m).1.stack = [] ∧
    Grows m.ns (visitList v mode L ts m).1.ns ∧ Grows m.rev (visitList v mode L ts m).1.rev ∧
    ∀ o ∈ (visitList v mode L ts m).2, FlatObsOk (visitList v mode L ts m).1.ns (visitList v mode L ts m).1.rev o := by
  intro ts
  induction ts using Tree.rec_1 (motive_1 := FlatSpec v mode) with
  | node id tag attrs decl ch ih =>
    intro L m hi hs
    obtain ⟨i1, s1, g1, r1, _⟩ := setContext_flat v mode hm m id L decl hi hs
    obtain ⟨i2, s2, g2, r2, o2⟩ := ih (L + 1) _ i1 s1
    obtain ⟨i3, s3, g3, r3, e3⟩ := setContext_flat v mode hm _ id L decl i2 s2
    rw [visit_node]
    refine ⟨i3, s3, grows_trans g1 (grows_trans g2 g3), grows_trans r1 (grows_trans r2 r3), fun o ho => ?_⟩
    rcases List.mem_cons.mp ho with e | e
    · rw [e]
      exact flatObsOk_obsOf i1 i3 (grows_trans g2 g3) (grows_refl _) (grows_refl _) e3
    · exact (o2 o e).mono g3 r3
  | nil => exact fun _ _ hi hs => ⟨hi, hs, grows_refl _, grows_refl _, fun _ h => nomatch h⟩
  | cons t ts iht ihts =>
    intro L m hi hs
    obtain ⟨i1, s1, g1, r1, o1⟩ := iht L m hi hs
    obtain ⟨i2, s2, g2, r2, o2⟩ := ihts L _ i1 s1
    rw [visitList_cons]
    refine ⟨i2, s2, grows_trans g1 g2, grows_trans r1 r2, fun o ho => ?_⟩
    rcases List.mem_append.mp ho with e | e
    · exact (o1 o e).mono g2 r2
    · exact o2 o e

theorem visit_flat (v : Variant) (mode : Mode) (hm : mode ≠ .stacked) (t : Tree) : FlatSpec v mode t := by
  intro L m hi hs
  obtain ⟨h1, h2, h3, h4, h5⟩ := visitList_flat v mode hm [t] L m hi hs
  exact ⟨h1, h2, h3, h4, fun o ho => h5 o (List.mem_append_left _ ho)⟩

/-- an element leaves the mapper alone when visited from an empty context stack at a level of which `P` holds -/
def ConstSpec (v : Variant) (mode : Mode) (P : Nat → Prop) (t : Tree) : Prop :=
  ∀ (L : Nat) (m : Mapper), m.stack = [] → P L → (visit v mode L t m).1 = m

theorem visitList_const {v : Variant} {mode : Mode} {P : Nat → Prop} (hP : ∀ L, P L → P (L + 1))
    (h : ∀ (m : Mapper) (id L : Nat) (decl : Xmlns), m.stack = [] → P L → (setContext v mode m id L decl).m = m) :
    ∀ (ts : List Tree) (L : Nat) (m : Mapper), m.stack = [] → P L → (visitList v mode L ts m).1 = m := by
  intro ts
  induction ts using Tree.rec_1 (motive_1 := ConstSpec v mode P) with
  | node id tag attrs decl ch ih =>
    intro L m hs hl
    have h1 := h m id L decl hs hl
    rw [visit_node, h1, ih (L + 1) m hs (hP L hl), h1]
  | nil => exact fun _ _ _ _ => rfl
  | cons t ts iht ihts =>
    intro L m hs hl
    rw [visitList_cons, iht L m hs hl, ihts L m hs hl]

theorem visit_const {v : Variant} {mode : Mode} {P : Nat → Prop} (hP : ∀ L, P L → P (L + 1))
    (h : ∀ (m : Mapper) (id L : Nat) (decl : Xmlns), m.stack = [] → P L → (setContext v mode m id L decl).m = m)
    (t : Tree) : ConstSpec v mode P t :=
  fun L m hs hl => visitList_const hP h [t] L m hs hl

theorem visitList_none_const (v : Variant) : ∀ (ts : List Tree) (L : Nat) (m : Mapper), m.stack = [] → (visitList v .none L ts m).1 = m :=
  fun ts L m hs => visitList_const (P := fun _ => True) (fun _ _ => trivial)
    (fun m id L decl hs _ => setContext_none_id v m id L decl hs) ts L m hs trivial

theorem visit_rootOnly_const (v : Variant) : ∀ (t : Tree) (L : Nat) (m : Mapper), m.stack = [] → L ≠ 0 → (visit v .rootOnly L t m).1 = m :=
  visit_const (fun _ _ => Nat.succ_ne_zero _) fun m id L decl hs hl => setContext_rootOnly_id v m id L decl hs hl

theorem visitList_rootOnly_const (v : Variant) : ∀ (ts : List Tree) (L : Nat) (m : Mapper), m.stack = [] → L ≠ 0 → (visitList v .rootOnly L ts m).1 = m :=
  visitList_const (fun _ _ => Nat.succ_ne_zero _) fun m id L decl hs hl => setContext_rootOnly_id v m id L decl hs hl

end XsVerif.Props.C17
