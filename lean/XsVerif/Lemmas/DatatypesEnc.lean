/-
  Helper lemmas for C02: the rational value and order of `Dec`, the value of a decimal literal, and two of the
  encoders of Model/DatatypesEnc.lean: xs:decimal and xs:boolean.  Core Lean only (`Rat` is in core).
-/
import XsVerif.Model.Datatypes
import XsVerif.Model.DatatypesEnc
import XsVerif.Lemmas.Datatypes
import XsVerif.Lemmas.DatatypesDec
namespace XsVerif.Datatypes

/-- the rational number denoted by a `Decimal` -/
def Dec.toRat (d : Dec) : Rat := (d.toInt : Rat) / (10 : Rat) ^ d.scale

theorem rat_div_lt_div {x y A B : Rat} (hA : 0 < A) (hB : 0 < B) : x / A < y / B ↔ x * B < y * A := by
  rw [Rat.div_lt_iff hA, Rat.div_def, Rat.mul_assoc, Rat.mul_comm B⁻¹ A, ← Rat.mul_assoc, ← Rat.div_def,
    Rat.lt_div_iff hB]

theorem ten_pow_pos (n : Nat) : (0 : Rat) < (10 : Rat) ^ n := Rat.pow_pos (by decide)

theorem cross_cast (x : Int) (n : Nat) : (x : Rat) * (10 : Rat) ^ n = ((x * (10 : Int) ^ n : Int) : Rat) := by
  rw [Rat.intCast_mul, Rat.intCast_pow]; rfl

theorem dec_lt_iff (a b : Dec) : a.lt b = true ↔ a.toRat < b.toRat := by
  unfold Dec.lt Dec.toRat
  rw [rat_div_lt_div (ten_pow_pos _) (ten_pow_pos _), cross_cast, cross_cast, Rat.intCast_lt_intCast]
  simp

theorem dec_le_iff (a b : Dec) : a.le b = true ↔ a.toRat ≤ b.toRat := by
  rw [← Rat.not_lt, ← dec_lt_iff]
  unfold Dec.le Dec.lt
  simp only [decide_eq_true_eq]
  omega

theorem dec_eqv_iff (a b : Dec) : a.eqv b = true ↔ a.toRat = b.toRat := by
  rw [Rat.le_antisymm_iff, ← dec_le_iff, ← dec_le_iff]
  simp only [Dec.eqv, Dec.le, beq_iff_eq, decide_eq_true_eq]
  omega

theorem ofInt_toInt (i : Int) : (Dec.ofInt i).toInt = i := by
  unfold Dec.ofInt Dec.toInt
  by_cases h : i < 0 <;> simp [h] <;> omega

theorem ofInt_lt (a b : Int) : (Dec.ofInt a).lt (Dec.ofInt b) = decide (a < b) := by
  simp only [Dec.lt, ofInt_toInt]
  simp only [Dec.ofInt, Int.pow_zero, Int.mul_one]
theorem ofInt_le (a b : Int) : (Dec.ofInt a).le (Dec.ofInt b) = decide (a ≤ b) := by
  simp only [Dec.le, ofInt_toInt]
  simp only [Dec.ofInt, Int.pow_zero, Int.mul_one]

theorem ofInt_toRat (i : Int) : (Dec.ofInt i).toRat = (i : Rat) := by
  unfold Dec.toRat
  rw [ofInt_toInt]
  have h := Rat.mul_div_cancel (a := (i : Rat)) (b := 1) (by decide)
  rw [Rat.mul_one] at h
  simpa [Dec.ofInt] using h

theorem rat_add_div (A B T : Rat) (hT : T ≠ 0) : (A * T + B) / T = A + B / T := by
  rw [Rat.div_def, Rat.add_mul, ← Rat.div_def, ← Rat.div_def, Rat.mul_div_cancel hT]

theorem dec_value (neg : Bool) (ip fp : Str) :
    Dec.toRat ⟨neg, posVal (ip ++ fp), fp.length⟩ =
      (if neg then -1 else 1) * ((posVal ip : Rat) + (posVal fp : Rat) / (10 : Rat) ^ fp.length) := by
  have hT : (10 : Rat) ^ fp.length ≠ 0 := Rat.ne_of_gt (ten_pow_pos _)
  have key : ((posVal (ip ++ fp) : Nat) : Rat) / (10 : Rat) ^ fp.length =
      (posVal ip : Rat) + (posVal fp : Rat) / (10 : Rat) ^ fp.length := by
    rw [posVal_append, Rat.natCast_add, Rat.natCast_mul, Rat.natCast_pow]
    exact rat_add_div _ _ _ hT
  unfold Dec.toRat Dec.toInt
  cases neg
  · simp only [Bool.false_eq_true, if_false, Rat.intCast_natCast, key, Rat.one_mul]
  · simp only [if_true, Rat.intCast_neg, Rat.intCast_natCast, Rat.div_def, Rat.neg_mul] at key ⊢
    rw [key, Rat.one_mul]

theorem decPlainAbs_body (c : Str) (scale : Nat) (hne : c ≠ []) (hd : ∀ x ∈ c, isDig x = true) :
    ∃ ip fp, DecBody (decPlainAbs c scale) ip fp ∧ posVal (ip ++ fp) = posVal c ∧ fp.length = scale := by
  unfold decPlainAbs
  by_cases h1 : scale = 0
  · rw [if_pos h1]
    exact ⟨c, [], ⟨hd, fun _ h => absurd h List.not_mem_nil, .inl ⟨rfl, rfl, hne⟩⟩, by rw [List.append_nil], h1.symm⟩
  rw [if_neg h1]
  by_cases h2 : c.length > scale
  · rw [if_pos h2]
    refine ⟨c.take (c.length - scale), c.drop (c.length - scale),
      ⟨fun x hx => hd x (List.mem_of_mem_take hx), fun x hx => hd x (List.mem_of_mem_drop hx),
        .inr ⟨rfl, .inl fun e => ?_⟩⟩,
      by rw [List.take_append_drop], by rw [List.length_drop, Nat.sub_sub_self (Nat.le_of_lt h2)]⟩
    have := congrArg List.length e
    simp only [List.length_take, List.length_nil] at this
    omega
  · rw [if_neg h2]
    obtain ⟨z1, z2⟩ := zeroPad_spec (scale - c.length) c hd
    refine ⟨['0'], _, ⟨by simp; decide, z1, .inr ⟨rfl, .inl (by simp)⟩⟩, ?_,
      by rw [List.length_append, List.length_replicate, Nat.sub_add_cancel (Nat.le_of_not_lt h2)]⟩
    rw [List.cons_append, List.nil_append, posVal, z2]
    simp [digVal]

/-- `decimal_to_python(python_to_decimal(d)) = d`: same sign (also of a negative zero), coefficient and exponent -/
theorem parseDec_decPlain (d : Dec) : parseDec (decPlain d) = some d := by
  obtain ⟨hc, hne, hd⟩ := natDigits_spec d.coef
  obtain ⟨ip, fp, hb, hv, hl⟩ := decPlainAbs_body (natDigits d.coef) d.scale hne hd
  rw [parseDec_iff_decLex]
  refine ⟨_, _, ip, fp, rfl, by cases d.neg <;> simp, hb, ?_⟩
  rw [hv, hc, hl]
  cases d with | mk n c s => cases n <;> simp

theorem lookupBool_some {table : List (String × Bool)} {s : Str} {b : Bool} (h : lookupBool table s = some b) :
    ∃ e ∈ table, e.1.toList = s ∧ e.2 = b := by
  obtain ⟨e, he, rfl⟩ := Option.map_eq_some_iff.mp h
  exact ⟨e, List.mem_of_find?_eq_some he, by simpa using List.find?_some he, rfl⟩

theorem lookupBool_encBool (table : List (String × Bool))
    (h : table = [("false", false), ("0", false), ("true", true), ("1", true)]) (b : Bool) :
    lookupBool table (encBool b) = some b := by
  subst h; cases b <;> decide +kernel

end XsVerif.Datatypes
