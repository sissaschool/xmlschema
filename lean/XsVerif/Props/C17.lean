/-
  C17 — names survive prefix mapping: decoded names resolve back to the same QNames.

  Reading of the property.  A key of decoded data is produced by `mapQName` in the mapper state the
  validators have set for the node (`visit`, `decodeT`).  A reader of the data resolves it by the XML
  Namespaces rules (`resolveElem` / `resolveAttr`; on whole data trees `readItem`) with the declarations the
  data reports, which in stacked mode are the mapper's `namespaces` (`stack_discipline`: they are exactly the
  fold of the xmlns declarations on the path root → node, and each element reports exactly its own
  declarations).  The name survives iff the resolution gives back the expanded name; this is reduced to the
  invariant `ReverseOk` (`roundtrip_*`), which every mapper operation preserves (`ops_inv`: for the code as it
  is now, unconditionally, in every xmlns_processing mode).  Collapsed / root-only / none processing keep ONE
  map that only grows (`flat_*`): names resolve against the map reported at the root.  The encoders resolve
  every key exactly as the reader does (`encoder_reads_data`), hence encode ∘ decode restores the expanded names
  (`encode_decode_names_partial`).  Where the code falls short of the full statement the `_partial` /
  `_counterexample` pairs show the exact gap (findings C17-F4 and F9; C17-F7 for
  `AttrRule.current`, which — whatever the name — is the attribute rule before ec7627c).
-/
import XsVerif.Model.NsMapper
import XsVerif.Lemmas.NsMapper
import XsVerif.Lemmas.NsStack
import XsVerif.Lemmas.NsSpec
import XsVerif.Lemmas.NsInv
import XsVerif.Lemmas.NsCollapse
import XsVerif.Lemmas.NsEncode
import XsVerif.Lemmas.NsDenote
import XsVerif.Lemmas.NsEncodeG

namespace XsVerif.Props.C17
open XsVerif.NsMapper XsVerif.NsMapper.Map XsVerif.NsMapper.Stack

/-- An element name mapped by a consistent mapper resolves back to itself.  (A name in no namespace
    can only occur where the default namespace is unset — namespace well-formedness.) -/
theorem roundtrip_elem (m : Mapper) (q : QN) (hr : ReverseOk m.ns m.rev)
    (hd : q.ns = "" → DefaultUnset m.ns) : resolveElem m.ns (mapQName m q) = some q :=
  roundtrip_elem_grows m q m.ns hr (grows_refl _) hd

example : resolveElem [("p", "u1"), ("q", "u1")] (mapQName ⟨[("p", "u1"), ("q", "u1")], [("u1", "q")], []⟩ ⟨"u1", "a"⟩)
    = some ⟨"u1", "a"⟩ := by decide +kernel

/-  Full statement for attributes (false for `mapQName`, the attribute rule before ec7627c: finding C17-F7):
      ∀ m q, ReverseOk m.ns m.rev → resolveAttr m.ns (mapQName m q) = some q
    An attribute whose namespace has the *empty* prefix recorded is emitted unprefixed and then
    denotes the attribute in no namespace. -/
theorem roundtrip_attr_partial (m : Mapper) (q : QN) (hr : ReverseOk m.ns m.rev)
    (hguard : q.ns ≠ "" → m.rev.get q.ns ≠ some "") : resolveAttr m.ns (mapQName m q) = some q :=
  roundtrip_attr_grows_partial m q m.ns hr (grows_refl _) hguard

example : resolveAttr [("", "u1"), ("p", "u1")] (mapQName ⟨[("", "u1"), ("p", "u1")], [("u1", "p")], []⟩ ⟨"u1", "x"⟩)
    = some ⟨"u1", "x"⟩ := by decide +kernel

/-- `<a xmlns="u1" xmlns:p="u1" p:x="v"/>`: the reverse map built by `__init__` records the first
    prefix (the default one) for u1, so `{u1}x` is emitted as `x`, which denotes the unqualified `x`. -/
theorem roundtrip_attr_counterexample :
    let ns : Map := [("", "u1"), ("p", "u1")]
    let m : Mapper := { ns, rev := mkReverse ns }
    ReverseOk m.ns m.rev ∧ resolveAttr m.ns (mapQName m ⟨"u1", "x"⟩) = some ⟨"", "x"⟩ := by
  exact ⟨reverseOk_of_all (by decide +kernel), by decide +kernel⟩

/-! ### the invariant is kept by every operation -/

/-- `__init__` establishes the invariant. -/
theorem init_inv (ns : Map) (hn : Map.Nodup ns) : Inv { ns, rev := mkReverse ns } :=
  ⟨⟨mkReverse_ok ns hn, hn⟩, fun _ h => nomatch h⟩

/-- **Stacked mode keeps the reverse map consistent**: with the repointing rule of the tree under check
    (`Variant.repaired`, fix b20c29d) always; with the rule as it was before that fix when the element does
    not rebind two prefixes of one URI. -/
theorem setContext_stacked_inv (v : Variant) (m : Mapper) (obj level : Nat) (decl : Xmlns)
    (hi : Inv m) (hd : NodupKeys decl)
    (hv : v = .repaired ∨ SingleRebind (nsAfterPop m obj level) decl) :
    Inv (setContext v .stacked m obj level decl).m := by
  unfold nsAfterPop at hv
  rcases hres : popLoop obj level m.stack none with ⟨stack, r, found⟩
  rw [hres] at hv
  have hp := popLoop_good hres hi.2 (fun _ h => nomatch h)
  have hcur : Good (r.getD (m.ns, m.rev)).1 (r.getD (m.ns, m.rev)).2 := by
    cases r with
    | none => exact hi.1
    | some x => exact hp.2 x rfl
  cases found with
  | some x => rw [(setContext_of_found hres v .stacked decl).1]; exact ⟨hcur, hp.1⟩
  | none =>
    rw [setContext_stacked_of_pop hres]
    refine entered_inv obj level hcur hp.1 hd ?_
    cases r <;> exact hv

example : Inv (setContext .repaired .stacked ⟨[("b", "u"), ("p0", "u"), ("k1", "u")], [("u", "b")], []⟩ 1 1
    [("k1", "x"), ("p0", "y")]).m :=
  setContext_stacked_inv _ _ _ _ _
    ⟨⟨reverseOk_of_all (by decide +kernel), by decide +kernel⟩, fun _ h => nomatch h⟩ (by decide +kernel) (Or.inl rfl)

/-- Finding C17-F2 (fixed by b20c29d): the rule as it was before the fix repoints to a prefix that the same
    element rebinds.  `<… xmlns:b="u" xmlns:p0="u" xmlns:k1="u"><g xmlns:k1="x" xmlns:p0="y"><b:e/>` :
    `{u}e` is emitted as `k1:e`, which denotes `{x}e`.  The repaired rule emits `b:e`. -/
theorem reverse_stale_counterexample :
    let m : Mapper := ⟨[("b", "u"), ("p0", "u"), ("k1", "u")], [("u", "k1")], []⟩
    let decl : Xmlns := [("k1", "x"), ("p0", "y")]
    let m1 := (setContext .pinned .stacked m 1 1 decl).m
    let m2 := (setContext .repaired .stacked m 1 1 decl).m
    mapQName m1 ⟨"u", "e"⟩ = .pre "k1" "e" ∧ resolveElem m1.ns (.pre "k1" "e") = some ⟨"x", "e"⟩ ∧
    mapQName m2 ⟨"u", "e"⟩ = .pre "b" "e" ∧ resolveElem m2.ns (.pre "b" "e") = some ⟨"u", "e"⟩ := by
  decide +kernel

/-- **The tree under check, unconditionally**: `set_xmlns_context` in stacked mode keeps every recorded prefix
    bound to its URI — the `SingleRebind` side condition of the pre-fix rule is gone (fix b20c29d). -/
theorem setContext_stacked_inv_current (m : Mapper) (obj level : Nat) (decl : Xmlns)
    (hi : Inv m) (hd : NodupKeys decl) : Inv (setContext .repaired .stacked m obj level decl).m :=
  setContext_stacked_inv .repaired m obj level decl hi hd (Or.inl rfl)

/-- the very state and declarations of the C17-F2 witness satisfy the hypotheses -/
example : Inv (setContext .repaired .stacked ⟨[("b", "u"), ("p0", "u"), ("k1", "u")], [("u", "k1")], []⟩ 1 1
    [("k1", "x"), ("p0", "y")]).m :=
  setContext_stacked_inv_current _ _ _ _ ⟨⟨reverseOk_of_all (by decide +kernel), by decide +kernel⟩, fun _ h => nomatch h⟩ (by decide +kernel)

/-  `__setitem__` as it was BEFORE fix b20c29d, full statement (false, finding C17-F5, fixed):
      ∀ m p u, Inv m → Inv (setItemPre m p u)
    Rebinding the recorded prefix of another URI left that record stale. -/
theorem setItemPre_inv_partial (m : Mapper) (p u : String) (hi : Inv m)
    (hguard : ∀ old, m.ns.get p = some old → old = u ∨ m.rev.get old ≠ some p) :
    Inv (setItemPre m p u) := by
  obtain ⟨⟨hr, hn⟩, hs⟩ := hi
  refine ⟨⟨reverseOk_set fun u' p' hne h => ?_, nodup_set hn _ _⟩, hs⟩
  have hb := hr u' p' h
  by_cases hp : p = p'
  · subst hp
    exact (hguard u' hb).elim (fun e => absurd e hne) (fun e => absurd h e)
  · rw [get_set_ne _ _ hp]; exact hb

example : Inv (setItemPre ⟨[("p", "u1"), ("q", "u2")], [("u1", "p"), ("u2", "q")], []⟩ "k" "u1") :=
  setItemPre_inv_partial _ _ _ ⟨⟨reverseOk_of_all (by decide +kernel), by decide +kernel⟩, fun _ h => nomatch h⟩
    (by intro old h; simp [Map.get] at h)

theorem setItemPre_counterexample :
    let m : Mapper := ⟨[("p", "u1"), ("q", "u1")], [("u1", "p")], []⟩
    let m1 := setItemPre m "p" "u2"
    mapQName m1 ⟨"u1", "e"⟩ = .pre "p" "e" ∧ resolveElem m1.ns (.pre "p" "e") = some ⟨"u2", "e"⟩ := by
  decide +kernel

/-- `__setitem__` of the tree under check keeps the invariant. -/
theorem setItem_inv (m : Mapper) (p u : String) (hi : Inv m) : Inv (setItem m p u) := by
  obtain ⟨⟨hr, hn⟩, hs⟩ := hi
  have hn1 := nodup_set hn p u
  refine ⟨⟨reverseOk_set fun u' p' hne h => ?_, hn1⟩, hs⟩
  have keep : m.rev.get u' = some p' → (p' = p → u' = u) → (m.ns.set p u).get p' = some u' := fun h' hq => by
    rw [get_set_ne _ _ fun e => hne (hq e.symm)]
    exact hr u' p' h'
  cases hg : m.ns.get p with
  | none =>
    rw [hg] at h
    exact keep h fun e => by rw [← e, hr u' p' h] at hg; cases hg
  | some old =>
    rw [hg] at h
    rcases get_rerecord_if hr hg h with ⟨e, _, hk⟩ | ⟨h', hq⟩
    · -- the record of the URI that lost `p` is recomputed from the new map
      obtain ⟨_, hg', hp⟩ := lastKey_get hn1 hk
      exact e ▸ of_decide_eq_true hp ▸ hg'
    · exact keep h' hq

example : mapQName (setItem ⟨[("p", "u1"), ("q", "u1")], [("u1", "p")], []⟩ "p" "u2") ⟨"u1", "e"⟩
    = .pre "q" "e" := by decide +kernel

/-- `__delitem__` keeps the invariant (it recomputes the record of the URI that lost a prefix). -/
theorem delItem_inv (m m' : Mapper) (p : String) (hi : Inv m) (h : delItem m p = some m') : Inv m' := by
  obtain ⟨⟨hr, hn⟩, hs⟩ := hi
  unfold delItem at h
  cases hg : m.ns.get p with
  | none => rw [hg] at h; cases h
  | some uri =>
    rw [hg] at h
    dsimp only at h
    split at h
    · cases h
      have hn1 := nodup_erase hn p
      refine ⟨⟨fun u' p' h' => ?_, hn1⟩, hs⟩
      rcases get_rerecord h' with ⟨e, hk⟩ | ⟨e, h2⟩
      · obtain ⟨_, hg', hp⟩ := lastKey_get hn1 hk
        rw [e]
        exact of_decide_eq_true hp ▸ hg'
      ·
        have hb := hr u' p' h2
        rw [get_erase, if_neg fun e' => by subst e'; rw [hb] at hg; exact e (Option.some.inj hg)]
        exact hb
    · cases h

example : ∃ m', delItem ⟨[("p", "u1"), ("q", "u1")], [("u1", "p")], []⟩ "p" = some m' ∧
    mapQName m' ⟨"u1", "e"⟩ = .pre "q" "e" := ⟨_, rfl, by decide +kernel⟩


/-! ### stack discipline (stacked mode, both repointing rules) -/

/-- **At every element the namespaces in force are exactly the declarations in scope.**
    For every document tree (sibling elements are distinct objects) decoded from a mapper with an empty context
    stack, the maps in force when the element's key is produced and when its attribute keys are produced are both
    the fold of the xmlns declarations on the path root → element over the initial map (`specObs`). -/
theorem stack_discipline (v : Variant) (t : Tree) (m0 : Mapper) (h0 : m0.stack = []) (hd : SibDistinct t) :
    (visit v .stacked 0 t m0).2.map proj = specObs m0.ns t :=
  (visit_spec v t hd 0 m0 [] m0.ns m0.rev [] (fun _ h => nomatch h) (Or.inl ⟨h0, rfl, rfl⟩) (fun h => nomatch h)).2

/-- **Leaving a subtree restores both maps and the stack exactly.**  After the whole visit of an element at
    level `L`, the next call for a sibling puts the mapper back into the state it had before the element —
    `namespaces`, `_reverse` and `_xmlns_contexts` are equal, not just equivalent. -/
theorem subtree_restores (v : Variant) (t : Tree) (hd : SibDistinct t) (L : Nat) (m : Mapper)
    (hb : Below L m.stack) (sibling : Nat) (hne : sibling ≠ Tree.id t) :
    (setContext v .stacked (visit v .stacked L t m).1 sibling L []).m = m := by
  have h := (visit_spec v t hd L m m.stack m.ns m.rev [] hb (Or.inl ⟨rfl, rfl, rfl⟩) (fun h => nomatch h)).1
  rw [enter_spec v sibling [] hb h fun h' => hne (List.mem_singleton.mp h')]
  rfl

/-! ### end to end: every key of the decoded document resolves to the name of its node -/

/-- an observation was produced by consistent mapper states -/
def ObsOk (o : Obs) : Prop :=
  (∃ m1, Inv m1 ∧ o.key = mapQName m1 o.tag ∧ o.nsAtKey = m1.ns) ∧
  (∃ m3, Inv m3 ∧ o.nsAtAttrs = m3.ns ∧ (∀ a ∈ o.attrs, a.2 = mapQName m3 a.1) ∧
    (∀ a ∈ o.attrsR, a.2 = mapAttr .repaired m3 a.1))

theorem obsOk_obsOf {id L : Nat} {tag : QN} {attrs : List QN} {r1 r3 : SetResult} (i1 : Inv r1.m) (i3 : Inv r3.m) :
    ObsOk (obsOf id L tag attrs r1 r3) :=
  ⟨⟨r1.m, i1, rfl, rfl⟩, ⟨r3.m, i3, rfl, fun _ => mem_map_graph, fun _ => mem_map_graph⟩⟩

def InvSpec (t : Tree) : Prop :=
  DeclsNodup t → ∀ (L : Nat) (m : Mapper), Inv m →
    Inv (visit .repaired .stacked L t m).1 ∧ ∀ o ∈ (visit .repaired .stacked L t m).2, ObsOk o

theorem visitList_inv : ∀ (ts : List Tree), DeclsNodupList ts → ∀ (L : Nat) (m : Mapper), Inv m →
    Inv (visitList .repaired .stacked L ts m).1 ∧ ∀ o ∈ (visitList .repaired .stacked L ts m).2, ObsOk o := by
  intro ts
  induction ts using Tree.rec_1 (motive_1 := InvSpec) with
  | node id tag attrs decl ch ih =>
    intro hk L m hi
    have i1 := setContext_stacked_inv_current m id L decl hi hk.1
    obtain ⟨i2, o2⟩ := ih hk.2 (L + 1) _ i1
    have i3 := setContext_stacked_inv_current _ id L decl i2 hk.1
    rw [visit_node]
    refine ⟨i3, fun o ho => ?_⟩
    rcases List.mem_cons.mp ho with e | e
    · rw [e]; exact obsOk_obsOf i1 i3
    · exact o2 o e
  | nil => exact fun _ _ _ hi => ⟨hi, fun _ h => nomatch h⟩
  | cons t ts iht ihts =>
    intro hk L m hi
    obtain ⟨i1, o1⟩ := iht hk.1 L m hi
    obtain ⟨i2, o2⟩ := ihts hk.2 L _ i1
    rw [visitList_cons]
    exact ⟨i2, fun o ho => (List.mem_append.mp ho).elim (o1 o) (o2 o)⟩

theorem visit_inv (t : Tree) : InvSpec t := by
  intro hk L m hi
  obtain ⟨h1, h2⟩ := visitList_inv [t] ⟨hk, trivial⟩ L m hi
  exact ⟨h1, fun o ho => h2 o (List.mem_append_left _ ho)⟩

/-- **Decoded names resolve back to the same QNames** (stacked mode, repaired repointing rule).
    For every document (distinct prefixes per element) decoded from a consistent mapper: the key of every
    element, resolved by the XML Namespaces rules with the namespaces in force at the element — which by
    `stack_discipline` are exactly the declarations in scope — is the element's expanded name; names in
    no namespace are required to occur only where the default namespace is unset (well-formedness). -/
theorem decoded_names_resolve (t : Tree) (m0 : Mapper) (hi : Inv m0) (hk : DeclsNodup t) :
    ∀ o ∈ (visit .repaired .stacked 0 t m0).2,
      (o.tag.ns = "" → DefaultUnset o.nsAtKey) → resolveElem o.nsAtKey o.key = some o.tag := by
  intro o ho hd
  obtain ⟨⟨m1, i1, hkey, hns⟩, _⟩ := (visit_inv t hk 0 m0 hi).2 o ho
  rw [hkey, hns]
  exact roundtrip_elem m1 o.tag i1.1.1 (by rw [← hns]; exact hd)

example : (visit .pinned .stacked 0
    (.node 0 ⟨"", "r"⟩ [] [("p", "u1")] [.node 1 ⟨"u2", "c"⟩ [] [("p", "u2")] [], .node 2 ⟨"u1", "c"⟩ [] [] []])
    ⟨[("p", "u1")], [("u1", "p")], []⟩).2.map (fun o => (o.id, o.key)) =
    [(0, .loc "r"), (1, .pre "p" "c"), (2, .pre "p" "c")] := by decide +kernel


/-! ### attribute keys, whole documents (stacked mode) -/

/-  Full statement for the attribute keys of a document (false for the keys `o.attrs` of the attribute rule
    before ec7627c, finding C17-F7; for the keys `o.attrsR` of the rule since then it is `decoded_attrs_resolve`):
      ∀ o ∈ (visit .repaired .stacked 0 t m0).2, ∀ a ∈ o.attrs, resolveAttr o.nsAtAttrs a.2 = some a.1 -/
/-- **Attribute keys resolve back** for every document and every attribute that does not live in the namespace
    which is the default namespace of its scope (the reader's rule: the default namespace never applies to
    attributes, so such an attribute must be written with a prefix). -/
theorem decoded_attrs_resolve_partial (t : Tree) (m0 : Mapper) (hi : Inv m0) (hk : DeclsNodup t) :
    ∀ o ∈ (visit .repaired .stacked 0 t m0).2, ∀ a ∈ o.attrs,
      (a.1.ns ≠ "" → o.nsAtAttrs.get "" ≠ some a.1.ns) → resolveAttr o.nsAtAttrs a.2 = some a.1 := by
  intro o ho a ha hg
  obtain ⟨_, ⟨m3, i3, hns, hat, _⟩⟩ := (visit_inv t hk 0 m0 hi).2 o ho
  rw [hat a ha, hns]
  exact roundtrip_attr_grows_of_default m3 a.1 _ i3.1.1 (grows_refl _) (hns ▸ hg)

example : ∀ o ∈ (visit .repaired .stacked 0 (.node 0 ⟨"", "a"⟩ [⟨"u1", "x"⟩, ⟨"", "y"⟩] [("p", "u1"), ("", "u2")] [])
    ⟨[("p", "u1"), ("", "u2")], [("u1", "p"), ("u2", "")], []⟩).2, ∀ a ∈ o.attrs,
      resolveAttr o.nsAtAttrs a.2 = some a.1 := by decide +kernel

/-- `<a xmlns="u1" xmlns:p="u1" p:x="v"/>` as a whole document: the key of `{u1}x` is the bare `x`. -/
theorem decoded_attrs_counterexample :
    let t : Tree := .node 0 ⟨"u1", "a"⟩ [⟨"u1", "x"⟩] [("", "u1"), ("p", "u1")] []
    let m0 : Mapper := ⟨[("", "u1"), ("p", "u1")], [("u1", "")], []⟩
    (initMapper .stacked [] [("", "u1"), ("p", "u1")]).1 = m0 ∧ Inv m0 ∧ DeclsNodup t ∧
    (visit .repaired .stacked 0 t m0).2.map (fun o => o.attrs.map fun a => (a.2, resolveAttr o.nsAtAttrs a.2)) =
      [[(.loc "x", some ⟨"", "x"⟩)]] := by
  refine ⟨by decide +kernel, ⟨⟨reverseOk_of_all (by decide +kernel), by decide +kernel⟩, fun _ h => nomatch h⟩, ⟨by decide +kernel, trivial⟩, by decide +kernel⟩

/-- **With the repaired attribute rule every attribute key of every document resolves back** (no side
    condition): the rule since ec7627c, keys `o.attrsR`. -/
theorem decoded_attrs_resolve (t : Tree) (m0 : Mapper) (hi : Inv m0) (hk : DeclsNodup t) :
    ∀ o ∈ (visit .repaired .stacked 0 t m0).2, ∀ a ∈ o.attrsR, resolveAttr o.nsAtAttrs a.2 = some a.1 := by
  intro o ho a ha
  obtain ⟨_, ⟨m3, i3, hns, _, hat⟩⟩ := (visit_inv t hk 0 m0 hi).2 o ho
  rw [hat a ha, hns]
  exact roundtrip_attrR_grows m3 a.1 m3.ns i3.1.1 i3.1.2 (grows_refl _)

example : (visit .repaired .stacked 0 (.node 0 ⟨"u1", "a"⟩ [⟨"u1", "x"⟩] [("", "u1"), ("p", "u1")] [])
    (initMapper .stacked [] [("", "u1"), ("p", "u1")]).1).2.map (fun o => o.attrsR.map (·.2)) = [[.pre "p" "x"]] := by
  decide +kernel

/-! ### every mapper operation, every processing mode (the tree under check) -/

/-- the operations of the mapper API that change its state -/
inductive Op where
  | ctx (obj level : Nat) (decl : Xmlns)
  | set (p u : String)
  | del (p : String)

def applyOp (mode : Mode) (m : Mapper) : Op → Mapper
  | .ctx o l d => (setContext .repaired mode m o l d).m
  | .set p u => setItem m p u
  | .del p => match delItem m p with
    | some m' => m'
    | none => m            -- KeyError

theorem applyOp_inv (mode : Mode) (o : Op) (m : Mapper) (hi : Inv m) (hs : mode ≠ .stacked → m.stack = [])
    (hk : ∀ ob l d, o = .ctx ob l d → NodupKeys d) :
    Inv (applyOp mode m o) ∧ (mode ≠ .stacked → (applyOp mode m o).stack = []) := by
  cases o with
  | ctx ob l d =>
    by_cases hm : mode = .stacked
    · subst hm
      exact ⟨setContext_stacked_inv_current m ob l d hi (hk ob l d rfl), fun h => absurd rfl h⟩
    · have hf := setContext_flat .repaired mode hm m ob l d hi (hs hm)
      exact ⟨hf.1, fun _ => hf.2.1⟩
  | set p u => exact ⟨setItem_inv m p u hi, hs⟩
  | del p =>
    dsimp only [applyOp]
    cases hdel : delItem m p with
    | none => exact ⟨hi, hs⟩
    | some m' => exact ⟨delItem_inv m m' p hi hdel, fun h => (delItem_stack hdel).trans (hs h)⟩

/-- **Every sequence of operations keeps every recorded prefix bound to its URI** — `set_xmlns_context`
    (distinct prefixes per declaration list), `__setitem__`, `__delitem__`, in every xmlns_processing mode,
    starting from any consistent mapper without contexts (e.g. `__init__`). -/
theorem ops_inv (mode : Mode) (ops : List Op) (m : Mapper) (hi : Inv m) (hs : m.stack = [])
    (hk : ∀ o ∈ ops, ∀ ob l d, o = .ctx ob l d → NodupKeys d) :
    Inv (ops.foldl (applyOp mode) m) := by
  suffices h : ∀ (ops : List Op) (m : Mapper), Inv m → (mode ≠ .stacked → m.stack = []) →
      (∀ o ∈ ops, ∀ ob l d, o = .ctx ob l d → NodupKeys d) → Inv (ops.foldl (applyOp mode) m) from
    h ops m hi (fun _ => hs) hk
  intro ops
  induction ops with
  | nil => exact fun m hi _ _ => hi
  | cons o rest ih =>
    intro m hi hs hk
    obtain ⟨i1, s1⟩ := applyOp_inv mode o m hi hs (hk o List.mem_cons_self)
    exact ih _ i1 s1 fun o' ho' => hk o' (List.mem_cons_of_mem _ ho')

example : Inv ([Op.ctx 1 1 [("p0", "u"), ("k1", "u")], .ctx 2 2 [("k1", "x"), ("p0", "y")], .set "b" "z", .del "p0"].foldl
    (applyOp .stacked) ⟨[("b", "u")], [("u", "b")], []⟩) :=
  ops_inv _ _ _ ⟨⟨reverseOk_of_all (by decide +kernel), by decide +kernel⟩, fun _ h => nomatch h⟩ rfl (by
    intro o ho ob l d e; subst e
    simp only [List.mem_cons, Op.ctx.injEq, List.not_mem_nil, or_false, reduceCtorEq] at ho
    rcases ho with ⟨_, _, rfl⟩ | ⟨_, _, rfl⟩ <;> decide +kernel)

/-! ### collapsed / root-only / none processing: one map that only grows -/

/-- generated prefixes never collide: a slot reported fresh is not a key of the map, a slot reported bound is
    bound to the very URI -/
theorem collapsed_prefixes_fresh {ns : Map} {uri : String} {f : Nat} {p q : String} :
    (findSlot ns uri f p = .fresh q → ns.get q = none) ∧ (findSlot ns uri f p = .bound q → ns.get q = some uri) :=
  findSlot_spec

example : findSlot [("p", "u1"), ("p0", "u2")] "u3" 3 "p" = .fresh "p1" := by decide +kernel

/-- **Collapsed processing never changes a binding or a record**: after the whole document every binding of the
    initial map and every reverse record is still there (colliding prefixes are renamed instead), the mapper is
    consistent and holds no contexts; the same for root-only and none. -/
theorem flat_bindings_kept (v : Variant) (mode : Mode) (hm : mode ≠ .stacked) (t : Tree) (m0 : Mapper)
    (hi : Inv m0) (h0 : m0.stack = []) :
    Inv (visit v mode 0 t m0).1 ∧ (visit v mode 0 t m0).1.stack = [] ∧
    Grows m0.ns (visit v mode 0 t m0).1.ns ∧ Grows m0.rev (visit v mode 0 t m0).1.rev :=
  let h := visit_flat v mode hm t 0 m0 hi h0
  ⟨h.1, h.2.1, h.2.2.1, h.2.2.2.1⟩

example : (visit .repaired .collapsed 0 (.node 0 ⟨"u1", "a"⟩ [] [("p", "u1")] [.node 1 ⟨"u2", "b"⟩ [] [("p", "u2")] []])
    ⟨[("p", "u1")], [("u1", "p")], []⟩).1.ns = [("p", "u1"), ("p0", "u2")] := by decide +kernel

/-- the map the data reports at the root (`get_effective_xmlns` at level 0) is the final map -/
theorem flat_root_reports_final (v : Variant) (mode : Mode) (t : Tree) (m0 : Mapper) :
    ((visit v mode 0 t m0).2.head?).map (·.nsAtAttrs) = some (visit v mode 0 t m0).1.ns := by
  cases t with
  | node id tag attrs decl ch => rfl

/-  Full statement (false for the code as it is, finding C17-F4):
      ∀ o ∈ (visit v mode 0 t m0).2, resolveElem (visit v mode 0 t m0).1.ns o.key = some o.tag
    even for namespace-well-formed documents: a name in no namespace below an `xmlns=""` is emitted bare while the
    single map keeps the outer default namespace. -/
/-- **Collapsed / root-only / none: every element key of every document resolves, with the one map the data
    reports at the root, to the expanded name of its node** — for names in a namespace always (a namespace without
    a prefix in the map stays in `{uri}local` form); for a name in no namespace when the final map has no default
    namespace. -/
theorem flat_names_resolve_partial (v : Variant) (mode : Mode) (hm : mode ≠ .stacked) (t : Tree) (m0 : Mapper)
    (hi : Inv m0) (h0 : m0.stack = []) :
    ∀ o ∈ (visit v mode 0 t m0).2,
      (o.tag.ns = "" → DefaultUnset (visit v mode 0 t m0).1.ns) →
      resolveElem (visit v mode 0 t m0).1.ns o.key = some o.tag := by
  intro o ho hd
  obtain ⟨m1, m3, i1, _, g1, _, _, hkey, _⟩ := (visit_flat v mode hm t 0 m0 hi h0).2.2.2.2 o ho
  rw [hkey]
  exact roundtrip_elem_grows m1 o.tag _ i1.1.1 g1 hd

example : ∀ o ∈ (visit .repaired .collapsed 0
    (.node 0 ⟨"u1", "a"⟩ [] [("p", "u1")] [.node 1 ⟨"u2", "b"⟩ [] [("p", "u2")] [], .node 2 ⟨"u1", "b"⟩ [] [] []])
    ⟨[("p", "u1")], [("u1", "p")], []⟩).2,
    resolveElem [("p", "u1"), ("p0", "u2")] o.key = some o.tag := by decide +kernel

/-- `<a xmlns="u1"><a xmlns=""><b/></a></a>` collapsed: `b` (no namespace) is emitted as `b`, which the reported
    map reads as `{u1}b`. -/
theorem flat_names_counterexample :
    let t : Tree := .node 0 ⟨"u1", "a"⟩ [] [("", "u1")] [.node 1 ⟨"", "a"⟩ [] [("", "")] [.node 2 ⟨"", "b"⟩ [] [] []]]
    let m0 : Mapper := ⟨[("", "u1")], [("u1", "")], []⟩
    let r := visit .repaired .collapsed 0 t m0
    (initMapper .collapsed [] [("", "u1")]).1 = m0 ∧ Inv m0 ∧ r.2.map (fun o => (o.key, resolveElem r.1.ns o.key)) =
      [(.loc "a", some ⟨"u1", "a"⟩), (.loc "a", some ⟨"u1", "a"⟩), (.loc "b", some ⟨"u1", "b"⟩)] := by
  refine ⟨by decide +kernel, ⟨⟨reverseOk_of_all (by decide +kernel), by decide +kernel⟩, fun _ h => nomatch h⟩, by decide +kernel⟩

/-- attribute keys in the one-map modes: same side condition as in stacked mode, against the final map -/
theorem flat_attrs_resolve_partial (v : Variant) (mode : Mode) (hm : mode ≠ .stacked) (t : Tree) (m0 : Mapper)
    (hi : Inv m0) (h0 : m0.stack = []) :
    ∀ o ∈ (visit v mode 0 t m0).2, ∀ a ∈ o.attrs,
      (a.1.ns ≠ "" → (visit v mode 0 t m0).1.ns.get "" ≠ some a.1.ns) →
      resolveAttr (visit v mode 0 t m0).1.ns a.2 = some a.1 := by
  intro o ho a ha hg
  obtain ⟨m1, m3, _, i3, _, g3, _, _, hat, _⟩ := (visit_flat v mode hm t 0 m0 hi h0).2.2.2.2 o ho
  rw [hat a ha]
  exact roundtrip_attr_grows_of_default m3 a.1 _ i3.1.1 g3 hg

/-- … and with the repaired attribute rule unconditionally -/
theorem flat_attrs_resolve (v : Variant) (mode : Mode) (hm : mode ≠ .stacked) (t : Tree) (m0 : Mapper)
    (hi : Inv m0) (h0 : m0.stack = []) :
    ∀ o ∈ (visit v mode 0 t m0).2, ∀ a ∈ o.attrsR, resolveAttr (visit v mode 0 t m0).1.ns a.2 = some a.1 := by
  intro o ho a ha
  obtain ⟨m1, m3, _, i3, _, g3, _, _, _, hat, _⟩ := (visit_flat v mode hm t 0 m0 hi h0).2.2.2.2 o ho
  rw [hat a ha]
  exact roundtrip_attrR_grows m3 a.1 _ i3.1.1 i3.1.2 g3

example : ∀ o ∈ (visit .repaired .collapsed 0 (.node 0 ⟨"u1", "a"⟩ [⟨"u1", "x"⟩] [("", "u1"), ("p", "u1")] [])
    (initMapper .collapsed [] [("", "u1"), ("p", "u1")]).1).2, ∀ a ∈ o.attrsR,
    resolveAttr [("", "u1"), ("p", "u1")] a.2 = some a.1 := by decide +kernel

/-- **'none' never looks at the document**: the mapper after any document is the mapper before it. -/
theorem none_constant (v : Variant) (t : Tree) (m0 : Mapper) (h0 : m0.stack = []) :
    (visit v .none 0 t m0).1 = m0 := visitList_none_const v [t] 0 m0 h0

/-- **'root-only' uses the declarations of the root only**: below the root no element changes the mapper. -/
theorem rootOnly_below_root_constant (v : Variant) (ts : List Tree) (L : Nat) (m : Mapper) (h0 : m.stack = []) :
    (visitList v .rootOnly (L + 1) ts m).1 = m := visitList_rootOnly_const v ts (L + 1) m h0 (Nat.succ_ne_zero L)

example : (visit .repaired .rootOnly 0 (.node 0 ⟨"u1", "a"⟩ [] [("p", "u1")] [.node 1 ⟨"u2", "b"⟩ [] [("q", "u2")] []])
    ⟨[("p", "u1")], [("u1", "p")], []⟩).2.map (·.key) = [.pre "p" "a", .braced "u2" "b"] := by decide +kernel

/-! ### process_namespaces / strip_namespaces -/

/-- `process_namespaces=False`: names stay in extended form and denote themselves under any declarations -/
theorem noprocess_names (m : Mapper) (q : QN) (ns : Map) (hd : q.ns = "" → DefaultUnset ns) :
    resolveElem ns (mapQNameCfg { process := false, strip := false } m q) = some q := by
  obtain ⟨u, l⟩ := q
  by_cases h : u = ""
  · subst h
    rcases hd rfl with e | e <;> simp [mapQNameCfg, NameCfg.useNs, resolveElem, e]
  · simp [mapQNameCfg, NameCfg.useNs, resolveElem, h]

theorem mapQNameCfg_strip (c : NameCfg) (hs : c.strip = true) (m : Mapper) (q : QN) :
    mapQNameCfg c m q = .loc q.loc := by
  simp [mapQNameCfg, NameCfg.useNs, hs]

/-- `strip_namespaces=True` does not keep namespace information (outside the property): names of different
    namespaces get the same key, whatever the mapper -/
theorem strip_loses_namespace (m : Mapper) (u1 u2 l : String) :
    mapQNameCfg { process := true, strip := true } m ⟨u1, l⟩ =
    mapQNameCfg { process := true, strip := true } m ⟨u2, l⟩ :=
  (mapQNameCfg_strip _ rfl m ⟨u1, l⟩).trans (mapQNameCfg_strip _ rfl m ⟨u2, l⟩).symm


/-! ### decoded data as a whole: what it denotes, and what the encoders make of it -/

/-- **Decoded data denotes the document.**  For every document (distinct prefixes per element, distinct
    sibling objects) decoded in stacked mode from a consistent mapper, a reader
    that starts from nothing and uses only the xmlns entries the data reports for an item and its
    ancestors resolves every element key and every attribute key to the expanded name of its XML node — with and
    without the pruning of childless items by the default converter (`keep_result_dict`), for names matched by
    wildcards as for declared ones (the model never looks at declarations).  Side conditions (`WellScoped`): a
    name in no namespace occurs only where the default namespace is unset, and — for the attribute rule of the
    tree under check only — no attribute lives in the default namespace of its scope (C17-F7). -/
theorem decoded_data_denotes (a : AttrRule) (prune : Bool) (t : Tree) (m0 : Mapper) (hi : Inv m0)
    (h0 : m0.stack = []) (hk : DeclsNodup t) (hd : SibDistinct t) (hw : WellScoped a m0.ns t) :
    readItem Scope.empty (decodeT .repaired a prune .stacked 0 t m0).2 = docNames t :=
  (decodeT_root a prune (fun _ _ => true) t m0 hi h0 hk hd hw).1

/-- a shadowing document with a childless item whose dictionary the default converter drops -/
example : readItem Scope.empty (decodeT .repaired .current true .stacked 0
    (.node 0 ⟨"u1", "a"⟩ [⟨"u2", "x"⟩] [("p", "u1"), ("q", "u2")]
      [.node 1 ⟨"u2", "b"⟩ [] [("p", "u2")] [.node 3 ⟨"u2", "a"⟩ [] [("k", "u3")] []], .node 2 ⟨"u1", "b"⟩ [] [] []])
    ⟨[("p", "u1"), ("q", "u2")], [("u1", "p"), ("u2", "q")], []⟩).2 =
    [(0, some ⟨"u1", "a"⟩, [some ⟨"u2", "x"⟩]), (1, some ⟨"u2", "b"⟩, []), (3, some ⟨"u2", "a"⟩, []),
     (2, some ⟨"u1", "b"⟩, [])] := by decide +kernel

/-- **The encoders restore exactly the names the data denotes** (stacked mode; every data tree with distinct
    sibling objects, whether or not it came from a decoder): the tag under
    which each item is encoded and the names of its attributes are what the XML-Namespaces reader computes from
    the reported declarations, starting from the encoder's initial map.  `Readable`: every key denotes a name, and
    an unprefixed attribute key that the element's type does not declare occurs only where the default namespace
    is unset (else `unmap_qname(name, xsd_element.attributes)` moves it into the default namespace: C17-F9). -/
theorem encoder_reads_data (v : Variant) (tab : Nat → String → Bool) (item : Item) (e0 : Mapper)
    (h0 : e0.stack = []) (hd : ItemDistinct item) (hr : Readable tab e0.ns.get item) :
    (encodeDoc v .stacked tab item e0).2.map encProj = readItem e0.ns.get item := by
  have h := (encVisitList_spec v tab [item] ⟨hd, trivial⟩ (List.pairwise_singleton _ _)
    0 e0 [] e0.ns e0.rev [] (fun _ h => nomatch h) (At_start h0) (fun _ _ h => nomatch h)).2.2 ⟨hr, trivial⟩
  rw [encodeDoc_eq_list v tab item e0 h0 hr] at h
  exact h.trans (List.append_nil _)

example : (encodeDoc .repaired .stacked (fun _ l => l = "y")
    (.node 0 (.pre "p" "a") true [("p", "u1")] [.loc "y"]
      [.node 1 (.pre "p" "b") true [("p", "u2")] [.pre "p" "x"] [], .node 2 (.pre "p" "b") false [] [] []])
    ⟨[], [], []⟩).2.map encProj =
    [(0, some ⟨"u1", "a"⟩, [some ⟨"", "y"⟩]), (1, some ⟨"u2", "b"⟩, [some ⟨"u2", "x"⟩]), (2, some ⟨"u1", "b"⟩, [])] := by
  decide +kernel

/-- the encoder's stack discipline: the namespaces in force at each item are the fold of the reported xmlns on
    the path root → item over the initial map (one call may pop several contexts: there is no purge call) -/
theorem encoder_scopes (v : Variant) (tab : Nat → String → Bool) (tag : Unmapped) (item : Item) (e0 : Mapper)
    (h0 : e0.stack = []) (hd : ItemDistinct item) (hm : AllMaps item) :
    (encVisit v .stacked tab 0 tag item e0).2.map (fun e => (e.id, e.ns.get)) = encScopes e0.ns.get item := by
  have h := (encVisitList_spec v tab [item] ⟨hd, trivial⟩ (List.pairwise_singleton _ _)
    0 e0 [] e0.ns e0.rev [] (fun _ h => nomatch h) (At_start h0) (fun _ _ h => nomatch h)).2.1 ⟨hm, trivial⟩
  rw [encVisitList_singleton, encVisit_scopes_tag _ _ _ _ _ tag] at h
  exact h.trans (List.append_nil _)

example : (encVisit .repaired .stacked (fun _ _ => false) 0 (.name ⟨"", "r"⟩)
    (.node 0 (.loc "r") true [("p", "u1")]
      [] [.node 1 (.loc "c") true [("p", "u2")] [] [.node 3 (.loc "d") true [("q", "u3")] [] []],
          .node 2 (.loc "c") true [] [] []]) ⟨[], [], []⟩).2.map (fun e => (e.id, e.ns)) =
    [(0, [("p", "u1")]), (1, [("p", "u2")]), (3, [("p", "u2"), ("q", "u3")]), (2, [("p", "u1")])] := by decide +kernel

/-- mapper level: `unmap_qname` undoes `map_qname` on element names -/
theorem unmap_map_elem (m : Mapper) (q : QN) (hr : ReverseOk m.ns m.rev) (hd : q.ns = "" → DefaultUnset m.ns) :
    unmapQName m.ns [] false (mapQName m q) = .name q :=
  unmap_eq_read (by rw [readElem_get]; exact roundtrip_elem m q hr hd)

example : unmapQName [("p", "u1"), ("q", "u1")] [] false (mapQName ⟨[("p", "u1"), ("q", "u1")], [("u1", "q")], []⟩ ⟨"u1", "a"⟩)
    = .name ⟨"u1", "a"⟩ := by decide +kernel

/-  Full statement for attribute names (false for the code as it is, finding C17-F9):
      ∀ m q tab, ReverseOk m.ns m.rev → unmapQName m.ns [] tab (mapAttr .repaired m q) = .name q -/
/-- mapper level, attribute names (repaired attribute rule): `unmap_qname(key, xsd_element.attributes)` undoes
    the key unless the attribute is in no namespace, undeclared, and a default namespace is in force -/
theorem unmap_map_attr_partial (m : Mapper) (q : QN) (tab : Bool) (hr : ReverseOk m.ns m.rev) (hn : Map.Nodup m.ns)
    (hguard : q.ns = "" → tab = true ∨ DefaultUnset m.ns) :
    unmapQName m.ns [] tab (mapAttr .repaired m q) = .name q := by
  apply unmap_attr_eq_read (by rw [readAttr_get]; exact roundtrip_attrR_grows m q _ hr hn (grows_refl _))
  intro l hl
  rcases hguard (mapAttr_repaired_loc hl) with h | h | h
  · exact Or.inl h
  · exact Or.inr (Or.inl h)
  · exact Or.inr (Or.inr h)

example : unmapQName [("", "u1"), ("p", "u1")] [] false
    (mapAttr .repaired ⟨[("", "u1"), ("p", "u1")], [("u1", "")], []⟩ ⟨"u1", "x"⟩) = .name ⟨"u1", "x"⟩ := by decide +kernel

/-- `<a xmlns="u1" z="v"/>` with `z` matched by the attribute wildcard: the key `z` is read back as `{u1}z`. -/
theorem unmap_map_attr_counterexample :
    let m : Mapper := ⟨[("", "u1")], [("u1", "")], []⟩
    ReverseOk m.ns m.rev ∧ mapAttr .repaired m ⟨"", "z"⟩ = .loc "z" ∧
    unmapQName m.ns [] false (.loc "z") = .name ⟨"u1", "z"⟩ := by
  exact ⟨reverseOk_of_all (by decide +kernel), by decide +kernel, by decide +kernel⟩

/-  Full statement (false: C17-F9, C17-F7 with the attribute rule before ec7627c, and C17-F4 for documents that
    are not `WellScoped`):  ∀ t m0 e0 …, (encodeDoc … (decodeT … t m0).2 e0).2.map encProj = docNames t -/
/-- **Encoding the decoded data restores the expanded names of the document** (stacked mode): decode-name →
    encode-name is the identity on every element and attribute of every document, for both attribute rules, with
    and without pruning, when the encoder starts with no prefix beyond those the data (re)declares at its root
    (what `get_namespaces` reads from the data; violated by C17-F8) and under the side conditions of
    `decoded_data_denotes` plus `UnqualDeclared` (an attribute in no namespace that the element's type does not
    declare occurs only where the default namespace is unset: C17-F9). -/
theorem encode_decode_names_partial (a : AttrRule) (prune : Bool) (tab : Nat → String → Bool) (t : Tree)
    (m0 e0 : Mapper) (hi : Inv m0) (h0 : m0.stack = []) (he : e0.stack = []) (hk : DeclsNodup t)
    (hd : SibDistinct t) (hw : WellScoped a m0.ns t) (ht : UnqualDeclared tab m0.ns t)
    (hroot : ∀ k, e0.ns.get k ≠ none →
      ∃ d ∈ Item.xmlns (decodeT .repaired a prune .stacked 0 t m0).2, d.1 = k) :
    (encodeDoc .repaired .stacked tab (decodeT .repaired a prune .stacked 0 t m0).2 e0).2.map encProj =
      docNames t := by
  have hden := decoded_data_denotes a prune t m0 hi h0 hk hd hw
  have hrd := (decodeT_root a prune tab t m0 hi h0 hk hd hw).2 ht
  have hdist := decode_distinct a prune .stacked .repaired t 0 m0 hd
  generalize (decodeT .repaired a prune .stacked 0 t m0).2 = item at hden hrd hdist hroot
  obtain ⟨id, key, isMap, xmlns, attrs, ch⟩ := item
  have hb : Scope.bind e0.ns.get xmlns = Scope.bind Scope.empty xmlns := by
    apply scope_bind_congr
    intro k hk'
    cases hg : e0.ns.get k with
    | none => rfl
    | some v =>
      obtain ⟨d, hd', e⟩ := hroot k (by rw [hg]; simp)
      exact absurd e (hk' d hd')
  rw [encoder_reads_data .repaired tab _ e0 he hdist (readable_node_congr hb hrd), ← hden, readItem_node, readItem_node, hb]

example : (encodeDoc .repaired .stacked (fun _ l => l = "y") (decodeT .repaired .current true .stacked 0
    (.node 0 ⟨"u1", "a"⟩ [⟨"u2", "x"⟩, ⟨"", "y"⟩] [("p", "u1"), ("q", "u2")]
      [.node 1 ⟨"u2", "b"⟩ [] [("p", "u2")] [.node 3 ⟨"u2", "a"⟩ [] [("k", "u3")] []], .node 2 ⟨"u1", "b"⟩ [] [] []])
    ⟨[("p", "u1"), ("q", "u2")], [("u1", "p"), ("u2", "q")], []⟩).2
    ⟨[("p", "u1"), ("q", "u2")], [("u1", "p"), ("u2", "q")], []⟩).2.map encProj =
    [(0, some ⟨"u1", "a"⟩, [some ⟨"u2", "x"⟩, some ⟨"", "y"⟩]), (1, some ⟨"u2", "b"⟩, []), (3, some ⟨"u2", "a"⟩, []),
     (2, some ⟨"u1", "b"⟩, [])] := by decide +kernel

/-- `<a xmlns="u1" z="v"/>`, `z` undeclared (attribute wildcard): the decoded data denotes the document (key `@z`),
    the encoder makes `{u1}z` of it. -/
theorem encode_decode_names_counterexample :
    let t : Tree := .node 0 ⟨"u1", "a"⟩ [⟨"", "z"⟩] [("", "u1")] []
    let m0 : Mapper := ⟨[("", "u1")], [("u1", "")], []⟩
    readItem Scope.empty (decodeT .repaired .current true .stacked 0 t m0).2 = docNames t ∧
    (encodeDoc .repaired .stacked (fun _ _ => false) (decodeT .repaired .current true .stacked 0 t m0).2 m0).2.map encProj =
      [(0, some ⟨"u1", "a"⟩, [some ⟨"u1", "z"⟩])] ∧
    docNames t = [(0, some ⟨"u1", "a"⟩, [some ⟨"", "z"⟩])] := by
  refine ⟨by decide +kernel, by decide +kernel, by decide +kernel⟩


/-! ### the encoders as they are: the mechanisms of the listed findings behind flags (`encVisitG`) -/

/-- the schema family of the harness: elements a, b declared in every namespace but u4, every declared element
    declares the unqualified attribute y -/
def famSchema : EncSchema :=
  { declared := fun q => q.ns != "u4" && (q.loc == "a" || q.loc == "b"), unq := fun _ l => l == "y" }

/-- **With the F10 mechanism off the encoders of the tree restore exactly the names the data denotes** — for every
    schema oracle, with and without the own-tag check of JsonML (it never fires, `encoderG_none_refused`); with the
    F9 mechanism on under the attribute guard of `ReadableG true`, with F9 off for every data tree whose keys denote
    names at all.  (`encVisitG` with all mechanisms on is the model the real `element_encode` runs are compared
    with; a difference between the encoded names and the names the data denotes counts as a known finding exactly
    when that model reproduces it and switching the finding's mechanism off changes the prediction.) -/
theorem encoderG_reads_data (v : Variant) (fl : EncFlags) (sch : EncSchema) (item : Item) (e0 : Mapper)
    (hf : fl.f10 = false) (h0 : e0.stack = []) (hd : ItemDistinct item)
    (hr : ReadableG fl.f9 sch e0.ns.get item) :
    encProjG (encodeDocG v .stacked fl sch item e0).2 = readItem e0.ns.get item := by
  have h := encodeDocG_spec v fl sch item e0 hf h0 hd hr
  rw [encProjG_of_none_dropped _ h.1]
  exact h.2

theorem encoderG_none_refused (v : Variant) (fl : EncFlags) (sch : EncSchema) (item : Item) (e0 : Mapper)
    (hf : fl.f10 = false) (h0 : e0.stack = []) (hd : ItemDistinct item)
    (hr : ReadableG fl.f9 sch e0.ns.get item) :
    ∀ e ∈ (encodeDocG v .stacked fl sch item e0).2, e.dropped = false :=
  (encodeDocG_spec v fl sch item e0 hf h0 hd hr).1

/-- `<a xmlns="u1" z="v"><k:w xmlns:k="u4" y="v"/></a>` with F9 and F10 off: `z` (undeclared) and `y` on the
    wildcard-matched element keep no namespace -/
example : encProjG (encodeDocG .repaired .stacked { f9 := false, f10 := false, ownTag := true } famSchema
    (.node 0 (.loc "a") true [("", "u1")] [.loc "z"] [.node 1 (.pre "k" "w") true [("k", "u4")] [.loc "y"] []])
    ⟨[], [], []⟩).2 =
    [(0, some ⟨"u1", "a"⟩, [some ⟨"", "z"⟩]), (1, some ⟨"u4", "w"⟩, [some ⟨"", "y"⟩])] := by decide +kernel

/-- Finding C17-F10: `<k:b xmlns="u4" xmlns:k="u2"><w><a xmlns=""/></w></k:b>`.  The data denotes `a` in no namespace;
    with the mechanism of groups.py:1161 on, the child of the wildcard-matched `w` is encoded as `{u4}a` (dict
    converters) resp. refused by JsonML's own-tag check; with the mechanism off it is `a`. -/
theorem encoder_f10_counterexample :
    let item : Item := .node 0 (.pre "k" "b") true [("", "u4"), ("k", "u2")] []
      [.node 1 (.loc "w") true [] [] [.node 2 (.loc "a") true [("", "")] [] []]]
    let e0 : Mapper := ⟨[], [], []⟩
    readItem e0.ns.get item = [(0, some ⟨"u2", "b"⟩, []), (1, some ⟨"u4", "w"⟩, []), (2, some ⟨"", "a"⟩, [])] ∧
    encProjG (encodeDocG .repaired .stacked { f10 := true } famSchema item e0).2 =
      [(0, some ⟨"u2", "b"⟩, []), (1, some ⟨"u4", "w"⟩, []), (2, some ⟨"u4", "a"⟩, [])] ∧
    encProjG (encodeDocG .repaired .stacked { f10 := true, ownTag := true } famSchema item e0).2 =
      [(0, some ⟨"u2", "b"⟩, []), (1, some ⟨"u4", "w"⟩, [])] ∧
    encProjG (encodeDocG .repaired .stacked { f10 := false, ownTag := true } famSchema item e0).2 =
      readItem e0.ns.get item := by
  refine ⟨by decide +kernel, by decide +kernel, by decide +kernel, by decide +kernel⟩

/-- Finding C17-F8: `<a><b xmlns="u1"/><b/></a>` as JsonML data.  `get_namespaces` hands the encoder the default
    namespace declared by the first CHILD (`e0` binds "" although the root reports no declaration — the hypothesis
    `hroot` of `encode_decode_names_partial` fails): root and second child are encoded in `u1`; from the initial map
    that holds only what the root reports the names are those the data denotes. -/
theorem encoder_f8_counterexample :
    let item : Item := .node 0 (.loc "a") true [] []
      [.node 1 (.loc "b") true [("", "u1")] [] [], .node 2 (.loc "b") true [] [] []]
    let leaked : Mapper := ⟨[("", "u1")], [("u1", "")], []⟩
    let clean : Mapper := (initMapper .stacked [] (Item.xmlns item)).1
    encProjG (encodeDocG .repaired .stacked { ownTag := true } famSchema item leaked).2 =
      [(0, some ⟨"u1", "a"⟩, []), (1, some ⟨"u1", "b"⟩, []), (2, some ⟨"u1", "b"⟩, [])] ∧
    encProjG (encodeDocG .repaired .stacked { ownTag := true } famSchema item clean).2 =
      [(0, some ⟨"", "a"⟩, []), (1, some ⟨"u1", "b"⟩, []), (2, some ⟨"", "b"⟩, [])] ∧
    readItem Scope.empty item = [(0, some ⟨"", "a"⟩, []), (1, some ⟨"u1", "b"⟩, []), (2, some ⟨"", "b"⟩, [])] := by
  refine ⟨by decide +kernel, by decide +kernel, by decide +kernel⟩

end XsVerif.Props.C17
