/-
  C14 — element-type clause of the element restriction rule (elements.py `XsdElement.is_restriction`:
  `self.type.is_derived(other.type, 'restriction')`).

  A restricting element declaration may re-declare the child with ANOTHER named type only if that type is
  reached from the base element's type by a chain of derivation steps that are ALL restrictions.
  S  an `item` (name, content) list accepted by the restricting element is accepted by the base element.
  M  `derivedBy` with `admitExt = false` is the rule as XSD states it; `is_derived` of /repo answers yes on one-kind
     chains as this does, but also on a chain that mixes extension and restriction steps (finding C14-F9, not
     modelled here).
-/
namespace XsVerif.Props.C14ElemType

inductive Meth | restriction | extension
  deriving DecidableEq, Repr

/-- type environment: `env[i]` = (base type, method) of the named type `i`, `none` for a root type. -/
abbrev Env := List (Option (Nat × Meth))

/-- `is_derived(other, 'restriction')` over named complex types as XSD states it: identity, or a chain of steps each
    of which is a restriction (or anything when `admitExt`, the rule WITHOUT the derivation-method test). -/
def derivedBy (env : Env) (admitExt : Bool) : Nat → Nat → Nat → Bool
  | 0, d, b => d == b
  | f + 1, d, b =>
    d == b ||
      match env[d]? with
      | some (some (p, m)) => (m == .restriction || admitExt) && derivedBy env admitExt f p b
      | _ => false

/-- what a validator accepts as content of an element of type `t` (content = child-name codes). -/
abbrev Val := Nat → List Nat → Bool

/-- hypothesis "C14 holds one level down": every declared restriction step narrows the content set. -/
def StepsNarrow (env : Env) (val : Val) : Prop :=
  ∀ d p, env[d]? = some (some (p, Meth.restriction)) → ∀ x, val d x = true → val p x = true

theorem derivedBy_restriction_narrows (env : Env) (val : Val) (h : StepsNarrow env val) :
    ∀ (fuel d b : Nat), derivedBy env false fuel d b = true → ∀ x, val d x = true → val b x = true := by
  intro fuel
  induction fuel with
  | zero =>
    intro d b hd x hx
    rw [← beq_iff_eq.mp hd]; exact hx
  | succ f ih =>
    intro d b hd x hx
    simp only [derivedBy, Bool.or_eq_true, beq_iff_eq] at hd
    rcases hd with rfl | hd
    · exact hx
    · split at hd
      · rename_i p m he
        simp only [Bool.or_false, Bool.and_eq_true, beq_iff_eq] at hd
        obtain ⟨rfl, hrec⟩ := hd
        exact ih p b hrec x (h d p he x hx)
      · cases hd

structure Elem where
  name : Nat
  ty : Nat
  lo : Nat
  hi : Option Nat

/-- the children it accepts: a run of `(name, content)` items. -/
def Elem.accepts (val : Val) (e : Elem) (w : List (Nat × List Nat)) : Bool :=
  w.all (fun it => it.1 == e.name && val e.ty it.2) &&
    decide (e.lo ≤ w.length) && (match e.hi with | none => true | some h => decide (w.length ≤ h))

def occursRestr (d b : Elem) : Bool :=
  decide (b.lo ≤ d.lo) &&
    (match b.hi, d.hi with
     | none, _ => true
     | some _, none => false
     | some hb, some hd => decide (hd ≤ hb))

def elemRestr (env : Env) (admitExt : Bool) (fuel : Nat) (d b : Elem) : Bool :=
  d.name == b.name && occursRestr d b && derivedBy env admitExt fuel d.ty b.ty

/-- with the type clause (restriction steps only) the element rule is narrowing. -/
theorem elem_type_clause_narrows (env : Env) (val : Val) (h : StepsNarrow env val) (fuel : Nat) (d b : Elem)
    (hr : elemRestr env false fuel d b = true) (w : List (Nat × List Nat))
    (hw : d.accepts val w = true) : b.accepts val w = true := by
  simp only [elemRestr, Bool.and_eq_true, beq_iff_eq] at hr
  obtain ⟨⟨hn, ho⟩, ht⟩ := hr
  have hty := derivedBy_restriction_narrows env val h fuel d.ty b.ty ht
  simp only [Elem.accepts, Bool.and_eq_true, decide_eq_true_eq, List.all_eq_true, beq_iff_eq] at hw ⊢
  obtain ⟨⟨hall, hlo⟩, hhi⟩ := hw
  simp only [occursRestr, Bool.and_eq_true, decide_eq_true_eq] at ho
  obtain ⟨holo, hohi⟩ := ho
  refine ⟨⟨?_, Nat.le_trans holo hlo⟩, ?_⟩
  · intro it hit
    obtain ⟨h1, h2⟩ := hall it hit
    exact ⟨h1.trans hn, hty _ h2⟩
  · cases hb : b.hi with
    | none => rfl
    | some hbv =>
      cases hd : d.hi with
      | none => simp [hb, hd] at hohi
      | some hdv =>
        simp only [hb, hd, decide_eq_true_eq] at hohi hhi ⊢
        exact Nat.le_trans hhi hohi

/-- type 0 = sequence(a); type 1 = extension of 0 adding b; type 2 = restriction of 0. -/
def envX : Env := [none, some (0, .extension), some (0, .restriction)]
def valX : Val := fun t x => match t with
  | 0 => x == [0]
  | 1 => x == [0, 1]
  | _ => x == [0]
def eB : Elem := { name := 7, ty := 0, lo := 1, hi := some 3 }
def eD : Elem := { name := 7, ty := 1, lo := 1, hi := some 2 }

/-- when a step by extension is admitted the rule accepts a widening: `item(a b)` is valid for the restricting
    element only (the shape of the demo); the rule with the clause refuses the pair, and the environment
    satisfies the hypothesis of `elem_type_clause_narrows` on its declared restriction step. -/
theorem elem_type_extension_counterexample :
    elemRestr envX true 3 eD eB = true ∧ elemRestr envX false 3 eD eB = false ∧
      eD.accepts valX [(7, [0, 1])] = true ∧ eB.accepts valX [(7, [0, 1])] = false ∧
      elemRestr envX false 3 { eD with ty := 2 } eB = true := by decide +kernel

end XsVerif.Props.C14ElemType
