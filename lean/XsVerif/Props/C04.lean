/-
  C04 — all validation entry points and modes agree on one verdict.

  English property (properties.jsonl):
    is_valid() is true exactly when iter_errors() yields nothing, validate() does not raise,
    strict decoding does not raise, lax decoding returns an empty error list and the validate
    command exits with status 0; strict mode raises precisely the first error that lax mode
    collects.  The verdict and the decoded data of a valid document do not depend on the
    validation mode […].

  Reading.  `sv` is the script of `iter_errors`, `sd` the script of `iter_decode` for the same
  schema and document (Model/Modes.lean).  S (the specification) is the mode-oblivious reading of
  a script: `events s` (the error events in call order) and `results s`.  A document is valid
  iff `events sv = []`.  The theorems say that every wrapper computes exactly that reading.
  The equality `events sv = events sd` (the descent emits the same events whoever calls it) and source-kind
  independence are established by execution in the correspondence run, not here — except that comment / PI
  nodes do not change the character-data check (`cdata_check_source_independent`).
-/
import XsVerif.Model.Modes
import XsVerif.Lemmas.Modes
import XsVerif.Model.AttrDefaults
import XsVerif.Lemmas.AttrDefaults
import XsVerif.Model.NsLeak
import XsVerif.Model.CharData
import XsVerif.Lemmas.NsStack

namespace XsVerif.Props.C04
open XsVerif.Modes
variable {D : Type}

theorem decode_lax_eq (s : List (Step D)) : decode .lax s = .ok (shape (results s), iterErrors s) := by
  simp [decode, iterErrors, decodeLoop_lax, gen_lax_raised, gen_data .lax nofun]

/-- lax mode never raises. -/
theorem lax_never_raises (s : List (Step D)) :
    (iterDecode .lax s).raised = none ∧ ∃ r, decode .lax s = .ok r :=
  ⟨gen_lax_raised s [], _, decode_lax_eq s⟩

/-- skip mode never raises and returns no error list. -/
theorem skip_never_raises (s : List (Step D)) :
    (iterDecode .skip s).raised = none ∧ decode .skip s = .ok (shape (results s), []) := by
  refine ⟨gen_skip_raised s [], ?_⟩
  simp [decode, decodeLoop_skip, gen_skip_raised, gen_data .skip nofun]

example : decode .skip [Step.collect 7, .flush, .result "d", .direct 9 true] = .ok (.one "d", []) := by
  decide +kernel

/-- what `iter_decode(validation='skip')` yields: every result, and of the errors only those that the
    generator itself yields (missing element); nothing that went through `context.errors`. -/
theorem skip_yields_spec (s : List (Step D)) :
    errsOf (iterDecode .skip s).items = skipDirects s ∧ dataOf (iterDecode .skip s).items = results s :=
  ⟨gen_skip_errs s, gen_data .skip nofun s []⟩

example : (iterDecode .skip [Step.collect 1, .flush, .direct 2 true, .direct 3 false, .result "d"]).items
    = [.err 2, .data "d"] := by decide +kernel

/-- `iter_errors` yields exactly the error events of the run, in call order. -/
theorem iterErrors_spec (sv : List (Step D)) (h : wf sv false = true) : iterErrors sv = events sv :=
  gen_lax_errs sv [] h

/-- `is_valid` never raises and is true exactly when `iter_errors` yields nothing
    (`hv`: the validation generator never yields data — schemas.py:1369-1374). -/
theorem isValid_iff (sv : List (Step D)) (hv : results sv = []) :
    isValid sv = .ok (iterErrors sv).isEmpty ∧ (isValid sv = .ok true ↔ iterErrors sv = []) := by
  have hd := gen_data .lax nofun sv []
  have key : isValid sv = .ok (iterErrors sv).isEmpty := by
    unfold isValid next? iterErrors
    cases hi : (gen .lax sv []).items with
    | nil => simp [gen_lax_raised, errsOf]
    | cons i k =>
      cases i with
      | err e => rfl
      | data d => rw [hi, hv] at hd; cases hd
  exact ⟨key, by rw [key, Out.ok.injEq, List.isEmpty_iff]⟩

example : isValid ([Step.collect 3, .collect 4, .flush, .direct 5 true] : List (Step Nat)) = .ok false := by
  decide +kernel
example : isValid ([Step.flush] : List (Step Nat)) = .ok true := by decide +kernel

/-- what `validate` does: it raises the first error event, or returns. -/
theorem validate_spec (sv : List (Step D)) :
    validate sv = match events sv with
      | [] => .ok ()
      | e :: _ => .raise e := by
  unfold validate raiseFirst
  rw [gen_strict_errs, gen_strict_raised]
  cases events sv <;> rfl

/-- `validate` does not raise exactly when `iter_errors` yields nothing. -/
theorem validate_ok_iff (sv : List (Step D)) (h : wf sv false = true) :
    validate sv = .ok () ↔ iterErrors sv = [] := by
  rw [validate_spec, iterErrors_spec sv h]
  cases events sv <;> simp

/-- strict mode raises precisely the first error that lax mode collects. -/
theorem validate_raises_first (sv : List (Step D)) (h : wf sv false = true) (e : Err) :
    validate sv = .raise e ↔ (iterErrors sv).head? = some e := by
  rw [validate_spec, iterErrors_spec sv h]
  cases events sv <;> simp

example : wf ([Step.collect 3, .collect 4, .flush, .direct 5 true] : List (Step Nat)) false = true ∧
    validate ([Step.collect 3, .collect 4, .flush, .direct 5 true] : List (Step Nat)) = .raise 3 := by decide +kernel

/-- The discipline `wf` is needed: a generator that yielded a direct error while collected errors
    are pending would report a different first error in lax mode than the one strict mode raises.
    (No generator of the code does this; the harness checks `wf` on every recorded script.) -/
theorem validate_raises_first_needs_wf :
    validate ([Step.collect 1, .direct 2 true, .flush] : List (Step Nat)) = .raise 1 ∧
    (iterErrors ([Step.collect 1, .direct 2 true, .flush] : List (Step Nat))).head? = some 2 := by decide +kernel

theorem decode_lax_spec (sd : List (Step D)) (h : wf sd false = true) :
    decode .lax sd = .ok (shape (results sd), events sd) := by
  rw [decode_lax_eq, iterErrors_spec sd h]

theorem decode_strict_spec (sd : List (Step D)) :
    decode .strict sd = match events sd with
      | [] => .ok (shape (results sd), [])
      | e :: _ => .raise e := by
  simp only [decode, decodeLoop_strict_noerr _ _ _ (gen_strict_errs sd), gen_strict_raised]
  cases he : events sd with
  | nil => simp [gen_strict_data sd he]
  | cons e r => rfl

theorem decode_strict_raise_iff (sd : List (Step D)) (e : Err) :
    decode .strict sd = .raise e ↔ (events sd).head? = some e := by
  rw [decode_strict_spec]
  cases events sd <;> simp

theorem decode_strict_ok_iff (sd : List (Step D)) : (∃ r, decode .strict sd = .ok r) ↔ events sd = [] := by
  rw [decode_strict_spec]
  cases events sd <;> simp

theorem decode_lax_empty_iff (sd : List (Step D)) (h : wf sd false = true) :
    (∃ d, decode .lax sd = .ok (d, [])) ↔ events sd = [] := by
  rw [decode_lax_spec sd h]
  exact ⟨fun ⟨_, hd⟩ => (Prod.mk.inj (Out.ok.inj hd)).2, fun he => ⟨_, by rw [he]⟩⟩

/-- strict decoding raises precisely the first error of the list that lax decoding returns. -/
theorem decode_strict_raises_first_lax (sd : List (Step D)) (h : wf sd false = true) (e : Err) :
    decode .strict sd = .raise e ↔ ∃ d es, decode .lax sd = .ok (d, es) ∧ es.head? = some e := by
  rw [decode_strict_raise_iff, decode_lax_spec sd h]
  exact ⟨fun he => ⟨_, _, rfl, he⟩, fun ⟨_, _, hl, he⟩ => by cases hl; exact he⟩

/-- strict decoding does not raise exactly when lax decoding returns an empty error list. -/
theorem decode_strict_ok_iff_lax_empty (sd : List (Step D)) (h : wf sd false = true) :
    (∃ r, decode .strict sd = .ok r) ↔ ∃ d, decode .lax sd = .ok (d, []) :=
  (decode_strict_ok_iff sd).trans (decode_lax_empty_iff sd h).symm

/-- the decoded data of a valid document do not depend on the validation mode. -/
theorem decode_valid_mode_independent (sd : List (Step D)) (h : wf sd false = true) (d : Shape D)
    (hl : decode .lax sd = .ok (d, [])) :
    decode .strict sd = .ok (d, []) ∧ decode .skip sd = .ok (d, []) := by
  rw [decode_lax_spec sd h] at hl
  obtain ⟨rfl, he⟩ := Prod.mk.inj (Out.ok.inj hl)
  rw [decode_strict_spec, he, (skip_never_raises sd).2]
  exact ⟨rfl, rfl⟩

example : wf [Step.flush, .result "x", .direct 1 true] false = true := by decide +kernel
example : decode .lax [Step.collect 1, .collect 2, .flush, .result "x"] = .ok (.one "x", [1, 2]) := by
  decide +kernel

theorem count_eq_zero_iff (f : FileRes) : f.count = 0 ↔ f = .errors 0 := by
  cases f <;> simp [FileRes.count]

/-- the status seen by the caller is the saturated total (no wrap-around) … -/
theorem cli_exit_eq (fs : List FileRes) : cliExit fs = min (totErrors fs) 255 :=
  Nat.mod_eq_of_lt (Nat.lt_succ_of_le (Nat.min_le_right ..))

/-- … hence it is 0 exactly when every file was read and has no error
    (including totals that are multiples of 256). -/
theorem cli_exit_zero_iff (fs : List FileRes) : cliExit fs = 0 ↔ ∀ f ∈ fs, f = .errors 0 := by
  have : cliExit fs = 0 ↔ totErrors fs = 0 := by rw [cli_exit_eq]; omega
  rw [this, totErrors, List.sum_eq_zero_iff_forall_eq_nat]
  simp only [List.forall_mem_map, count_eq_zero_iff]

example : cliExit [.errors 256] = 255 ∧ cliExit [.errors 128, .errors 128] = 255 ∧
    cliExit [.errors 0, .libError] = 1 ∧ cliExit [.errors 0, .errors 0] = 0 := by decide +kernel

/-- the exit code used before commit 6c4f37d (`sys.exit(tot_errors)`) reported success for 256
    errors; kept as the record of the repaired defect C04-F1. -/
theorem cli_unsaturated_counterexample :
    osStatus (cliCodeUnsaturated [.errors 256]) = 0 ∧ osStatus (cliCodeUnsaturated [.errors 512]) = 0 := by
  decide +kernel

/-- what the command counts for a file that could be read: `len(list(iter_errors(file)))`. -/
def fileRes (sv : List (Step D)) : FileRes := .errors (iterErrors sv).length

/-- **All entry points agree.**  If validation and decoding of the same document emit the same
    error events (`hev`: the descent does not depend on who calls it — checked by execution), then
    is_valid, iter_errors, validate, strict decode, lax decode and the exit status of the command
    give the same verdict. -/
theorem verdicts_agree (sv sd : List (Step D)) (hv : wf sv false = true) (hd : wf sd false = true)
    (hnd : results sv = []) (hev : events sv = events sd) :
    let V := iterErrors sv = []
    (isValid sv = .ok true ↔ V) ∧ (validate sv = .ok () ↔ V) ∧
    ((∃ r, decode .strict sd = .ok r) ↔ V) ∧ ((∃ d, decode .lax sd = .ok (d, [])) ↔ V) ∧
    (cliExit [fileRes sv] = 0 ↔ V) := by
  intro V
  have hV : V ↔ events sd = [] := by rw [← hev, ← iterErrors_spec sv hv]
  refine ⟨(isValid_iff sv hnd).2, validate_ok_iff sv hv, ?_, ?_, ?_⟩
  · rw [decode_strict_ok_iff, hV]
  · rw [decode_lax_empty_iff sd hd, hV]
  · rw [cli_exit_zero_iff, List.forall_mem_singleton, fileRes, FileRes.errors.injEq, List.length_eq_zero_iff]

/-- and they name the same first error. -/
theorem first_errors_agree (sv sd : List (Step D)) (hv : wf sv false = true)
    (hev : events sv = events sd) (e : Err) :
    (validate sv = .raise e ↔ (iterErrors sv).head? = some e) ∧
    (decode .strict sd = .raise e ↔ (iterErrors sv).head? = some e) := by
  refine ⟨validate_raises_first sv hv e, ?_⟩
  rw [decode_strict_raise_iff, iterErrors_spec sv hv, hev]

/-- The hypothesis `events sv = events sd` is not implied by the wrappers: these are the two scripts
    that the code produced before 32ac39b for a document with a dangling IDREF — `iter_errors` runs the
    reference check (`_validate_references`, schemas.py:1420), `iter_decode` of a fully loaded document
    skipped it (inverted `max_depth` test, now schemas.py:1644) — and the verdicts differ.
    Replayed on the real code by the harness (finding C04-F2). -/
theorem verdicts_differ_without_same_events_counterexample :
    let sv : List (Step Nat) := [.flush, .direct 0 true]
    let sd : List (Step Nat) := [.flush, .result 7]
    wf sv false = true ∧ wf sd false = true ∧ isValid sv = .ok false ∧
    decode .strict sd = .ok (.one 7, []) ∧ decode .lax sd = .ok (.one 7, []) := by decide +kernel

/-! ### component level (ValidationMixin) -/

/-- the component-level API agrees with itself in the same way … -/
theorem mix_agree (c : Core D) (e : Err) :
    (mixIsValid c = true ↔ mixIterErrors c = []) ∧
    (mixValidate c = .ok () ↔ mixIterErrors c = []) ∧
    (mixValidate c = .raise e ↔ (mixIterErrors c).head? = some e) ∧
    (mixDecode .strict c = .raise e ↔ (mixIterErrors c).head? = some e) ∧
    (mixDecode .lax c = .ok (c.value, mixIterErrors c)) ∧
    (mixIterErrors c = [] → mixDecode .strict c = .ok (c.value, []) ∧ mixDecode .skip c = .ok (c.value, [])) := by
  obtain ⟨ev, v⟩ := c
  cases ev <;> simp [mixIsValid, mixIterErrors, mixValidate, mixDecode, rawDecode]

/-- the schema-level generators around one component run: `iter_errors` = run, flush, references;
    `iter_decode` = run, flush, result, references. -/
def embedVal (c : Core D) (refs : List Err) : List (Step D) :=
  c.events.map .collect ++ [.flush] ++ refs.map (Step.direct · false)

def embedDec (c : Core D) (refs : List Err) : List (Step D) :=
  c.events.map .collect ++ [.flush] ++ (match c.value with | some d => [.result d] | none => []) ++
    refs.map (Step.direct · false)

theorem embed_spec (ev : List Err) (t : List (Step D)) (ht : tail2 t = true) :
    iterErrors (ev.map .collect ++ .flush :: t) = ev ++ events t ∧
    decode .lax (ev.map .collect ++ .flush :: t) = .ok (shape (results t), ev ++ events t) := by
  have hw : wf (ev.map .collect ++ .flush :: t) false = true := (wf_collects ..).trans (wf_of_tail2 t ht)
  rw [decode_lax_spec _ hw, iterErrors_spec _ hw, events_collects, results_collects]
  exact ⟨rfl, rfl⟩

/-- … and with the schema-level API: around the same component run. -/
theorem component_eq_schema (c : Core D) (refs : List Err) :
    iterErrors (embedVal c refs) = mixIterErrors c ++ refs ∧
    decode .lax (embedDec c refs) = .ok (shape c.value.toList, mixIterErrors c ++ refs) ∧
    (refs = [] → (validate (embedVal c refs) = mixValidate c)) := by
  obtain ⟨ev, v⟩ := c
  have hval : embedVal ⟨ev, v⟩ refs = ev.map .collect ++ .flush :: refs.map (Step.direct · false) :=
    List.append_assoc ..
  refine ⟨?_, ?_, ?_⟩
  · rw [hval, (embed_spec ev _ (tail2_directs refs false)).1, events_directs]
    rfl
  · have hdec : embedDec ⟨ev, v⟩ refs =
        ev.map .collect ++ .flush :: (v.toList.map .result ++ refs.map (Step.direct · false)) := by
      cases v <;> simp [embedDec]
    rw [hdec, (embed_spec ev _ (by cases v <;> exact tail2_directs refs false)).2]
    cases v <;> simp [events, results, events_directs, results_directs, mixIterErrors, rawDecode]
  · rintro rfl
    rw [validate_spec, hval, events_collects]
    cases ev <;> rfl

example : iterErrors (embedVal (⟨[1, 2], some "d"⟩ : Core String) [9]) = [1, 2, 9] := by decide +kernel

/-! ### the mode-dependent spot: union types

  Full statement (false for the code as it is):
    `∀ ms g, (unionEvents .strict ms g).head? = (unionEvents .lax ms g).head?`
  i.e. "strict mode raises precisely the first error that lax mode collects" also inside a union.
  What holds: the *verdict* never depends on the mode, and the errors coincide unless a member type
  rejected the value because of a facet. -/

theorem firstFacet_ne_nil (ms : List (Member D)) (es : List Err) (h : firstFacet ms = some es) : es ≠ [] := by
  induction ms with
  | nil => cases h
  | cons m k ih =>
    cases m with
    | facet e r => cases h; exact List.cons_ne_nil e r
    | _ => exact ih h

/-- a union value is accepted in strict mode exactly when it is accepted in lax mode -/
theorem union_verdict_mode_independent (ms : List (Member D)) (g : Err) :
    unionEvents .strict ms g = [] ↔ unionEvents .lax ms g = [] := by
  unfold unionEvents
  cases firstOk ms with
  | some d => exact Iff.rfl
  | none =>
    cases hf : firstFacet ms with
    | none => exact Iff.rfl
    | some es => simp [firstFacet_ne_nil ms es hf]

/-- guard: no member type fails on a facet (all failures are lexical) — then strict raises exactly
    what lax collects -/
theorem union_first_error_partial (ms : List (Member D)) (g : Err) (h : firstFacet ms = none) :
    unionEvents .strict ms g = unionEvents .lax ms g := by
  unfold unionEvents
  cases firstOk ms <;> simp [h]

example : firstFacet ([.lexical 1, .lexical 2] : List (Member Nat)) = none ∧
    unionEvents .strict ([.lexical 1, .lexical 2] : List (Member Nat)) 0 = [0] := by decide +kernel

/-- witness (finding C04-F3): `<u>E</u>` with `u : union(xs:int, code)`, `code` an enumeration —
    xs:int fails lexically (1), `code` fails on its enumeration facet (2); strict raises the generic
    "invalid value 'E'" (0), lax collects the enumeration error (2). -/
theorem union_first_error_counterexample :
    unionEvents .strict ([.lexical 1, .facet 2 []] : List (Member Nat)) 0 = [0] ∧
    unionEvents .lax ([.lexical 1, .facet 2 []] : List (Member Nat)) 0 = [2] := by decide +kernel

/-! ### the other mode-tested spot: wildcards with processContents

  `XsdAnyAttribute.raw_decode` / `XsdAnyElement.raw_decode` test the validation mode explicitly
  (`validation != 'skip'`) before they report a name without a global declaration or of an
  unavailable namespace.  With that guard the events reached do not depend on strict / lax, so strict
  raises precisely the first error that lax collects. -/

theorem inMode_strict_eq_nil (es : List Err) : inMode .strict es = [] ↔ inMode .lax es = [] :=
  List.take_eq_nil_iff.trans (or_iff_right Nat.one_ne_zero)

/-- attribute wildcard: strict raises precisely the first error that lax collects -/
theorem anyAttr_strict_raises_first_lax (pc : PC) (matching ps : Bool) (lk : Lookup) (eNA eUn eNF : Err) :
    anyAttrEvents .strict pc matching ps lk eNA eUn eNF =
      (anyAttrEvents .lax pc matching ps lk eNA eUn eNF).take 1 :=
  -- `reportsMissing` only tells skip from the other two modes, so both runs reach the same events
  rfl

/-- attribute wildcard: the verdict does not depend on the mode, and skip mode is silent -/
theorem anyAttr_verdict_mode_independent (pc : PC) (matching ps : Bool) (lk : Lookup) (eNA eUn eNF : Err) :
    (anyAttrEvents .strict pc matching ps lk eNA eUn eNF = [] ↔
      anyAttrEvents .lax pc matching ps lk eNA eUn eNF = []) ∧
    anyAttrEvents .skip pc matching ps lk eNA eUn eNF = [] :=
  ⟨inMode_strict_eq_nil _, rfl⟩

example : anyAttrEvents .strict .strict true false .notFound 0 1 2 = [2] ∧
    anyAttrEvents .lax .strict true false .notFound 0 1 2 = [2] ∧
    anyAttrEvents .lax .lax true false .notFound 0 1 2 = [] ∧
    anyAttrEvents .lax .strict false false (.declared [7, 8]) 0 1 2 = [0, 7, 8] ∧
    anyAttrEvents .strict .strict false false (.declared [7, 8]) 0 1 2 = [0] := by decide +kernel

/-- element wildcard: strict raises precisely the first error that lax collects -/
theorem anyElem_strict_raises_first_lax (pc : PC) (matching ps xsiType : Bool) (lk : Lookup) (anon : List Err)
    (eNA eUn eNF : Err) :
    anyElemEvents .strict pc matching ps xsiType lk anon eNA eUn eNF =
      (anyElemEvents .lax pc matching ps xsiType lk anon eNA eUn eNF).take 1 :=
  rfl

theorem anyElem_verdict_mode_independent (pc : PC) (matching ps xsiType : Bool) (lk : Lookup) (anon : List Err)
    (eNA eUn eNF : Err) :
    (anyElemEvents .strict pc matching ps xsiType lk anon eNA eUn eNF = [] ↔
      anyElemEvents .lax pc matching ps xsiType lk anon eNA eUn eNF = []) ∧
    anyElemEvents .skip pc matching ps xsiType lk anon eNA eUn eNF = [] :=
  ⟨inMode_strict_eq_nil _, rfl⟩

example : anyElemEvents .lax .strict true false false .unavailable [5] 0 1 2 = [1, 5] ∧
    anyElemEvents .strict .strict true false false .unavailable [5] 0 1 2 = [1] ∧
    anyElemEvents .lax .strict true false true .unavailable [5] 0 1 2 = [5] ∧
    anyElemEvents .lax .skip true false false .notFound [5] 0 1 2 = [] := by decide +kernel

/-- The guard matters: written as `validation == 'strict'` the "not found" error of a strict wildcard
    exists in strict mode only — validate() raises while iter_errors() yields nothing.
    Replayed on the real code by the harness (witness case of family W). -/
theorem wildcard_guard_counterexample :
    inMode .strict (anyAttrReachedWith reportsMissingStrictOnly .strict .strict true false .notFound 0 1 2) = [2] ∧
    inMode .lax (anyAttrReachedWith reportsMissingStrictOnly .lax .strict true false .notFound 0 1 2) = [] := by
  decide +kernel

mutual
theorem scopes_shared_lax_eq_reached (r : Run) (h : r.allShared = true) : r.lax = r.reached :=
  match r, h with
  | .err _, _ => rfl
  -- `h` leaves no case `.scope false _`
  | .scope true body, h => scopes_shared_laxL_eq_reachedL body h
theorem scopes_shared_laxL_eq_reachedL (rs : List Run) (h : Run.allSharedL rs = true) :
    Run.laxL rs = Run.reachedL rs :=
  match rs, h with
  | [], _ => rfl
  | r :: k, h => by
    have h := (Bool.and_eq_true ..).mp h
    show r.lax ++ Run.laxL k = r.reached ++ Run.reachedL k
    rw [scopes_shared_lax_eq_reached r h.1, scopes_shared_laxL_eq_reachedL k h.2]
end

/-- when every scoped copy shares the error list, lax mode collects exactly the events the descent
    reaches — for every nesting of scopes. -/
theorem scopes_shared_strict_raises_first_lax (rs : List Run) (h : Run.allSharedL rs = true) :
    (Run.reachedL rs).head? = (Run.laxL rs).head? ∧ (Run.reachedL rs = [] ↔ Run.laxL rs = []) := by
  rw [scopes_shared_laxL_eq_reachedL rs h]; exact ⟨rfl, Iff.rfl⟩

example : Run.allSharedL [.err 1, .scope true [.err 2, .scope true [.err 3]], .err 4] = true ∧
    Run.laxL [.err 1, .scope true [.err 2, .scope true [.err 3]], .err 4] = [1, 2, 3, 4] := by decide +kernel

/-- with a copy that does not share the list (`errors.copy()`, finding C04-F5) the error below the
    scope is reached — validate() raises it — and lax mode reports nothing.  Witness:
    `<top lang="en"><a>1</a><a>x</a></top>`, `lang` inheritable; replayed by the harness. -/
theorem unshared_scope_counterexample :
    Run.reachedL [.scope false [.err 7]] = [7] ∧ Run.laxL [.scope false [.err 7]] = [] := by decide +kernel

/-! ### the prefix map at the end of an element (identity fields with prefix-dependent values)

  The fields of an identity constraint are collected at the END of the selected element, after its
  children were processed.  A QName-valued field must then be resolved with the declarations in
  scope of the element itself, whatever its children (re)declared.  This holds for the call pattern
  of the code (`NsMapper.visit`: enter, children, `set_xmlns_context` again)
  and fails without the end-of-element call. -/
section NsScope
open XsVerif.NsMapper XsVerif.NsMapper.Stack XsVerif.NsLeak

mutual
theorem specObs_end_eq_key (ns0 : Map) : ∀ t : Tree,
    (specObs ns0 t).map (fun x => (x.1, x.2.2.1)) = (specObs ns0 t).map (fun x => (x.1, x.2.1))
  | .node id _ _ decl ch =>
    congrArg ((id, Map.update ns0 decl) :: ·) (specObsList_end_eq_key (Map.update ns0 decl) ch)
theorem specObsList_end_eq_key (ns0 : Map) : ∀ ts : List Tree,
    (specObsList ns0 ts).map (fun x => (x.1, x.2.2.1)) = (specObsList ns0 ts).map (fun x => (x.1, x.2.1))
  | [] => rfl
  | t :: ts => by
    rw [specObsList, List.map_append, List.map_append, specObs_end_eq_key ns0 t, specObsList_end_eq_key ns0 ts]
end

theorem visit_obs (v : Variant) (t : Tree) (m0 : Mapper) (hd : SibDistinct t) (h0 : m0.stack = []) :
    (visit v .stacked 0 t m0).2.map proj = specObs m0.ns t :=
  (visit_spec v t hd 0 m0 [] m0.ns m0.rev [] (by intro c hc; cases hc)
    (Or.inl ⟨h0, rfl, rfl⟩) (by simp)).2

/-- for every element of every document: the map in force when the element ends is the map of the
    element's own scope (initial map updated by the declarations on the path root → element) -/
theorem ns_scope_at_element_end (v : Variant) (t : Tree) (m0 : Mapper) (hd : SibDistinct t)
    (h0 : m0.stack = []) :
    endPurged v t m0 = (specObs m0.ns t).map (fun x => (x.1, x.2.2.1)) := by
  rw [← visit_obs v t m0 hd h0, List.map_map]
  rfl

/-- … and it does not depend on the children: it equals the map right after entering the element -/
theorem ns_scope_children_independent (v : Variant) (t : Tree) (m0 : Mapper) (hd : SibDistinct t)
    (h0 : m0.stack = []) :
    (visit v .stacked 0 t m0).2.map (fun o => (o.id, o.nsAtAttrs)) =
      (visit v .stacked 0 t m0).2.map (fun o => (o.id, o.nsAtKey)) := by
  have h := specObs_end_eq_key m0.ns t
  rw [← visit_obs v t m0 hd h0, List.map_map, List.map_map] at h
  exact h

/-- witness: `<root xmlns:p="urn:a"><item code="p:x"><tail xmlns:p="urn:b"/></item></root>` — with the
    end-of-element call the field `@code` of `item` (id 1) is resolved with p ↦ urn:a, without it with
    the binding p ↦ urn:b leaked by its last child.  Replayed on the real code (family Q). -/
theorem ns_leak_counterexample :
    let t : Tree := .node 0 ⟨"", "root"⟩ [] [("p", "urn:a")]
      [.node 1 ⟨"", "item"⟩ [] [] [.node 2 ⟨"", "tail"⟩ [] [("p", "urn:b")] []]]
    let m0 : Mapper := ⟨[], [], []⟩
    ((endPurged .repaired t m0).map fun x => (x.1, x.2.get "p")) =
      [(0, some "urn:a"), (1, some "urn:a"), (2, some "urn:b")] ∧
    (((endNoPurge .repaired 0 t m0).2).map fun x => (x.1, x.2.get "p")) =
      [(0, some "urn:b"), (1, some "urn:b"), (2, some "urn:b")] := by decide +kernel

end NsScope

/-! ### character data of element-only content and comment / PI nodes (Model/CharData.lean) -/
section CharData
open XsVerif.CharData

theorem nonBlank_append (a b : String) : nonBlank (a ++ b) = (nonBlank a || nonBlank b) := by
  simp [nonBlank, String.toList_append, List.any_append]

theorem dropNodes_check (kids : List Kid) (cur : String) :
    (nonBlank (dropNodes cur kids).1 || (dropNodes cur kids).2.any nonBlank) =
      (nonBlank cur || kids.any (fun k => nonBlank k.tail)) := by
  induction kids generalizing cur with
  | nil => rfl
  | cons k ks ih =>
    cases k with
    | node t => exact (ih (cur ++ t)).trans (by rw [nonBlank_append, Bool.or_assoc]; rfl)
    | elem t => exact congrArg (nonBlank cur || ·) (ih t)

/-- **comment / PI nodes are transparent for the character-data check**: the check of the code gives the same
    answer on a tree that keeps these nodes and on the tree a parser builds that drops them. -/
theorem cdata_check_source_independent (text : String) (kids : List Kid) :
    hasCdataDropped text kids = hasCdata text kids := by
  unfold hasCdataDropped hasCdata
  exact dropNodes_check kids text

example : hasCdata "" [.elem "", .node "stray", .elem " "] = true ∧
    hasCdataDropped "" [.elem "", .node "stray", .elem " "] = true ∧
    hasCdata " " [.node "\n", .elem ""] = false := by decide +kernel

/-- skipping the tails of comment / PI children breaks it: `<r><a/><!-- c -->stray</r>` is accepted from a tree
    that keeps the comment and rejected from text.  Replayed on the real code (documents with a node followed by
    character data). -/
theorem cdata_skipping_nodes_counterexample :
    hasCdataSkippingNodes "" [.elem "", .node "stray"] = false ∧
    hasCdataDropped "" [.elem "", .node "stray"] = true := by decide +kernel

end CharData

/-! ### value constraints and the document-level state (Model/AttrDefaults.lean)

  `verdicts_agree` needs `events sv = events sd`.  The part of the descent where that equality could
  break silently — attributes (and simple content) that the instance OMITS but that the schema
  constrains with `default` / `fixed`, decoded by a type with a document-level effect (xs:IDREF,
  xs:IDREFS, xs:ID, xs:QName) — is modelled, and the model is the oracle for BOTH runs: the harness
  compares `run …` with the events of `iter_errors` and with the events of `iter_decode`.
  S: the reference errors of a document are the decoded IDREF values (explicit or supplied by a value
  constraint) that no decoded ID value defines. -/
section AttrDefaults
open XsVerif.AttrDefaults

variable (toks : String → List String) (pfx : String → Option String) (isXsi : String → Bool)
  (ns : List String) (v11 ud : Bool) (xsi : List Decl)

/-- which attributes an attribute group decodes: those of the instance and, for every attribute that
    the instance omits, the fixed value or (with `use_defaults`) the default value of a
    non-prohibited declaration — for validation and for decoding alike (the function has no other
    parameter). -/
theorem processed_attributes_spec (ds : List Decl) (obj : Attrs) (k v : String) :
    (k, v) ∈ effective ud ds obj ↔
      (k, v) ∈ obj ∨ (hasKey k obj = false ∧ ∃ d ∈ ds, d.name = k ∧ d.use ≠ .prohibited ∧
        (d.fixed = some v ∨ (d.fixed = none ∧ d.dflt = some v ∧ ud = true))) := by
  rw [mem_effective, mem_valueConstraints]

example : effective true [⟨"ref", .optional, none, some "a1", .idref⟩, ⟨"fx", .optional, some "F", none, .plain⟩,
      ⟨"id", .optional, none, none, .id⟩] [("fx", "F")] = [("fx", "F"), ("ref", "a1")] := by decide +kernel
example : effective false [⟨"ref", .optional, none, some "a1", .idref⟩, ⟨"r3", .optional, some "a3", none, .idref⟩] []
    = [("r3", "a3")] := by decide +kernel

/-- the reference errors of a run are exactly the decoded IDREF values that no decoded ID defines -/
theorem dangling_iff (doc : List Elem) (k : String) :
    Ev.dangling k ∈ run toks pfx isXsi ns v11 ud xsi doc ↔
      k ∈ refsOf toks (docActsWith effective isXsi ud xsi doc) ∧
      k ∉ idsOf (docActsWith effective isXsi ud xsi doc) :=
  dangling_mem_runWith toks pfx ns v11 effective isXsi ud xsi doc k

/-- a document has no reference error exactly when every decoded IDREF is a decoded ID -/
theorem no_reference_error_iff (doc : List Elem) :
    (∀ k, Ev.dangling k ∉ run toks pfx isXsi ns v11 ud xsi doc) ↔
      ∀ k ∈ refsOf toks (docActsWith effective isXsi ud xsi doc),
        k ∈ idsOf (docActsWith effective isXsi ud xsi doc) := by
  simp only [dangling_iff, not_and, Decidable.not_not]

/-- an IDREF attribute that the instance omits and the schema constrains IS a reference of the
    document (fixed always, default when `use_defaults`) … -/
theorem constrained_idref_is_reference (doc : List Elem) (e : Elem) (d : Decl) (v : String)
    (he : e ∈ doc) (hl : lookup d.name e.decls = some d) (hk : d.kind = .idref)
    (hu : d.use ≠ .prohibited) (hm : hasKey d.name e.attrs = false)
    (hv : d.fixed = some v ∨ (d.fixed = none ∧ d.dflt = some v ∧ ud = true)) :
    v ∈ refsOf toks (docActsWith effective isXsi ud xsi doc) := by
  have hd : d ∈ e.decls := List.mem_of_find?_eq_some hl
  have hmem : (d.name, v) ∈ effective ud e.decls e.attrs :=
    (processed_attributes_spec ud e.decls e.attrs d.name v).mpr (Or.inr ⟨hm, d, hd, rfl, hu, hv⟩)
  have hpost : Act.post .idref v ∈ attrActs isXsi xsi e.decls (!hasKey d.name e.attrs) (d.name, v) := by
    simp [attrActs, hl, hu, declActs, hk]
  refine mem_refsOf_of_post_idref toks _ v (List.mem_flatMap.mpr ⟨e, he, ?_⟩)
  simp only [elemActsWith, groupActsWith, List.mem_append, List.mem_cons, List.mem_flatMap]
  exact Or.inl (Or.inr (Or.inr ⟨_, hmem, hpost⟩))

/-- … so when no ID of the document defines it, every run reports it. -/
theorem constrained_idref_dangling (doc : List Elem) (e : Elem) (d : Decl) (v : String)
    (he : e ∈ doc) (hl : lookup d.name e.decls = some d) (hk : d.kind = .idref)
    (hu : d.use ≠ .prohibited) (hm : hasKey d.name e.attrs = false)
    (hv : d.fixed = some v ∨ (d.fixed = none ∧ d.dflt = some v ∧ ud = true))
    (hid : v ∉ idsOf (docActsWith effective isXsi ud xsi doc)) :
    Ev.dangling v ∈ run toks pfx isXsi ns v11 ud xsi doc :=
  (dangling_iff toks pfx isXsi ns v11 ud xsi doc v).mpr
    ⟨constrained_idref_is_reference toks isXsi ud xsi doc e d v he hl hk hu hm hv, hid⟩

example : run (fun s => [s]) (fun _ => none) (fun _ => false) [] false true []
    [⟨[⟨"id", .optional, none, none, .id⟩], [("id", "b1")], none⟩,
     ⟨[⟨"ref", .optional, none, some "a1", .idref⟩], [], none⟩] = [.dangling "a1"] := by decide +kernel
example : run (fun s => [s]) (fun _ => none) (fun _ => false) [] false true []
    [⟨[⟨"ref", .optional, none, some "a1", .idref⟩], [], none⟩,
     ⟨[⟨"id", .optional, none, none, .id⟩], [("id", "a1")], none⟩] = [] := by decide +kernel

/-- an injected xs:QName literal is not resolved with the prefixes of the instance (attributes.py:745-751);
    the default of an element's simple content still is (elements.py) -/
example : run (fun s => [s]) (fun s => if s = "t:nm" then some "t" else none) (fun _ => false) ["p"] false true []
    [⟨[⟨"q", .optional, none, some "t:nm", .qname⟩], [], none⟩,
     ⟨[⟨"q", .optional, none, some "t:nm", .qname⟩], [("q", "t:nm")], none⟩,
     ⟨[], [], some (⟨none, some "t:nm", .qname⟩, "")⟩] = [.unmapped "t", .unmapped "t"] := by decide +kernel

/-- the same for the simple content of an empty element declared with a default / fixed IDREF -/
theorem constrained_text_idref_is_reference (doc : List Elem) (e : Elem) (td : TextDecl) (v : String)
    (he : e ∈ doc) (ht : e.text = some (td, "")) (hk : td.kind = .idref)
    (hv : td.fixed = some v ∨ (td.fixed = none ∧ td.dflt = some v ∧ ud = true)) :
    v ∈ refsOf toks (docActsWith effective isXsi ud xsi doc) := by
  have hpost : Act.post .idref v ∈ textActs ud td "" := by
    rcases hv with hv | ⟨h1, h2, h3⟩
    · simp [textActs, hv, hk]
    · simp [textActs, h1, h2, h3, hk]
  refine mem_refsOf_of_post_idref toks _ v (List.mem_flatMap.mpr ⟨e, he, ?_⟩)
  simp only [elemActsWith, ht, List.mem_append]
  exact Or.inr hpost

/-- Processing the value constraints of the omitted attributes is needed for that: a descent that
    decodes only the attributes written in the instance (what a validation-only shortcut would do)
    accepts the document `<item id="b1"/>` + omitted `ref : xs:IDREF default="a1"` that the real
    descent rejects.  Replayed on the real code by the harness (witness case of family V). -/
theorem ignoring_constraints_counterexample :
    let doc : List Elem := [⟨[⟨"id", .optional, none, none, .id⟩, ⟨"ref", .optional, none, some "a1", .idref⟩],
                             [("id", "b1")], none⟩]
    run (fun s => [s]) (fun _ => none) (fun _ => false) [] false true [] doc = [.dangling "a1"] ∧
    runWith effectiveIgnoringConstraints (fun s => [s]) (fun _ => none) (fun _ => false) [] false true [] doc = [] := by
  decide +kernel

end AttrDefaults

end XsVerif.Props.C04
