/-
  C03 — the validity clause for BOTH variants of the fixed-value test (the code before and after the repair of
  finding C03-F3, Model/AttrFixed.lean), and the strengthened value-space theorem that the repair makes true.
-/
import XsVerif.Props.C03Types
import XsVerif.Lemmas.AttrFixed

namespace XsVerif.Props.C03Fixed
open XsVerif.Wildcard XsVerif.Attributes XsVerif.AttrTypes XsVerif.Datatypes XsVerif.Props.C03
open XsVerif.Props.C03Types

/-- schema-build guarantee needed for the unmarked types only: their value constraints are valid -/
def WFq (s : Sem) (q : Nat → Bool) (G : Group) : Prop :=
  ∀ d ∈ G.decls, q d.ty = false →
    (∀ f, d.fixed = some f → s.validT d.ty f = true) ∧ (∀ f, d.dflt = some f → s.validT d.ty f = true)

/-- **C03, validity clause, both variants of the fixed-value test.**  `q` marks the context-dependent types
    (none before the repair of C03-F3, xs:QName after it): the decoder reports no error exactly when the
    attribute set is valid. -/
theorem attrs_valid_iff_variants (s : Sem) (q : Nat → Bool) (env : Attributes.Env) (o : Opts) (G : Group)
    (A : List Attr) (hleg : o.legacy = false) (hrefl : ∀ t x, q t = false → s.valueEq t x x = true)
    (hwf : WFq s q G) (hnd : (G.decls.map (·.name)).Nodup) (hg : (env.globals.map (·.name)).Nodup)
    (hxsi : ∀ d ∈ G.decls, d.name.ns ≠ xsiNs) :
    errorsX s q env o G A = [] ↔ Ok s env G A :=
  errorsX_nil_iff s q env o G A hleg hrefl
    (fun d hd hq f hc => (constraintOf_fixed_or_dflt hleg hc).elim ((hwf d hd hq).1 f) ((hwf d hd hq).2 f)) hnd hg hxsi

/-- with no marked type the variant chain is the chain of Model/Attributes.lean, which `attrs_valid_iff`
    and every other theorem of Props/C03.lean is about -/
theorem variants_agree_unmarked (s : Sem) (env : Attributes.Env) (o : Opts) (hleg : o.legacy = false) (G : Group)
    (A : List Attr) : errorsX s (fun _ => false) env o G A = errors s env o G A :=
  errorsX_eq_errors s env o hleg G A

/-- "missing required attribute" is located in both variants -/
theorem required_error_located_variants (s : Sem) (q : Nat → Bool) (env : Attributes.Env) (o : Opts)
    (G : Group) (A : List Attr) (n : QN) (h : ∃ d ∈ G.decls, d.name = n ∧ d.use = .required ∧ ∀ v, (n, v) ∉ A) :
    Err.missing n ∈ errorsX s q env o G A := by
  unfold errorsX
  exact List.mem_append_left _ (List.mem_append_left _ (mem_missing.mpr h))

/-! ## the catalogue semantics in both variants -/

theorem semCatV_false (inst schema : NsCtx) : semCatV false inst schema = semCat inst := by
  unfold semCatV semCat
  simp

theorem semCatV_valueEq (bv : Bool) (inst schema : NsCtx) (ty : CatTy) (v f : String) :
    (semCatV bv inst schema).valueEq ty.toIdx v f =
      if (bv && ty == .qname) = true then extQ inst (coll v.toList) == extQ schema (coll f.toList)
      else (skipDecode ty v.toList).pyEq (skipDecode ty f.toList) := by
  simp only [semCatV, ofIdx_toIdx]

theorem ofIdx_qname {t : Nat} {ty : CatTy} (h : CatTy.ofIdx t = some ty) : (t == CatTy.qname.toIdx) = (ty == .qname) := by
  unfold CatTy.ofIdx at h
  split at h <;> first | (cases h; rfl) | cases h

theorem semCatV_refl (bv : Bool) (inst schema : NsCtx) :
    ∀ t x, qStrict bv t = false → (semCatV bv inst schema).valueEq t x x = true := by
  intro t x hq
  simp only [semCatV]
  cases hty : CatTy.ofIdx t with
  | none => simp
  | some ty =>
    simp only
    have : (bv && ty == .qname) = false := by
      rw [← ofIdx_qname hty]; exact hq
    simp only [this, Bool.false_eq_true, if_false]
    exact sv_refl _

/-- **C03, validity clause, concrete types, both variants** (`byValue` = the tree has the repair of C03-F3) -/
theorem attrs_valid_iff_cat_variants (bv : Bool) (inst schema : NsCtx) (env : Attributes.Env) (o : Opts)
    (G : Group) (A : List Attr) (hleg : o.legacy = false)
    (hwf : WFq (semCatV bv inst schema) (qStrict bv) G)
    (hnd : (G.decls.map (·.name)).Nodup) (hg : (env.globals.map (·.name)).Nodup)
    (hxsi : ∀ d ∈ G.decls, d.name.ns ≠ xsiNs) :
    errorsX (semCatV bv inst schema) (qStrict bv) env o G A = [] ↔ Ok (semCatV bv inst schema) env G A :=
  attrs_valid_iff_variants _ _ env o G A hleg (semCatV_refl bv inst schema) hwf hnd hg hxsi

/-! ## xs:QName by value -/

/-- no namespace name of the context contains '}' (true of every URI) -/
def NoBrace (c : NsCtx) : Prop := ∀ b ∈ c, '}' ∉ b.2.toList

/-- the expanded name as the library writes it -/
def render (ns : String) (l : Str) : Str := if ns.isEmpty then l else '{' :: ns.toList ++ '}' :: l

theorem append_sep_inj {x : Char} {a a' l l' : Str} (h1 : x ∉ l) (h2 : x ∉ l') (h : a ++ x :: l = a' ++ x :: l') :
    a = a' ∧ l = l' := by
  induction a generalizing a' with
  | nil =>
    cases a' with
    | nil => exact ⟨rfl, (List.cons.inj h).2⟩
    | cons c a' => exact absurd ((List.cons.inj h).2 ▸ List.mem_append_right _ (List.mem_cons_self ..)) h1
  | cons c a ih =>
    cases a' with
    | nil => exact absurd ((List.cons.inj h).2 ▸ List.mem_append_right _ (List.mem_cons_self ..)) h2
    | cons c' a' =>
      obtain ⟨r1, r2⟩ := ih (List.cons.inj h).2
      exact ⟨by rw [(List.cons.inj h).1, r1], r2⟩

theorem ncName_head {l : Str} (h : isNcName l = true) : ∃ c r, l = c :: r ∧ c ≠ '{' := by
  cases l with
  | nil => cases h
  | cons c r =>
    refine ⟨c, r, rfl, ?_⟩
    rintro rfl
    cases h

theorem ncName_no_brace {l : Str} (h : isNcName l = true) : '}' ∉ l := by
  cases l with
  | nil => exact List.not_mem_nil
  | cons c r =>
    obtain ⟨hc, hr⟩ := Bool.and_eq_true_iff.mp h
    intro hm
    rcases List.mem_cons.mp hm with rfl | hm
    · cases hc
    · cases List.all_eq_true.mp hr _ hm

/-- the rendering determines the expanded name: a local part starts with no '{' and contains no '}', so the
    namespace name is what stands between the first '{' and the LAST '}' -/
theorem render_inj {ns ns' : String} {l l' : Str} (hl : isNcName l = true) (hl' : isNcName l' = true) :
    render ns l = render ns' l' ↔ ns = ns' ∧ l = l' := by
  refine ⟨fun h => ?_, fun ⟨hn, hl⟩ => hn ▸ hl ▸ rfl⟩
  have hb := ncName_no_brace hl
  have hb' := ncName_no_brace hl'
  obtain ⟨c, r, rfl, hc⟩ := ncName_head hl
  obtain ⟨c', r', rfl, hc'⟩ := ncName_head hl'
  unfold render at h
  by_cases e1 : ns.isEmpty = true <;> by_cases e2 : ns'.isEmpty = true
  · rw [if_pos e1, if_pos e2] at h
    exact ⟨(String.isEmpty_iff.mp e1).trans (String.isEmpty_iff.mp e2).symm, h⟩
  · rw [if_pos e1, if_neg e2] at h
    exact absurd (List.cons.inj h).1 hc
  · rw [if_neg e1, if_pos e2] at h
    exact absurd (List.cons.inj h).1.symm hc'
  · rw [if_neg e1, if_neg e2] at h
    obtain ⟨r1, r2⟩ := append_sep_inj hb hb' (List.cons.inj h).2
    exact ⟨String.toList_inj.mp r1, r2⟩

theorem splitColon_none {t l : Str} (h : splitColon t = (l, none)) : t = l := by
  unfold splitColon at h
  simp only [Prod.mk.injEq] at h
  obtain ⟨h1, h2⟩ := h
  cases hd : t.dropWhile (· != ':') with
  | nil =>
    have := List.takeWhile_append_dropWhile (p := (· != ':')) (l := t)
    rw [hd, List.append_nil, h1] at this
    exact this.symm
  | cons c r => simp [hd] at h2

theorem splitColon_head {t p : Str} {o : Option Str} {c : Char} {r : Str} (h : splitColon t = (p, o))
    (hp : p = c :: r) : t.head? = some c := by
  unfold splitColon at h
  simp only [Prod.mk.injEq] at h
  cases t with
  | nil => simp [hp] at h
  | cons x xs =>
    have h1 := h.1
    rw [List.takeWhile_cons, hp] at h1
    split at h1
    · simp only [List.cons.injEq] at h1; simp [h1.1]
    · cases h1

/-- on a text that starts like a name `get_extended_qname` renders the resolved parts (the default namespace
    for an unprefixed name), or returns the text when the prefix is unknown -/
theorem extQ_eq (c : NsCtx) {t : Str} {c0 : Char} (ht : t.head? = some c0) (hne : c0 ≠ '{') :
    extQ c t = match splitColon t with
      | (_, none) => render ((c.find []).getD "") t
      | (p, some name) => match c.find p with
        | some uri => render uri name
        | none => t := by
  have h1 : ¬ (t.head? == some '{') = true := by rw [ht]; simpa using hne
  have h2 : ¬ t.isEmpty = true := by cases t <;> simp at ht ⊢
  unfold extQ
  cases c with
  | nil => cases splitColon t with | mk a b => cases b <;> rfl
  | cons x xs =>
    rw [if_neg (by simp), if_neg h2, if_neg h1]
    cases splitColon t with
    | mk a b =>
      cases b with
      | none => dsimp only; cases NsCtx.find (x :: xs) [] <;> rfl
      | some nm => rfl

/-- a valid QName literal: the library's expanded text is the rendering of its value -/
theorem extQ_valid (c : NsCtx) (t : Str) (hv : qnameOk c t = true) :
    ∃ ns l, qnameValue c t = some (ns, l) ∧ extQ c t = render ns l ∧ isNcName l = true := by
  unfold qnameOk at hv
  unfold qnameValue
  unfold qnameParts at hv ⊢
  cases hs : splitColon t with
  | mk a b =>
    rw [hs] at hv
    cases b with
    | none =>
      dsimp only at hv ⊢
      by_cases hnc : isNcName a = true
      · obtain ⟨c0, r, hcr, hne⟩ := ncName_head hnc
        cases splitColon_none hs
        rw [if_pos hnc, extQ_eq c (hcr ▸ rfl) hne, hs]
        exact ⟨_, t, rfl, rfl, hnc⟩
      · rw [if_neg hnc] at hv; cases hv
    | some nm =>
      dsimp only at hv ⊢
      by_cases hnc : (isNcName a && isNcName nm) = true
      · rw [if_pos hnc] at hv ⊢
        dsimp only at hv ⊢
        obtain ⟨c0, r, hcr, hne⟩ := ncName_head (Bool.and_eq_true_iff.mp hnc).1
        cases hd : c.find a with
        | none => rw [hd] at hv; cases hv
        | some uri =>
          rw [extQ_eq c (splitColon_head hs hcr) hne, hs]
          dsimp only
          rw [hd]
          exact ⟨uri, nm, rfl, rfl, (Bool.and_eq_true_iff.mp hnc).2⟩
      · rw [if_neg hnc] at hv; cases hv

theorem fixed_test_sameValue (inst schema : NsCtx) (ty : CatTy) (v f : String)
    (hv : validLex inst ty v.toList = true) (hf : validLex schema ty f.toList = true) :
    (semCatV true inst schema).valueEq ty.toIdx v f = true ↔ SameValue inst schema ty v.toList f.toList := by
  by_cases hq : ty = .qname
  · subst hq
    obtain ⟨n1, l1, e1, x1, c1⟩ := extQ_valid inst (coll v.toList) hv
    obtain ⟨n2, l2, e2, x2, c2⟩ := extQ_valid schema (coll f.toList) hf
    have a1 : valueOf inst .qname v.toList = some (.qname n1 l1) := by rw [valueOf, e1]; rfl
    have a2 : valueOf schema .qname f.toList = some (.qname n2 l2) := by rw [valueOf, e2]; rfl
    refine iff_sameValue a1 a2 ?_
    rw [semCatV_valueEq, if_pos (by rfl), beq_iff_eq, x1, x2]
    exact render_inj c1 c2
  · rw [semCatV_valueEq, if_neg (by simpa using hq), ← semCat_valueEq]
    exact fixed_test_value_partial inst schema ty hq v f hv hf

/-- **C03, "equal in value space to any fixed value", with the repair of C03-F3 — ALL catalogue types.**
    The test the repaired code makes between a valid attribute value (namespace context `inst` of the
    instance) and the valid fixed value (namespace context `schema`) holds exactly when both literals denote
    the same value; for xs:QName: the same namespace name and local part, whatever prefixes are used.
    The two hypotheses on the contexts are not used (`fixed_test_sameValue`). -/
theorem fixed_test_value (inst schema : NsCtx) (hi : NoBrace inst) (hs : NoBrace schema) (ty : CatTy)
    (v f : String) (hv : validLex inst ty v.toList = true) (hf : validLex schema ty f.toList = true) :
    (semCatV true inst schema).valueEq ty.toIdx v f = true ↔ SameValue inst schema ty v.toList f.toList :=
  (fun _ _ => fixed_test_sameValue inst schema ty v f hv hf) hi hs

/-! ## Non-vacuity: the C03-F3 witnesses under the repaired semantics -/

example : NoBrace ctxP ∧ NoBrace ctxT ∧ NoBrace ctxTo := by
  unfold NoBrace
  decide +kernel
/-- witness 1: same value through another prefix — accepted with the repair -/
example : (semCatV true ctxP ctxT).valueEq CatTy.qname.toIdx "p:x" "t:x" = true := by decide +kernel
/-- witness 2: same text, prefix bound to another namespace — rejected with the repair (no text short-cut) -/
example : errorsX (semCatV true ctxTo ctxT) (qStrict true) envEmpty {}
    { decls := [{ name := ⟨"", "q"⟩, fixed := some "t:x", ty := CatTy.qname.toIdx }], any := none }
    [(⟨"", "q"⟩, "t:x")] = [.fixedMismatch ⟨"", "q"⟩] := by decide +kernel
example : errorsX (semCatV true ctxP ctxT) (qStrict true) envEmpty {}
    { decls := [{ name := ⟨"", "q"⟩, fixed := some "t:x", ty := CatTy.qname.toIdx }], any := none }
    [(⟨"", "q"⟩, "p:x")] = [] := by decide +kernel
/-- an ABSENT attribute with a fixed QName whose prefix the instance does not bind: nothing is reported with
    the repair; the code before it validates the injected literal in the instance context -/
example : errorsX (semCatV true ctxP ctxT) (qStrict true) envEmpty {}
    { decls := [{ name := ⟨"", "q"⟩, fixed := some "t:x", ty := CatTy.qname.toIdx }], any := none } [] = [] := by decide +kernel
example : errorsX (semCatV false ctxP ctxT) (qStrict false) envEmpty {}
    { decls := [{ name := ⟨"", "q"⟩, fixed := some "t:x", ty := CatTy.qname.toIdx }], any := none } [] =
    [.invalidValue ⟨"", "q"⟩] := by decide +kernel
/-- the counter-examples of Props/C03Types.lean are statements about the flag-false variant -/
example : (semCatV false ctxP ctxT).valueEq CatTy.qname.toIdx "p:x" "t:x" = false := by
  rw [semCatV_false]; exact fixed_qname_rejects_counterexample.2.2.2

end XsVerif.Props.C03Fixed
