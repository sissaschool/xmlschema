/-
  C16 — wildcard namespace constraints behave as sets of allowed names: every operation of wildcards.py
  against the set reading (`den`, `denQ`).
-/
import XsVerif.Model.Wildcard
import XsVerif.Lemmas.Fresh

namespace XsVerif.Props.C16
open XsVerif.Wildcard

/-- S: the set of namespaces denoted by a wildcard's namespace constraint.
    The xsi namespace is admitted by every positive (`namespace=`) constraint: the code does so
    on purpose (wildcards.py:179) and the property statements below quantify over the names
    outside that namespace. -/
def den (w : Wc) (n : String) : Prop :=
  if w.notNs ≠ [] then n ∉ w.notNs
  else match w.ns with
    | .any => True
    | .other => n = xsiNs ∨ (n ≠ "" ∧ n ≠ w.tns)
    | .set l => n = xsiNs ∨ n ∈ l

/-- S, name level (XSD 1.1). -/
def denQ (w : Wc) (q : QN) : Prop := den w q.ns ∧ q ∉ w.notQ

/-- a non-empty `notNs` hides `ns`, so there are four shapes, not six. -/
@[elab_as_elim] theorem Wc.shapes {motive : Wc → Prop}
    (neg : ∀ ns x l q d s t, motive ⟨ns, x :: l, q, d, s, t⟩)
    (any : ∀ q d s t, motive ⟨.any, [], q, d, s, t⟩)
    (other : ∀ q d s t, motive ⟨.other, [], q, d, s, t⟩)
    (set : ∀ l q d s t, motive ⟨.set l, [], q, d, s, t⟩) (w : Wc) : motive w := by
  obtain ⟨ns, _ | ⟨x, l⟩, q, d, s, t⟩ := w
  · cases ns <;> apply_assumption
  · apply neg

theorem nsAllowed_iff_den (w : Wc) (n : String) : nsAllowed w n = true ↔ den w n := by
  cases w using Wc.shapes <;> simp [nsAllowed, den, mem, NsC.isAny, NsC.isOther, NsC.elems] <;> grind

theorem allowsQ_iff_denQ (w : Wc) (q : QN) : allowsQ w q = true ↔ denQ w q := by
  unfold allowsQ denQ
  simp [nsAllowed_iff_den]

/-- the constraint does not read `##other` -/
def NoOther (w : Wc) : Prop := w.ns.isOther = false ∨ w.notNs.isEmpty = false

/-- the two operands can be combined branch by branch: same target namespace, or no `##other`
    (which is what `normPair` establishes for wildcards of different target namespaces) -/
def Compat (a b : Wc) : Prop := a.tns = b.tns ∨ (NoOther a ∧ NoOther b)

theorem nsAllowed_congr {a b : Wc} (h1 : a.ns = b.ns) (h2 : a.notNs = b.notNs) (h3 : a.tns = b.tns)
    (n : String) : nsAllowed a n = nsAllowed b n := by
  unfold nsAllowed; rw [h1, h2, h3]

theorem Compat.of_fields {a a' b : Wc} (hc : Compat a b) (h1 : a'.ns = a.ns) (h2 : a'.notNs = a.notNs)
    (h3 : a'.tns = a.tns) :
    Compat a' b := by
  rcases hc with h | ⟨ha, hb⟩
  · exact .inl (h3.trans h)
  · exact .inr ⟨by unfold NoOther at ha ⊢; rw [h1, h2]; exact ha, hb⟩

/-- the namespace part of every operation returns its first operand with another `ns`, `notNs`. -/
def NsUpdate (w u : Wc) : Prop :=
  u.notQ = w.notQ ∧ u.notDefined = w.notDefined ∧ u.notSibling = w.notSibling

theorem interNs_spec (a b : Wc) (hc : Compat a b) (n : String) (hx : n ≠ xsiNs) :
    nsAllowed (interNs a b) n = (nsAllowed a n && nsAllowed b n) := by
  cases a using Wc.shapes <;> cases b using Wc.shapes <;>
    simp [Compat, NoOther, interNs, nsAllowed, mem, NsC.isAny, NsC.isOther, NsC.elems, NsC.beq, hx] at hc ⊢ <;>
    grind

theorem interNs_nsUpdate (a b : Wc) : NsUpdate a (interNs a b) := by
  simp only [NsUpdate, interNs, apply_ite Wc.notQ, apply_ite Wc.notDefined, apply_ite Wc.notSibling,
    ite_self, and_self]

theorem interNotQ_fields (a b : Wc) :
    (interNotQ a b).ns = a.ns ∧ (interNotQ a b).notNs = a.notNs ∧ (interNotQ a b).tns = a.tns := by
  simp only [interNotQ]; split <;> simp

theorem intersection_ns_spec_core (a b : Wc) (hc : Compat a b) (n : String) (hx : n ≠ xsiNs) :
    nsAllowed (intersectionCore a b) n = (nsAllowed a n && nsAllowed b n) := by
  obtain ⟨h1, h2, h3⟩ := interNotQ_fields a b
  unfold intersectionCore
  rw [interNs_spec _ _ (hc.of_fields h1 h2 h3) n hx, nsAllowed_congr h1 h2 h3]

theorem interNotQ_excl (a b : Wc) (q : QN) :
    (interNotQ a b).notQ.contains q = (a.notQ.contains q || b.notQ.contains q) ∧
    (interNotQ a b).notDefined = (a.notDefined || b.notDefined) ∧
    (interNotQ a b).notSibling = (a.notSibling || b.notSibling) := by
  unfold interNotQ
  cases hq : a.notQ <;> cases a.notDefined <;> cases a.notSibling <;> simp <;> grind

theorem allows_and (A B ad bd as bs D S qa qb : Bool) :
    (A && B && !((ad || bd) && D) && !((as || bs) && S) && !(qa || qb)) =
      ((A && !(ad && D) && !(as && S) && !qa) && (B && !(bd && D) && !(bs && S) && !qb)) := by
  grind

/-- `D`, `S`: the context-dependent `##defined` / `##definedSibling` exclusions, as arbitrary predicates. -/
theorem intersection_spec_core (a b : Wc) (hc : Compat a b) (D S : QN → Bool) (q : QN)
    (hx : q.ns ≠ xsiNs) :
    allows (intersectionCore a b) D S q = (allows a D S q && allows b D S q) := by
  obtain ⟨f1, f2, f3⟩ := interNs_nsUpdate (interNotQ a b) b
  obtain ⟨hq, hd, hs⟩ := interNotQ_excl a b q
  unfold allows
  rw [intersection_ns_spec_core a b hc q.ns hx]
  unfold intersectionCore
  rw [f1, f2, f3, hq, hd, hs]
  exact allows_and ..

theorem restrNs_sound (a b : Wc) (hc : Compat a b) (h : restrNs a b = true)
    (n : String) (hx : n ≠ xsiNs) (ha : nsAllowed a n = true) : nsAllowed b n = true := by
  revert h ha
  cases a using Wc.shapes <;> cases b using Wc.shapes <;>
    simp [Compat, NoOther, restrNs, nsAllowed, mem, NsC.isAny, NsC.isOther, NsC.elems, NsC.beq, hx] at hc ⊢ <;>
    grind

theorem denyQNames_sound {w : Wc} {names : List QN} (h : denyQNames w names = true) {q : QN}
    (hq : q ∈ names) (hx : q.ns ≠ xsiNs) : allowsQ w q = false := by
  revert h
  cases w using Wc.shapes <;>
    simp [denyQNames, allowsQ, nsAllowed, mem, NsC.isAny, NsC.isOther, NsC.elems, hx] <;> grind

theorem restrQ_sound {a b : Wc} (h : restrQ a b = true) :
    (b.notDefined = true → a.notDefined = true) ∧ (b.notSibling = true → a.notSibling = true) ∧
      (b.notQ ≠ [] → denyQNames a b.notQ = true) := by
  revert h
  unfold restrQ
  cases a.notDefined <;> cases b.notDefined <;> cases a.notSibling <;> cases b.notSibling <;>
    cases b.notQ <;> simp

theorem restriction_sound_core (a b : Wc) (pa pb : PC) (hc : Compat a b)
    (h : isRestrictionCore a b pa pb = true) (D S : QN → Bool) (q : QN) (hx : q.ns ≠ xsiNs)
    (ha : allows a D S q = true) : allows b D S q = true := by
  simp only [isRestrictionCore, Bool.and_eq_true] at h
  obtain ⟨⟨-, hq⟩, hn⟩ := h
  obtain ⟨hd, hs, hdeny⟩ := restrQ_sound hq
  simp only [allows, Bool.and_eq_true, Bool.not_eq_true'] at ha ⊢
  obtain ⟨⟨⟨ha1, ha2⟩, ha3⟩, ha4⟩ := ha
  refine ⟨⟨⟨restrNs_sound a b hc hn q.ns hx ha1, ?_⟩, ?_⟩, ?_⟩
  · cases hb : b.notDefined
    · rfl
    · simpa [hd hb] using ha2
  · cases hb : b.notSibling
    · rfl
    · simpa [hs hb] using ha3
  · -- a name that `b` excludes is refused by `a`, which admits `q`
    cases hbq : b.notQ.contains q
    · rfl
    · have hmem : q ∈ b.notQ := by simpa using hbq
      exact absurd (denyQNames_sound (hdeny (List.ne_nil_of_mem hmem)) hmem hx) (by rw [allowsQ, ha1, ha4]; decide)

/-- The constraint does not mention the xsi namespace explicitly. -/
def XsiFree (w : Wc) : Prop := xsiNs ∉ w.ns.elems ∧ xsiNs ∉ w.notNs

instance (w : Wc) : Decidable (XsiFree w) := by unfold XsiFree; infer_instance

/-- the constraint is an explicit list of namespaces -/
def listed (w : Wc) : Bool := w.notNs.isEmpty && !w.ns.isAny && !w.ns.isOther

theorem nsAllowed_listed {w : Wc} (hw : listed w = true) {n : String} (hn : n ≠ xsiNs) :
    nsAllowed w n = true ↔ n ∈ w.ns.elems := by
  simp only [listed, Bool.and_eq_true, Bool.not_eq_true'] at hw
  simp [nsAllowed, mem, hw, hn]

theorem nsAllowed_unlisted {w : Wc} (hw : listed w = false) {z : String}
    (hz : z ∉ "" :: w.tns :: w.notNs) : nsAllowed w z = true := by
  revert hw hz
  cases w using Wc.shapes <;> simp [listed, nsAllowed, mem, NsC.isAny, NsC.isOther] <;> grind

theorem isOverlapCore_unlisted {a b : Wc} (ha : listed a = false) (hb : listed b = false) :
    isOverlapCore a b = true := by
  cases a using Wc.shapes <;> simp [listed, NsC.isAny, NsC.isOther] at ha <;>
    cases b using Wc.shapes <;> simp [listed, NsC.isAny, NsC.isOther] at hb <;>
    simp [isOverlapCore, NsC.isAny, NsC.isOther, NsC.beq]

theorem overlap_spec_listed {a : Wc} (b : Wc) (ha : listed a = true) (hxa : xsiNs ∉ a.ns.elems) :
    isOverlapCore a b = true ↔ ∃ n, n ≠ xsiNs ∧ nsAllowed a n = true ∧ nsAllowed b n = true := by
  have hmem : isOverlapCore a b = true ↔ ∃ n ∈ a.ns.elems, nsAllowed b n = true := by
    cases a using Wc.shapes <;> simp [listed, NsC.isAny, NsC.isOther] at ha
    revert hxa
    cases b using Wc.shapes <;>
      simp [isOverlapCore, nsAllowed, mem, NsC.isAny, NsC.isOther, NsC.elems, NsC.beq,
        List.eq_nil_iff_forall_not_mem] <;> grind
  rw [hmem]
  constructor
  · rintro ⟨n, hn, h⟩
    have hne : n ≠ xsiNs := fun e => hxa (e ▸ hn)
    exact ⟨n, hne, (nsAllowed_listed ha hne).2 hn, h⟩
  · rintro ⟨n, hne, hn, h⟩
    exact ⟨n, (nsAllowed_listed ha hne).1 hn, h⟩

theorem isOverlapCore_comm (a b : Wc) : isOverlapCore a b = isOverlapCore b a := by
  rw [Bool.eq_iff_iff]
  cases a using Wc.shapes <;> cases b using Wc.shapes <;>
    simp [isOverlapCore, NsC.isAny, NsC.isOther, NsC.elems, NsC.beq, mem] <;> grind

/-- The universe of namespace names is infinite, which is what makes two constraints that are not
    explicit lists always overlap. -/
theorem overlap_spec_core (a b : Wc) (hxa : xsiNs ∉ a.ns.elems) (hxb : xsiNs ∉ b.ns.elems) :
    isOverlapCore a b = true ↔ ∃ n, n ≠ xsiNs ∧ nsAllowed a n = true ∧ nsAllowed b n = true := by
  cases ha : listed a
  · cases hb : listed b
    · have hf := fresh_not_mem (xsiNs :: "" :: a.tns :: b.tns :: (a.notNs ++ b.notNs))
      generalize fresh _ = z at hf
      exact iff_of_true (isOverlapCore_unlisted ha hb)
        ⟨z, by grind, nsAllowed_unlisted ha (by grind), nsAllowed_unlisted hb (by grind)⟩
    · rw [isOverlapCore_comm, overlap_spec_listed a hb hxb]
      exact exists_congr fun n => and_congr_right fun _ => and_comm
  · exact overlap_spec_listed b ha hxa

theorem nsAllowed_ofNotNs (w : Wc) (nn : List String) (c : Bool) (n : String) :
    nsAllowed (ofNotNs w nn c) n = !mem n nn := by
  unfold ofNotNs
  cases nn <;> cases c <;> simp [nsAllowed, mem, NsC.isAny]

theorem unionN_spec (a b : Wc) (ha : a.notNs.isEmpty = false)
    (n : String) (hx : n ≠ xsiNs) :
    nsAllowed (unionN a b) n = (nsAllowed a n || nsAllowed b n) := by
  unfold unionN
  cases hb : b.ns <;> cases hbn : b.notNs <;>
    simp [nsAllowed_ofNotNs, NsC.isAny, NsC.isOther, NsC.elems] <;>
    simp [nsAllowed, mem, NsC.isAny, NsC.isOther, NsC.elems, ha, hb, hbn, hx] <;> grind

theorem unionPN_spec (a b : Wc) (ha : a.notNs.isEmpty = true)
    (hb : b.notNs.isEmpty = false) (n : String) (hx : n ≠ xsiNs) :
    nsAllowed (unionPN a b) n = (nsAllowed a n || nsAllowed b n) := by
  unfold unionPN
  cases has : a.ns <;>
    simp [nsAllowed_ofNotNs, NsC.isAny, NsC.isOther, NsC.elems] <;>
    simp [nsAllowed, mem, NsC.isAny, NsC.isOther, NsC.elems, ha, hb, has, hx] <;> grind

theorem unionOtherSet_spec (v11 : Bool) (s w1 w2 u : Wc) (h1 : w1.ns = .other)
    (h1n : w1.notNs = []) (h2n : w2.notNs = []) (l : List String) (h2 : w2.ns = .set l)
    (h : unionOtherSet v11 s w1 w2 = some u) (hs : s.tns = w1.tns) (hsn : s.notNs = [])
    (n : String) (hx : n ≠ xsiNs) :
    nsAllowed u n = (nsAllowed w1 n || nsAllowed w2 n) := by
  unfold unionOtherSet at h
  simp only [h2, NsC.elems] at h
  repeat' split at h
  all_goals (first | cases h | skip)
  all_goals
    simp [nsAllowed, mem, NsC.isAny, NsC.isOther, NsC.elems, h1, h1n, h2n, h2, hsn, hs, hx] <;>
    grind [mem]

theorem unionPP_spec (v11 : Bool) (a b u : Wc) (hc : Compat a b)
    (ha : a.notNs = []) (hb : b.notNs = []) (h : unionPP v11 a b = some u)
    (n : String) (hx : n ≠ xsiNs) :
    nsAllowed u n = (nsAllowed a n || nsAllowed b n) := by
  have htns : b.ns.isOther = true → a.tns = b.tns := by
    intro hbo
    rcases hc with h' | ⟨_, hb'⟩
    · exact h'
    · unfold NoOther at hb'
      rw [hbo, hb] at hb'
      simp at hb'
  unfold unionPP at h
  cases has : a.ns <;> cases hbs : b.ns <;>
    simp only [has, hbs, NsC.isAny, NsC.isOther, NsC.isEmpty_set, NsC.isEmpty_any,
      NsC.isEmpty_other, NsC.beq, NsC.elems, Bool.or_true, Bool.or_false, if_true, Bool.false_eq_true, if_false] at h
  all_goals (try (cases h; simp [nsAllowed, NsC.isAny, NsC.isOther, NsC.elems, mem, ha, hb, has, hbs, hx]; done))
  case other.other =>
    have ht := htns (by simp [hbs, NsC.isOther])
    cases h
    simp [nsAllowed, NsC.isAny, NsC.isOther, ha, hb, has, hbs, hx, ht]
  case other.set l =>
    split at h
    · cases h
      simp_all [nsAllowed, NsC.isAny, NsC.isOther, NsC.elems, mem]
    · rw [unionOtherSet_spec v11 a a b u has ha hb _ hbs h rfl ha n hx]
  case set.other l =>
    rw [unionOtherSet_spec v11 a b a u hbs hb ha _ has h (htns (by simp [hbs, NsC.isOther])) ha n hx, Bool.or_comm]
  case set.set la lb =>
    split at h
    · cases h
      simp_all [nsAllowed, NsC.isAny, NsC.isOther, NsC.elems, mem]; grind
    · cases h
      simp [nsAllowed, NsC.isAny, NsC.isOther, NsC.elems, mem, ha, hb, has, hbs, hx]; grind

theorem unionNs_spec (v11 : Bool) (a b u : Wc) (hc : Compat a b)
    (h : unionNs v11 a b = some u) (n : String) (hx : n ≠ xsiNs) :
    nsAllowed u n = (nsAllowed a n || nsAllowed b n) := by
  unfold unionNs at h
  split at h
  · cases h; exact unionN_spec a b (by simp_all) n hx
  · split at h
    · cases h; exact unionPN_spec a b (by simp_all) (by simp_all) n hx
    · exact unionPP_spec v11 a b u hc (by simp_all) (by simp_all) h n hx

theorem ofNotNs_nsUpdate (w : Wc) (nn : List String) (c : Bool) : NsUpdate w (ofNotNs w nn c) := by
  simp only [NsUpdate, ofNotNs, apply_ite Wc.notQ, apply_ite Wc.notDefined, apply_ite Wc.notSibling,
    ite_self, and_self]

theorem unionN_nsUpdate (a b : Wc) : NsUpdate a (unionN a b) := by
  unfold unionN
  repeat' split
  all_goals first | exact ofNotNs_nsUpdate .. | exact ⟨rfl, rfl, rfl⟩

theorem unionPN_nsUpdate (a b : Wc) : NsUpdate a (unionPN a b) := by
  unfold unionPN
  repeat' split
  all_goals first | exact ofNotNs_nsUpdate .. | exact ⟨rfl, rfl, rfl⟩

theorem unionOtherSet_nsUpdate {v11 : Bool} {s w1 w2 u : Wc} (h : unionOtherSet v11 s w1 w2 = some u) :
    NsUpdate s u := by
  unfold unionOtherSet at h
  repeat' split at h
  all_goals cases h
  all_goals exact ⟨rfl, rfl, rfl⟩

theorem unionPP_nsUpdate {v11 : Bool} {a b u : Wc} (h : unionPP v11 a b = some u) : NsUpdate a u := by
  unfold unionPP at h
  repeat' split at h
  all_goals first | exact unionOtherSet_nsUpdate h | (cases h; exact ⟨rfl, rfl, rfl⟩)

theorem unionNs_nsUpdate {v11 : Bool} {a b u : Wc} (h : unionNs v11 a b = some u) : NsUpdate a u := by
  unfold unionNs at h
  repeat' split at h
  · cases h; exact unionN_nsUpdate a b
  · cases h; exact unionPN_nsUpdate a b
  · exact unionPP_nsUpdate h

theorem union_ns_spec_core (v11 : Bool) (a b u : Wc) (hc : Compat a b)
    (h : unionCore v11 a b = some u) (n : String) (hx : n ≠ xsiNs) :
    nsAllowed u n = (nsAllowed a n || nsAllowed b n) := by
  unfold unionCore at h
  have h' : nsAllowed (unionNotQ a b) n = nsAllowed a n := nsAllowed_congr rfl rfl rfl n
  rw [unionNs_spec v11 (unionNotQ a b) b u (hc.of_fields rfl rfl rfl) h n hx, h']

theorem contains_unionNotQ (a b : Wc) (q : QN) :
    (unionNotQ a b).notQ.contains q =
      (a.notQ.contains q && (b.notQ.contains q || !nsAllowed b q.ns) ||
        b.notQ.contains q && (!a.notQ.contains q && !nsAllowed a q.ns)) := by
  simp only [unionNotQ, List.contains_eq_mem, List.mem_append, List.mem_filter, Bool.decide_or,
    Bool.decide_and, Bool.decide_eq_true]

/-- `qa`, `qb` stand for the `notQName` tests and the last conjunct is `contains_unionNotQ` -/
theorem allows_or (A B ad bd as bs D S qa qb : Bool)
    (h : (A && !(ad && D) && !(as && S) && !qa) = true ∨ (B && !(bd && D) && !(bs && S) && !qb) = true) :
    ((A || B) && !((ad && bd) && D) && !((as && bs) && S) &&
      !(qa && (qb || !B) || qb && (!qa && !A))) = true := by
  simp only [Bool.and_eq_true, Bool.not_eq_true', Bool.and_eq_false_iff] at h
  rcases h with ⟨⟨⟨rfl, h2⟩, h3⟩, rfl⟩ | ⟨⟨⟨rfl, h2⟩, h3⟩, rfl⟩ <;>
    rcases h2 with rfl | rfl <;> rcases h3 with rfl | rfl <;> simp

theorem union_complete_core (v11 : Bool) (a b u : Wc) (hc : Compat a b)
    (h : unionCore v11 a b = some u) (D S : QN → Bool) (q : QN) (hx : q.ns ≠ xsiNs)
    (hab : allows a D S q = true ∨ allows b D S q = true) : allows u D S q = true := by
  obtain ⟨f1, f2, f3⟩ := unionNs_nsUpdate h
  unfold allows
  rw [union_ns_spec_core v11 a b u hc h q.ns hx, f1, f2, f3, contains_unionNotQ]
  exact allows_or _ _ _ _ _ _ _ _ _ _ hab

theorem union_exact_core (v11 : Bool) (a b u : Wc) (hc : Compat a b)
    (h : unionCore v11 a b = some u) (q : QN) (hx : q.ns ≠ xsiNs) :
    allowsQ u q = (allowsQ a q || allowsQ b q) := by
  obtain ⟨f1, -⟩ := unionNs_nsUpdate h
  unfold allowsQ
  rw [union_ns_spec_core v11 a b u hc h q.ns hx, f1, contains_unionNotQ]
  grind

theorem unionOtherSet_isSome_11 (s w1 w2 : Wc) : (unionOtherSet true s w1 w2).isSome = true := by
  unfold unionOtherSet
  repeat' split
  all_goals first | rfl | simp_all

theorem unionPP_isSome_11 (a b : Wc) : (unionPP true a b).isSome = true := by
  unfold unionPP
  repeat' split
  all_goals first | rfl | exact unionOtherSet_isSome_11 ..

theorem union_expressible_11_core (a b : Wc) : (unionCore true a b).isSome = true := by
  unfold unionCore unionNs
  repeat' split
  all_goals first | rfl | exact unionPP_isSome_11 ..

theorem unionOtherSet_none {s w1 w2 : Wc} (h : unionOtherSet false s w1 w2 = none) :
    mem "" w2.ns.elems = true ∧ mem w1.tns w2.ns.elems = false := by
  unfold unionOtherSet at h
  split at h
  · cases h
  · split at h
    · cases h
    · split at h
      · simp_all
      · split at h <;> cases h

/-- In XSD 1.0 the only refused union is `##other ∪ S` with `absent ∈ S` and `tns ∉ S`
    ("not expressible": it would be `not(tns)`, which XSD 1.0 cannot state). -/
theorem union_refused_10 (a b : Wc) (h : unionNs false a b = none) :
    a.notNs = [] ∧ b.notNs = [] ∧
    ((b.ns.isOther = true ∧ mem "" a.ns.elems = true ∧ mem b.tns a.ns.elems = false) ∨
     (a.ns.isOther = true ∧ mem "" b.ns.elems = true ∧ mem a.tns b.ns.elems = false)) := by
  unfold unionNs at h
  split at h
  · cases h
  · split at h
    · cases h
    · refine ⟨by simp_all, by simp_all, ?_⟩
      unfold unionPP at h
      repeat' split at h
      · cases h
      · cases h
      · exact .inl ⟨‹_›, unionOtherSet_none h⟩
      · exact .inr ⟨‹_›, unionOtherSet_none h⟩
      · cases h

/-! `##other` is relative to the wildcard's own target namespace; the operations first bring two wildcards of
different target namespaces into the absolute form (`normPair`, port of `_absolute_other`). -/

theorem absOther_noOther (w : Wc) : NoOther (absOther w) := by
  unfold absOther NoOther
  split
  · left; simp [NsC.isOther]
  · rename_i h
    cases hns : w.ns <;> cases hnn : w.notNs <;> simp_all [NsC.isOther]

theorem nsAllowed_absOther (w : Wc) (n : String) (hx : n ≠ xsiNs) :
    nsAllowed (absOther w) n = nsAllowed w n := by
  unfold absOther
  cases hns : w.ns <;> cases hnn : w.notNs <;>
    simp [NsC.isOther, nsAllowed, mem, NsC.isAny, NsC.elems, hns, hnn, hx] <;> grind

theorem absOther_nsUpdate (w : Wc) : NsUpdate w (absOther w) := by
  unfold absOther; split <;> exact ⟨rfl, rfl, rfl⟩

theorem allows_absOther (w : Wc) (D S : QN → Bool) (q : QN) (hx : q.ns ≠ xsiNs) :
    allows (absOther w) D S q = allows w D S q := by
  obtain ⟨f1, f2, f3⟩ := absOther_nsUpdate w
  unfold allows
  rw [nsAllowed_absOther w q.ns hx, f1, f2, f3]

theorem allowsQ_absOther (w : Wc) (q : QN) (hx : q.ns ≠ xsiNs) :
    allowsQ (absOther w) q = allowsQ w q := by
  obtain ⟨f1, -⟩ := absOther_nsUpdate w
  unfold allowsQ
  rw [nsAllowed_absOther w q.ns hx, f1]

theorem compat_normPair (a b : Wc) : Compat (normPair a b).1 (normPair a b).2 := by
  unfold normPair
  split
  · rename_i h; exact .inl (by simpa using h)
  · exact .inr ⟨absOther_noOther a, absOther_noOther b⟩

theorem normPair_pres {α : Type} (f : Wc → α) (hf : ∀ w, f (absOther w) = f w) (a b : Wc) :
    f (normPair a b).1 = f a ∧ f (normPair a b).2 = f b := by
  unfold normPair
  split
  · exact ⟨rfl, rfl⟩
  · exact ⟨hf a, hf b⟩

/-- **Intersection** (attribute-group composition): the computed wildcard admits exactly the names both
    operands admit — any two wildcards, any target namespaces. -/
theorem intersection_spec (a b : Wc) (D S : QN → Bool) (q : QN) (hx : q.ns ≠ xsiNs) :
    allows (intersection a b) D S q = (allows a D S q && allows b D S q) := by
  obtain ⟨h1, h2⟩ := normPair_pres (allows · D S q) (allows_absOther · D S q hx) a b
  unfold intersection
  rw [intersection_spec_core _ _ (compat_normPair a b) D S q hx, h1, h2]

theorem intersection_ns_spec (a b : Wc) (n : String) (hx : n ≠ xsiNs) :
    nsAllowed (intersection a b) n = (nsAllowed a n && nsAllowed b n) := by
  obtain ⟨h1, h2⟩ := normPair_pres (nsAllowed · n) (nsAllowed_absOther · n hx) a b
  unfold intersection
  rw [intersection_ns_spec_core _ _ (compat_normPair a b) n hx, h1, h2]

/-- **Restriction**: a wildcard accepted as a restriction of another admits a subset of its names. -/
theorem restriction_sound (a b : Wc) (pa pb : PC) (h : isRestriction a b pa pb = true)
    (D S : QN → Bool) (q : QN) (hx : q.ns ≠ xsiNs) (ha : allows a D S q = true) :
    allows b D S q = true := by
  obtain ⟨h1, h2⟩ := normPair_pres (allows · D S q) (allows_absOther · D S q hx) a b
  unfold isRestriction at h
  rw [← h2]
  exact restriction_sound_core _ _ pa pb (compat_normPair a b) h D S q hx (by rw [h1]; exact ha)

/-- **Union** (extension): the computed namespace constraint admits exactly the namespaces either operand
    admits. -/
theorem union_ns_spec (v11 : Bool) (a b u : Wc) (h : union v11 a b = some u) (n : String)
    (hx : n ≠ xsiNs) : nsAllowed u n = (nsAllowed a n || nsAllowed b n) := by
  obtain ⟨h1, h2⟩ := normPair_pres (nsAllowed · n) (nsAllowed_absOther · n hx) a b
  unfold union at h
  rw [union_ns_spec_core v11 _ _ u (compat_normPair a b) h n hx, h1, h2]

/-- Union never loses a name (`##defined` / `##definedSibling` as arbitrary predicates). -/
theorem union_complete (v11 : Bool) (a b u : Wc) (h : union v11 a b = some u) (D S : QN → Bool)
    (q : QN) (hx : q.ns ≠ xsiNs) (hab : allows a D S q = true ∨ allows b D S q = true) :
    allows u D S q = true := by
  obtain ⟨h1, h2⟩ := normPair_pres (allows · D S q) (allows_absOther · D S q hx) a b
  unfold union at h
  exact union_complete_core v11 _ _ u (compat_normPair a b) h D S q hx (by rw [h1, h2]; exact hab)

/-- On explicit `notQName` names the union is exact. -/
theorem union_exact (v11 : Bool) (a b u : Wc) (h : union v11 a b = some u) (q : QN)
    (hx : q.ns ≠ xsiNs) : allowsQ u q = (allowsQ a q || allowsQ b q) := by
  obtain ⟨h1, h2⟩ := normPair_pres (allowsQ · q) (allowsQ_absOther · q hx) a b
  unfold union at h
  rw [union_exact_core v11 _ _ u (compat_normPair a b) h q hx, h1, h2]

/-- XSD 1.1 can express every union. -/
theorem union_expressible_11 (a b : Wc) : (union true a b).isSome = true := by
  unfold union
  exact union_expressible_11_core _ _

theorem elems_absOther_subset (w : Wc) {n : String} (h : n ∈ (absOther w).ns.elems) : n ∈ w.ns.elems := by
  unfold absOther at h
  split at h
  · cases h
  · exact h

theorem overlap_spec_of_elems (a b : Wc) (hxa : xsiNs ∉ a.ns.elems) (hxb : xsiNs ∉ b.ns.elems) :
    isOverlap a b = true ↔ ∃ n, n ≠ xsiNs ∧ nsAllowed a n = true ∧ nsAllowed b n = true := by
  unfold isOverlap normPair
  by_cases h : (a.tns == b.tns) = true
  · rw [if_pos h]
    exact overlap_spec_core a b hxa hxb
  · rw [if_neg h]
    refine (overlap_spec_core _ _ (mt (elems_absOther_subset a) hxa) (mt (elems_absOther_subset b) hxb)).trans ?_
    exact exists_congr fun n => and_congr_right fun hn => by
      rw [nsAllowed_absOther a n hn, nsAllowed_absOther b n hn]

/-- **Overlap**: two element wildcards are treated as overlapping exactly when some namespace (outside xsi)
    is admitted by both.  Of the hypotheses only the `namespace` halves of `XsiFree` are used
    (`overlap_spec_of_elems`). -/
theorem overlap_spec (a b : Wc) (hxa : XsiFree a) (hxb : XsiFree b) (hta : a.tns ≠ xsiNs)
    (htb : b.tns ≠ xsiNs) :
    isOverlap a b = true ↔ ∃ n, n ≠ xsiNs ∧ nsAllowed a n = true ∧ nsAllowed b n = true :=
  overlap_spec_of_elems a b hxa.1 hxb.1

/-- Before the fix the operations did not normalise: `##other` of target namespace `urn:b` intersected with
    `##other` of target namespace `urn:t` stayed `##other` of the first and still admitted the second's
    namespace (finding C16-F4). -/
theorem cross_namespace_counterexample :
    let a : Wc := { ns := .other, tns := "urn:t" }
    let b : Wc := { ns := .other, tns := "urn:b" }
    nsAllowed (intersectionCore a b) "urn:b" = true ∧ nsAllowed b "urn:b" = false ∧
    nsAllowed (intersection a b) "urn:b" = false := by decide

/-! ### non-vacuity -/

private def wOther : Wc := { ns := .other, tns := "urn:t" }
private def wSet : Wc := { ns := .set ["urn:t", "urn:a"], tns := "urn:t" }
private def wNot : Wc := { ns := .set [], notNs := ["urn:a"], notQ := [⟨"urn:b", "x"⟩], tns := "urn:t" }

example : wOther.tns = wSet.tns ∧ XsiFree wOther ∧ XsiFree wSet ∧ isOverlap wOther wSet = true := by
  decide
example : (union true wOther wSet).map (fun u => (u.notNs, nsAllowed u "urn:t", nsAllowed u ""))
    = some ([""], true, false) := by decide
example : unionNs false wOther { wSet with ns := .set ["", "urn:a"] } = none := by decide
example : isRestriction wSet { ns := .any, tns := "urn:t" } .strict .lax = true ∧
    isRestriction wOther wSet .strict .strict = false := by decide
example : allowsQ (intersection wNot wSet) ⟨"urn:t", "y"⟩ = true ∧
    allowsQ (intersection wNot wSet) ⟨"urn:a", "y"⟩ = false := by decide

end XsVerif.Props.C16
