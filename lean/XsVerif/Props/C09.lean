/-
  C09 — a schema means the same however its declarations are ordered, split or stored.

  Reading of the property in the model.  A schema arrangement (one document, permuted, or split into
  included documents) is flattened by the loader into ONE list of staged declarations
  `(name, (elem, schema), looked-up names)`; permuting / splitting gives a permutation of that list.
  `buildDecls` = `GlobalMaps.load` followed by the on-demand, memoised, circularity-marked build
  (`StagedMap.build/_build_global/__getitem__`).  The built global components are the `store`.
  Circular definitions are excluded by hypothesis (`Acyclic`): there the *location* of the reported
  error legitimately depends on which member of the cycle is built first.
-/
import XsVerif.Lemmas.Staged
import XsVerif.Lemmas.Rebuild

namespace XsVerif.Props.C09
open XsVerif.Staged

/-! ### S: the denotation of an acyclic declaration table -/

/-- S.  `denote` is characterised by the recursive equation of the table alone: a component is its
    declaration applied to the denotations of the names it refers to.  No order, no fuel, no state. -/
theorem denote_spec {g : Name → Option Decl} {rank : Name → Nat} (hac : Acyclic g rank) (q : Name) :
    denote g rank q = match g q with
      | none => .missing q
      | some d => .ok q d.id (d.deps.map (denote g rank)) :=
  denote_unfold hac q

/-! ### forward references never change the outcome -/

/-- One on-demand lookup (`maps.types[q]` at any moment of a build, with any set of other components
    already built and any enclosing builds in progress that `q` does not lead back to) returns the
    denotation of `q`, for EVERY acyclic dependency graph: forward, backward, nested references. -/
theorem lookup_denotes {g : Name → Option Decl} {rank : Name → Nat} (hac : Acyclic g rank)
    (n : Nat) (s : State) (q : Name) (hs : Inv g rank s) (hn : rank q < n)
    (hm : ∀ m, s.marked m = true → rank q < rank m) :
    (lookup n s q).2 = denote g rank q :=
  (lookup_post hac n s q hs hn hm).res

/-- The staged build produces exactly the denotation, whatever list of names drives it (any order,
    with repetitions, as long as every staged name occurs), after any on-demand lookups. -/
theorem build_is_denotation {g : Name → Option Decl} {rank : Name → Nat} (hac : Acyclic g rank)
    (n : Nat) (hn : ∀ q, rank q < n) (pre : Name → Bool)
    (hpre : ∀ q d, pre q = true → g q = some d → d.deps = [])
    (early order : List Name) (hcov : ∀ q d, g q = some d → pre q = false → q ∈ order) (q : Name) :
    (buildAll n (lookups n (initState pre g) early) order).store q
      = (g q).map (fun _ => denote g rank q) := by
  obtain ⟨h1, h2⟩ := lookups_inv hac n hn early (initState pre g) (initState_inv hac pre hpre) fun _ => rfl
  refine buildAll_store hac n hn _ h1 h2 order (fun x d hx => hcov x d (h1.staged x d hx) ?_) q
  -- pre-built names are in the store from the start and are never staged
  cases hp : pre x with
  | false => rfl
  | true =>
    exact nomatch (lookups_staging_none x n early _ ((initState_staging pre g x).trans (if_pos hp))).symm.trans hx

/-- **Order independence of the build.**  Two builds of the same staged declarations driven in two
    different orders (e.g. the insertion orders of two permuted documents) give the same store. -/
theorem build_order_independent {g : Name → Option Decl} {rank : Name → Nat} (hac : Acyclic g rank)
    (n : Nat) (hn : ∀ q, rank q < n) (pre : Name → Bool)
    (hpre : ∀ q d, pre q = true → g q = some d → d.deps = [])
    (e₁ e₂ o₁ o₂ : List Name)
    (h₁ : ∀ q d, g q = some d → pre q = false → q ∈ o₁)
    (h₂ : ∀ q d, g q = some d → pre q = false → q ∈ o₂) (q : Name) :
    (buildAll n (lookups n (initState pre g) e₁) o₁).store q
      = (buildAll n (lookups n (initState pre g) e₂) o₂).store q := by
  rw [build_is_denotation hac n hn pre hpre e₁ o₁ h₁, build_is_denotation hac n hn pre hpre e₂ o₂ h₂]

/-- `GlobalMaps.load` over any list (duplicates included): the staged declaration of a name is its
    FIRST occurrence. -/
theorem load_first_wins (l : List (Name × Decl)) (q : Name) :
    table (loadAll l).staged q = l.lookup q := loadAll_lookup l q

theorem load_no_errors_of_nodup (l : List (Name × Decl)) (hnd : (l.map (·.1)).Nodup) :
    (loadAll l).errors = [] := by
  unfold loadAll
  rw [foldl_loadOne_errors l _ hnd (by intro p _; rfl)]

/-- a second, different declaration of a staged name is reported whatever follows -/
theorem load_duplicate_reported (l₁ l₂ : List (Name × Decl)) (q : Name) (d d' : Decl)
    (h : l₁.lookup q = some d) (hne : d.id ≠ d'.id) :
    q ∈ (loadAll (l₁ ++ (q, d') :: l₂)).errors := by
  unfold loadAll
  rw [List.foldl_append, List.foldl_cons]
  exact List.foldlRecOn l₂ loadOne (motive := fun st => q ∈ st.errors)
    (loadOne_dup _ q d d' ((loadAll_lookup l₁ q).trans h) hne) fun st h p _ => loadOne_errors_grow st p q h

theorem load_perm_invariant (l₁ l₂ : List (Name × Decl)) (hp : l₁.Perm l₂)
    (hnd : (l₁.map (·.1)).Nodup) (q : Name) :
    table (loadAll l₁).staged q = table (loadAll l₂).staged q ∧
    (loadAll l₁).errors = [] ∧ (loadAll l₂).errors = [] := by
  refine ⟨?_, load_no_errors_of_nodup l₁ hnd,
    load_no_errors_of_nodup l₂ ((hp.map (·.1)).nodup hnd)⟩
  rw [load_first_wins, load_first_wins, perm_lookup hp hnd]

theorem buildDecls_is_denotation (l : List (Name × Decl)) (rank : Name → Nat) (hac : Acyclic (table l) rank)
    (n : Nat) (hn : ∀ q, rank q < n) (q : Name) :
    (buildDecls n l).store q = (table l q).map (fun _ => denote (table l) rank q) := by
  have e : table (loadAll l).staged = table l := funext (load_first_wins l)
  show (buildAll n (lookups n (initState (fun _ => false) (table (loadAll l).staged)) []) _).store q = _
  rw [e]
  exact build_is_denotation hac n hn (fun _ => false) nofun [] _
    (fun x d hx _ => lookup_mem_keys ((load_first_wins l x).trans hx)) q

/-- **The property, end to end in the model.**  Two arrangements of the same declarations (a
    permutation of the flattened declaration list: reordered document, declarations moved to
    included documents, includes listed in another order) with pairwise distinct names and no circular
    definition build the same global components — forward references included. -/
theorem arrangement_independent (l₁ l₂ : List (Name × Decl)) (hp : l₁.Perm l₂)
    (hnd : (l₁.map (·.1)).Nodup) (rank : Name → Nat) (hac : Acyclic (table l₁) rank)
    (n : Nat) (hn : ∀ q, rank q < n) (q : Name) :
    (buildDecls n l₁).store q = (buildDecls n l₂).store q := by
  have e : table l₁ = table l₂ := funext (perm_lookup hp hnd)
  rw [buildDecls_is_denotation l₁ rank hac n hn, buildDecls_is_denotation l₂ rank (e ▸ hac) n hn, e]

/-! ### circular definitions: always reported; the guard of the theorems above is observable -/

/-- A name that (transitively) depends on itself is reported: looking up a name whose marker is set
    yields `circ` — it is never silently built twice or looped on. -/
theorem marked_lookup_is_circ (n : Nat) (s : State) (q : Name) (d : Decl)
    (h₁ : s.store q = none) (h₂ : s.staging q = some d) (h₃ : s.marked q = true) :
    (lookup (n + 1) s q).2 = .circ q :=
  congrArg Prod.snd (lookup_circ n h₁ h₂ h₃)

/-- A reference to any name whose build is in progress (a reference that closes a cycle at run time) is
    reported as circular, wherever it stands among the dependencies and whatever else gets built on the
    way: the marker of the pending build cannot be lost. -/
theorem back_edge_reported (n : Nat) (s : State) (x q : Name) (dx dq : Decl)
    (hx₁ : s.store x = none) (hx₂ : s.staging x = some dx) (hx₃ : s.marked x = false)
    (hq₁ : s.store q = none) (hq₂ : s.staging q = some dq) (hq₃ : s.marked q = true)
    (hq : q ∈ dx.deps) :
    ∃ kids, (lookup (n + 2) s x).2 = .ok x dx.id kids ∧ Res.circ q ∈ kids :=
  pending_reported n s x q dx dq hx₁ hx₂ hx₃ hq₁ hq₂ (Or.inr hq₃) hq

/-- a declaration that refers to itself is always reported as circular -/
theorem self_reference_reported (n : Nat) (s : State) (q : Name) (d : Decl)
    (h₁ : s.store q = none) (h₂ : s.staging q = some d) (h₃ : s.marked q = false) (hq : q ∈ d.deps) :
    ∃ kids, (lookup (n + 2) s q).2 = .ok q d.id kids ∧ Res.circ q ∈ kids :=
  pending_reported n s q q d d h₁ h₂ h₃ h₁ h₂ (Or.inl rfl) hq

example : ∃ kids, (lookup 3 (initState (fun _ => false) (table [("t:A", ⟨1, ["t:B", "t:A"]⟩)])) "t:A").2
    = .ok "t:A" 1 kids ∧ Res.circ "t:A" ∈ kids :=
  self_reference_reported 1 _ "t:A" ⟨1, ["t:B", "t:A"]⟩ rfl rfl rfl (by simp)

/-! ### one file, one schema: location spellings -/

theorem normSegs_idempotent (l : List String) : normSegs (normSegs l) = normSegs l :=
  normGo_plain _ (normGo_is_plain l [] fun _ h => nomatch h) []

/-- joining a relative location to a base and normalising = joining it to the normalised base -/
theorem normSegs_join (base loc : List String) :
    normSegs (base ++ loc) = normSegs (normSegs base ++ loc) := by
  unfold normSegs
  rw [normGo_append, normGo_append]
  have : normGo [] (normGo [] base) = normGo [] base := normSegs_idempotent base
  rw [this]

/-- The spellings of the quantifier denote the same key: relative `f`, dotted `./f`, `x/../f`,
    and the absolute path (also the path of the `file:` URL), for every directory and file name. -/
theorem spellings_same_key (dir : List String) (f x : String) (hd : ∀ s ∈ dir, Plain s)
    (hf : Plain f) (hx : Plain x) (other : List String) :
    resolve dir false [f] = dir ++ [f] ∧
    resolve dir false [".", f] = dir ++ [f] ∧
    resolve dir false [x, "..", f] = dir ++ [f] ∧
    resolve other true (dir ++ [f]) = dir ++ [f] := by
  -- every spelling comes down to pushing `f` on the (reversed) directory
  have key : normGo dir.reverse [f] = dir ++ [f] := by
    rw [normGo_plain [f] (fun s hs => List.mem_singleton.1 hs ▸ hf), List.reverse_reverse]
  have dots : normGo dir.reverse [x, "..", f] = normGo dir.reverse [f] := by
    rw [normGo, if_neg (not_or.2 ⟨hx.1, hx.2.1⟩), if_neg hx.2.2]
    rfl
  refine ⟨?_, ?_, ?_, ?_⟩
  · exact (normSegs_under hd _).trans key
  · exact (normSegs_under hd _).trans key
  · exact (normSegs_under hd _).trans (dots.trans key)
  · exact (normSegs_under hd _).trans key

/-- However often and in whatever spelling a document is included, it is registered at most once. -/
theorem include_once (docs : List Doc) (n : Nat) (root : List String) :
    (includeGo docs n [] [root]).Nodup :=
  includeGo_nodup docs n [] [root] List.nodup_nil

/-! ### building twice: the registries beside the six staged maps (Model/Rebuild.lean)

  `maps.identities`, `maps.substitution_groups`, the `_store` of the staged maps and the cached views of the
  schemas are written by every build.  Objects carry the number of the build that created them
  (generation).  `faithful` is the `clear()` of /repo: it empties all of them. -/
section Rebuild
open XsVerif.Rebuild

/-- **Building twice (any number of times).**  After ANY history of builds of one maps object the registries
    are exactly those of ONE fresh build of the last declarations: nothing of the history is left. -/
theorem rebuild_history_irrelevant (hist : List (List Req)) (reqs : List Req) :
    run faithful (hist ++ [reqs]) = rebuild faithful hist.length reqs Rebuild.empty := by
  simpa [run] using runFrom_last reqs hist 0 Rebuild.empty

/-- Every object held by a registry after any history is an object of the LAST build, and so are the
    cached views handed out by the schemas. -/
theorem rebuild_all_current (hist : List (List Req)) (reqs : List Req) :
    AllGen hist.length (run faithful (hist ++ [reqs])) ∧
    (run faithful (hist ++ [reqs])).views = some hist.length := by
  rw [rebuild_history_irrelevant, rebuild]
  have hb := build_allGen hist.length reqs (clear faithful Rebuild.empty) (empty_allGen _)
  obtain ⟨t1, t2, t3, _⟩ := touch_fields hist.length (build hist.length reqs (clear faithful Rebuild.empty))
  refine ⟨⟨t1 ▸ hb.store, t2 ▸ hb.idents, t3 ▸ hb.subst⟩, ?_⟩
  rw [touch, build_views]
  rfl

/-- A keyref built after any history is bound to a key/unique object of the last build, whether `refer`
    is found among the constraints of its own element or through `maps.identities`. -/
theorem keyref_binding_current (hist : List (List Req)) (reqs : List Req) (own : Bool) (refer : String) (b : Nat)
    (h : Rebuild.resolve own hist.length (run faithful (hist ++ [reqs])) refer = some b) : b = hist.length := by
  unfold Rebuild.resolve at h
  cases own with
  | true => simpa using h.symm
  | false =>
    simp only [Bool.false_eq_true, if_false, Option.map_eq_some_iff] at h
    obtain ⟨e, he, hb⟩ := h
    rw [← hb]
    exact (rebuild_all_current hist reqs).1.idents _ (lookup_mem he)

/-- Hence, after any history, the "value not found" errors of a keyref on any instance are exactly its
    dangling references (the verdict clause of the property for registry-resolved constraints). -/
theorem keyref_errors_after_any_history (hist : List (List Req)) (reqs : List Req) (own : Bool)
    (refer : String) (b : Nat) (keys refs : List String)
    (h : Rebuild.resolve own hist.length (run faithful (hist ++ [reqs])) refer = some b) :
    notFound b hist.length keys refs = refs.filter (fun r => !keys.contains r) := by
  rw [keyref_binding_current hist reqs own refer b h]
  simp [notFound]

/-- **What a build registers does not depend on any order** (order of the declarations, of the documents,
    of the on-demand construction): the registries are this order-free function of the SET of requests. -/
theorem registry_spec (g : Nat) (reqs : List Req) (hf : Functional reqs) :
    (∀ n, (build g reqs Rebuild.empty).store.lookup n = if .glob n ∈ reqs then some g else none) ∧
    (∀ n node, (build g reqs Rebuild.empty).idents.lookup n = some ⟨node, g⟩ ↔ .ident n node ∈ reqs) ∧
    (∀ h x g', MemberOf (build g reqs Rebuild.empty).subst h (x, g') ↔ (g' = g ∧ .subst h x ∈ reqs)) := by
  refine ⟨?_, ?_, ?_⟩
  · intro n; rw [build_store_lookup]; rfl
  · intro n node
    rw [build_idents_lookup, ← firstNode_iff reqs hf n node]
    show Option.map _ (firstNode reqs n) = _ ↔ _
    cases firstNode reqs n with
    | none => simp
    | some nd => simp
  · intro h x g'
    rw [build_subst]
    constructor
    · rintro (⟨ms, hm, _⟩ | r)
      · simp [Rebuild.empty] at hm
      · exact r
    · exact Or.inr

theorem registry_perm_invariant (g : Nat) (r₁ r₂ : List Req) (hp : r₁.Perm r₂) (hf : Functional r₁) :
    (∀ n, (build g r₁ Rebuild.empty).store.lookup n = (build g r₂ Rebuild.empty).store.lookup n) ∧
    (∀ n, (build g r₁ Rebuild.empty).idents.lookup n = (build g r₂ Rebuild.empty).idents.lookup n) ∧
    (∀ h y, MemberOf (build g r₁ Rebuild.empty).subst h y ↔ MemberOf (build g r₂ Rebuild.empty).subst h y) := by
  have hf₂ : Functional r₂ := fun n a b ha hb => hf n a b (hp.mem_iff.mpr ha) (hp.mem_iff.mpr hb)
  refine ⟨?_, ?_, ?_⟩
  · intro n
    rw [(registry_spec g r₁ hf).1, (registry_spec g r₂ hf₂).1]
    simp [hp.mem_iff]
  · intro n
    rw [build_idents_lookup, build_idents_lookup]
    refine congrArg _ (congrArg _ (Option.ext fun nd => ?_))
    rw [firstNode_iff r₁ hf, firstNode_iff r₂ hf₂, hp.mem_iff]
  · intro h y
    rw [build_subst, build_subst]
    simp [hp.mem_iff]

/-- globals declared once + functional identity registrations: a build from cleared maps reports nothing -/
theorem registry_no_errors (g : Nat) (reqs : List Req) (hf : Functional reqs)
    (hnd : (reqs.filterMap fun | .glob n => some n | _ => none).Nodup) :
    (build g reqs Rebuild.empty).errors = [] :=
  build_no_errors g reqs Rebuild.empty rfl (by intro n _; rfl) (by intro n node e _ h; cases h) hnd hf

/-! #### every container that `clear()` empties has to be emptied (what the tie to the real objects watches) -/

/-- If `clear()` left `maps.identities` alone, the entry of the previous build would win against the new
    registration (same XSD node: no error is reported), and every keyref that resolves `refer` through the
    registry would be bound to the object of the OLD generation … -/
theorem stale_identity_survives (k : Keep) (hk : k.idents = true) (m : Maps) (g : Nat) (reqs : List Req)
    (q : String) (e : Entry) (h : m.idents.lookup q = some e) :
    (rebuild k g reqs m).idents.lookup q = some e ∧ Rebuild.resolve false g (rebuild k g reqs m) q = some e.gen := by
  have h1 : (rebuild k g reqs m).idents.lookup q = some e := by
    unfold rebuild
    rw [(touch_fields g _).2.1, build_idents_lookup]
    simp [clear, hk, h]
  exact ⟨h1, by simp [Rebuild.resolve, h1]⟩

/-- … whose counter no element of the new generation ever fills: every reference is reported. -/
theorem stale_keyref_finds_nothing (b cur : Nat) (h : b ≠ cur) (keys refs : List String) :
    notFound b cur keys refs = refs := by
  simp [notFound, h]

theorem stale_store_refuses (k : Keep) (hk : k.store = true) (m : Maps) (g : Nat) (reqs : List Req)
    (n : String) (v : Nat) (h : m.store.lookup n = some v) (hd : .glob n ∈ reqs) :
    n ∈ (rebuild k g reqs m).errors := by
  unfold rebuild
  rw [(touch_fields g _).2.2.2]
  exact build_refuses_stored g reqs (clear k m) n v (by simp [clear, hk, h]) hd

theorem stale_members_survive (k : Keep) (hk : k.subst = true) (m : Maps) (g : Nat) (reqs : List Req)
    (h : String) (y : String × Nat) (hy : MemberOf m.subst h y) : MemberOf (rebuild k g reqs m).subst h y := by
  unfold rebuild
  rw [(touch_fields g _).2.2.1, build_subst]
  exact Or.inl (by simpa [clear, hk] using hy)

theorem stale_views_survive (k : Keep) (hk : k.views = true) (m : Maps) (g v : Nat) (reqs : List Req)
    (h : m.views = some v) : (rebuild k g reqs m).views = some v := by
  have hv : (build g reqs (clear k m)).views = some v := by rw [build_views]; simp [clear, hk, h]
  unfold rebuild touch
  rw [hv]
  exact hv

/-- the smallest witness (replayed on the real code by the harness: family `registry:identity/child`):
    a key on a nested element, a keyref on its ancestor, built twice with identities not cleared -/
theorem unclear_identities_counterexample :
    let reqs := [Req.glob "e|idr", .ident "defKey" "main.xsd#7", .ident "useRef" "main.xsd#20"]
    let m := run ⟨false, true, false, false⟩ [reqs, reqs]
    Rebuild.resolve false 1 m "defKey" = some 0 ∧ notFound 0 1 ["a", "b"] ["a"] = ["a"] ∧
    Rebuild.resolve false 1 (run faithful [reqs, reqs]) "defKey" = some 1 ∧ notFound 1 1 ["a", "b"] ["a"] = [] := by
  decide +kernel

example : Functional [Req.glob "e|idr", .ident "defKey" "main.xsd#7", .subst "e|h" "e|m", .ident "defKey" "main.xsd#7"] := by
  intro n a b ha hb
  simp at ha hb
  rw [ha.2, hb.2]

example : (run faithful [[.subst "h" "m"], [.subst "h" "m", .ident "k" "n"]]).subst = [("h", [("m", 1)])] := by decide +kernel
example : (run ⟨false, false, true, false⟩ [[.subst "h" "m"], [.subst "h" "m"]]).subst = [("h", [("m", 0), ("m", 1)])] := by
  decide +kernel
example : (run ⟨true, false, false, false⟩ [[.glob "n|gif"], [.glob "n|gif"]]).errors = ["n|gif"] := by decide +kernel

/-! #### shared components: constructors must not write to what they looked up (findings C09-F1, C09-F2) -/

/-- **C09-F1, the witness** (replayed on the real code: REGISTRY_FAMILY[0] of harness/props/c09.py): with the
    in-place union of /repo the wildcard that type `Other` ends up with depends on the build order. -/
theorem shared_wildcard_inplace_counterexample :
    ([Act.ext ["urn:y"], .other].foldl inPlace ⟨["urn:x"], []⟩).snaps = [["urn:x", "urn:y"]] ∧
    ([Act.other, .ext ["urn:y"]].foldl inPlace ⟨["urn:x"], []⟩).snaps = [["urn:x"]] := by decide +kernel

/-- **Pure constructors ⇒ order independence of everything computed from a shared component.**  If no
    constructor changes the shared component (the hypothesis the purity monitor of the harness checks on the real
    objects), then after ANY sequence of constructors, in any order, the component is what its declaration says
    and every snapshot taken from it is that same value. -/
theorem pure_ctors_order_independent (ag : List String) (cs : List Ctor) (h : ∀ c ∈ cs, PureCtor c) :
    (cs.foldl runCtor ⟨ag, []⟩).ag = ag ∧ ∀ w ∈ (cs.foldl runCtor ⟨ag, []⟩).snaps, w = ag := by
  refine List.foldlRecOn cs runCtor (b := ⟨ag, []⟩) (motive := fun s => s.ag = ag ∧ ∀ w ∈ s.snaps, w = ag) ⟨rfl, nofun⟩ ?_
  intro s ⟨h1, h2⟩ c hc
  have hw (s' : Shared) : ({ s' with ag := c.write s'.ag } : Shared) = s' := by rw [h c hc s'.ag]
  rw [runCtor, hw]
  split
  · -- a reader snapshots the component as declared
    exact ⟨h1, List.forall_mem_append.2 ⟨h2, List.forall_mem_singleton.2 h1⟩⟩
  · exact ⟨h1, h2⟩

/-- Repaired constructor (union into a copy): whatever is built, in whatever order, the group's wildcard stays
    what the group declares and every user snapshots exactly that. -/
theorem shared_wildcard_copy_order_independent (ag : List String) (acts : List Act) :
    (acts.foldl copied ⟨ag, []⟩).ag = ag ∧ ∀ w ∈ (acts.foldl copied ⟨ag, []⟩).snaps, w = ag := by
  -- both actions are pure constructors: the extension writes to its own copy, the other user only reads
  have e : copied = fun s a => runCtor s (match a with | .ext _ => ⟨id, false⟩ | .other => reader) := by
    funext s a; cases a <;> rfl
  rw [e, ← List.foldl_map]
  refine pure_ctors_order_independent ag _ fun c hc => ?_
  obtain ⟨a, _, rfl⟩ := List.mem_map.1 hc
  cases a <;> exact fun _ => rfl

/-- **Seed C09-3, the witness** (replayed on the real code: wildcard-pair family, `##other` × `##local urn:x`):
    with the aliased intersection the second user's wildcard depends on the order. -/
theorem aliased_intersection_counterexample :
    ([aliasedInter "urn:t", reader].foldl runCtor ⟨["", "urn:x"], []⟩).snaps = [["urn:x"]] ∧
    ([reader, aliasedInter "urn:t"].foldl runCtor ⟨["", "urn:x"], []⟩).snaps = [["", "urn:x"]] ∧
    ¬ PureCtor (aliasedInter "urn:t") := by
  refine ⟨by decide, by decide, ?_⟩
  intro h
  have := h [""]
  simp [aliasedInter] at this

example : PureCtor reader := fun _ => rfl

/-- **One parser per component.**  Whatever cache is used while the assertions are built, if its key determines
    the component (in /repo there is no cache: the degenerate case), every assertion ends up with a parser bound to
    its own component, in any build order.  The hypothesis is what the binding monitor of the harness checks on
    the real objects. -/
theorem assertion_parser_is_own (key : String → String → String)
    (hk : ∀ o t o' t', key o t = key o' t' → o = o') (asserts : List (String × String)) :
    ∀ p ∈ bindAll key asserts, p.2 = p.1 := by
  unfold bindAll
  -- the cache maps a key to the one component that can produce it; every bound parser is the component's own
  refine (List.foldlRecOn asserts (bindOne key) (b := ([], []))
    (motive := fun st => (∀ k o, (k, o) ∈ st.1 → ∀ o' t', key o' t' = k → o' = o) ∧ ∀ p ∈ st.2, p.2 = p.1)
    ⟨nofun, nofun⟩ ?_).2
  intro st ⟨h1, h2⟩ a _
  unfold bindOne
  cases hl : st.1.lookup (key a.1 a.2) with
  | some owner =>
    exact ⟨h1, List.forall_mem_append.2
      ⟨h2, List.forall_mem_singleton.2 (h1 _ owner (lookup_mem hl) a.1 a.2 rfl).symm⟩⟩
  | none =>
    refine ⟨fun k o hm => (List.mem_append.1 hm).elim (h1 k o) fun e => ?_,
      List.forall_mem_append.2 ⟨h2, List.forall_mem_singleton.2 rfl⟩⟩
    cases List.mem_singleton.1 e
    exact fun o' t' he => hk o' t' a.1 a.2 he

/-- **Seed C09-5, the witness** (replayed on the real code: assertion-pair family): a cache keyed by the test text
    alone binds the second type to the parser of whichever type is built first. -/
theorem text_keyed_parser_cache_counterexample :
    bindAll (fun _ t => t) [("A", "@min le @max"), ("B", "@min le @max")] = [("A", "A"), ("B", "A")] ∧
    bindAll (fun _ t => t) [("B", "@min le @max"), ("A", "@min le @max")] = [("B", "B"), ("A", "B")] ∧
    bindAll (fun o t => o ++ "|" ++ t) [("A", "@min le @max"), ("B", "@min le @max")] = [("A", "A"), ("B", "B")] := by
  decide +kernel

/-- **C09-F2, the witness**: the per-document test changes its answer when the declaration moves to an
    included document (document 1) while the wildcard stays in document 0 … -/
theorem defined_per_document_counterexample :
    definedDoc (fun n => n == "ga") (fun _ => 0) 0 "ga" = true ∧
    definedDoc (fun n => n == "ga") (fun n => if n == "ga" then 1 else 0) 0 "ga" = false := by decide +kernel

/- … the repaired test (`definedNs`) takes the declarations and their namespaces only: a document assignment is
   not among its arguments, so no split into included documents of one namespace can change its answer. -/

end Rebuild

/-! #### the key of a document is its location RESOLVED against the including document, never the raw string -/

/-- **First wins.**  A document that is registered keeps its place whatever is included later (and, with
    `include_once`, is never registered again): the registration order is the order of first inclusion. -/
theorem include_first_wins (docs : List Doc) (n : Nat) (visited todo : List (List String)) :
    visited <+: includeGo docs n visited todo :=
  includeGo_prefix docs n visited todo

/-- **Only resolved locations count.**  Two descriptions of the same layout — the same document keys and, for
    every document, the same list of include locations after resolving each against the directory of the document
    that WRITES it — register the same documents in the same order, however the locations are spelled. -/
theorem include_resolved_keys_only (docs₁ docs₂ : List Doc) (h : AllSame docs₁ docs₂) (n : Nat)
    (root : List String) :
    includeGo docs₁ n [] [root] = includeGo docs₂ n [] [root] :=
  includeGo_sameResolved docs₁ docs₂ h n [] [root]

/-- the layout of seed C09-4: /r/main.xsd includes `common.xsd` and `sub/part.xsd`; /r/sub/part.xsd includes
    `common.xsd` — the same string, another file -/
def twinMain : Doc := ⟨["r", "main.xsd"], ["r"], [(false, ["common.xsd"]), (false, ["sub", "part.xsd"])], []⟩
def twinDocs (partInc : Bool × List String) : List Doc :=
  [twinMain, ⟨["r", "common.xsd"], ["r"], [], []⟩, ⟨["r", "sub", "part.xsd"], ["r", "sub"], [partInc], []⟩,
   ⟨["r", "sub", "common.xsd"], ["r", "sub"], [], []⟩]

/-- **Counter-example for raw-string keys** (replayed on the real code: topologies `twin`, directory family):
    a loader that matches the raw string against the main document's locations never loads /r/sub/common.xsd when
    the location is spelled `common.xsd`, and loads it when the same file is spelled absolutely; the loader of
    /repo (`includeGo`) registers the four documents under both spellings. -/
theorem raw_location_key_counterexample :
    includeGoRaw (twinDocs (false, ["common.xsd"])) twinMain 9 [] [["r", "main.xsd"]]
      = [["r", "main.xsd"], ["r", "common.xsd"], ["r", "sub", "part.xsd"]] ∧
    includeGoRaw (twinDocs (true, ["r", "sub", "common.xsd"])) twinMain 9 [] [["r", "main.xsd"]]
      = [["r", "main.xsd"], ["r", "common.xsd"], ["r", "sub", "part.xsd"], ["r", "sub", "common.xsd"]] ∧
    includeGo (twinDocs (false, ["common.xsd"])) 9 [] [["r", "main.xsd"]]
      = [["r", "main.xsd"], ["r", "common.xsd"], ["r", "sub", "part.xsd"], ["r", "sub", "common.xsd"]] ∧
    includeGo (twinDocs (true, ["r", "sub", "common.xsd"])) 9 [] [["r", "main.xsd"]]
      = [["r", "main.xsd"], ["r", "common.xsd"], ["r", "sub", "part.xsd"], ["r", "sub", "common.xsd"]] := by
  decide +kernel

/-- the two spellings of the witness are `AllSame`: `include_resolved_keys_only` applies to them -/
example : AllSame (twinDocs (false, ["common.xsd"])) (twinDocs (true, ["r", "sub", "common.xsd"])) := by
  refine .cons ⟨rfl, rfl⟩ (.cons ⟨rfl, rfl⟩ (.cons ⟨rfl, ?_⟩ (.cons ⟨rfl, rfl⟩ .nil)))
  decide +kernel

/-! ### non-vacuity -/

/-- a table with forward references: element root → type R → base B, group G; R declared before B -/
def exDecls : List (Name × Decl) :=
  [("e:root", ⟨1, ["t:R"]⟩), ("t:R", ⟨2, ["t:B", "g:G", "t:xs:int"]⟩), ("g:G", ⟨3, []⟩), ("t:B", ⟨4, ["t:S"]⟩),
   ("t:S", ⟨5, []⟩)]

def exRank : Name → Nat := fun q =>
  if q = "e:root" then 4 else if q = "t:R" then 3 else if q = "t:B" then 2 else if q = "t:S" then 1
  else if q = "g:G" then 1 else 0

example : Acyclic (table exDecls) exRank := by
  have h : ∀ p ∈ exDecls, ∀ x ∈ p.2.deps, exRank x < exRank p.1 := by decide +kernel
  exact fun q d hq => h (q, d) (lookup_mem hq)

example : (exDecls.map (·.1)).Nodup := by decide +kernel
example : exDecls.reverse.Perm exDecls := List.reverse_perm _

/-- the model really builds R's base on demand (forward reference) and memoises it -/
example : ((buildDecls 6 exDecls).log.reverse.take 6) =
    [.enter "e:root", .enter "t:R", .enter "t:B", .enter "t:S", .exit "t:S", .exit "t:B"] := by decide +kernel

/-- circular definitions: the error lands on a different member of the cycle depending on the order
    (this is why they are excluded by hypothesis) -/
def cyc₁ : List (Name × Decl) := [("t:A", ⟨1, ["t:B"]⟩), ("t:B", ⟨2, ["t:A"]⟩)]
def cyc₂ : List (Name × Decl) := [("t:B", ⟨2, ["t:A"]⟩), ("t:A", ⟨1, ["t:B"]⟩)]

def kidsOf : Option Res → List String
  | some (.ok _ _ kids) => kids.map fun
      | .ok n _ _ => "ok " ++ n | .missing n => "missing " ++ n | .circ n => "circ " ++ n | .fuel => "fuel"
  | _ => []

theorem cyclic_order_dependent_counterexample :
    kidsOf ((buildDecls 3 cyc₁).store "t:B") = ["circ t:A"] ∧
    kidsOf ((buildDecls 3 cyc₂).store "t:B") = ["ok t:A"] := by decide +kernel

example : normSegs ["tmp", "d", "sub", "..", ".", "p1.xsd"] = ["tmp", "d", "p1.xsd"] := by decide +kernel
example : Plain "p1.xsd" := by unfold Plain; decide

/-! ### xs:import statements of one document (loaders.py, SchemaLoader.load_declared_schemas)

  What is recorded as imported (the namespaces that may be referenced by QName) and what is loaded, for imports
  with and WITHOUT a schemaLocation, in every order. -/
namespace Imports

/-- the part of the loader state that xs:import statements of ONE document write -/
structure St where
  recorded : List Nat   -- schema.imported_namespaces
  loaded : List Nat     -- namespaces registered in the maps
deriving DecidableEq, Repr

/-- one xs:import child `(namespace, has a schemaLocation)`: the namespace is ALWAYS recorded; it is loaded
    (with everything its document imports, `clo`) only when it is missing and a location is given -/
def step (clo : Nat → List Nat) (s : St) (imp : Nat × Bool) : St :=
  { recorded := s.recorded ++ [imp.1],
    loaded := if imp.2 && !(s.loaded.contains imp.1) then s.loaded ++ clo imp.1 else s.loaded }

def run (clo : Nat → List Nat) (l : List (Nat × Bool)) : St := l.foldl (step clo) ⟨[], []⟩

/-- `clo x` = the namespaces loaded through the document of `x`: contains `x`, transitively closed -/
structure IsClosure (clo : Nat → List Nat) : Prop where
  self : ∀ x, x ∈ clo x
  trans : ∀ x y, y ∈ clo x → ∀ z, z ∈ clo y → z ∈ clo x

def Closed (clo : Nat → List Nat) (L : List Nat) : Prop := ∀ y, y ∈ L → ∀ z, z ∈ clo y → z ∈ L

theorem foldl_recorded (clo : Nat → List Nat) (l : List (Nat × Bool)) (s : St) :
    (l.foldl (step clo) s).recorded = s.recorded ++ l.map Prod.fst := by
  induction l generalizing s with
  | nil => simp
  | cons a l ih => simp [List.foldl_cons, ih, step]

/-- imported_namespaces is exactly the list of namespace attributes: no dependence on locations or on what is loaded -/
theorem imports_recorded (clo : Nat → List Nat) (l : List (Nat × Bool)) :
    (run clo l).recorded = l.map Prod.fst := by
  simp [run, foldl_recorded]

/-- every namespace named by an xs:import may be referenced, with or without a schemaLocation, in every position -/
theorem import_refs_resolvable (clo : Nat → List Nat) (l : List (Nat × Bool)) (imp : Nat × Bool) (h : imp ∈ l) :
    imp.1 ∈ (run clo l).recorded := by
  rw [imports_recorded]; exact List.mem_map.2 ⟨imp, h, rfl⟩

theorem imports_recorded_perm (clo : Nat → List Nat) (l₁ l₂ : List (Nat × Bool)) (hp : l₁.Perm l₂) (ns : Nat) :
    ns ∈ (run clo l₁).recorded ↔ ns ∈ (run clo l₂).recorded := by
  rw [imports_recorded, imports_recorded]; exact (hp.map Prod.fst).mem_iff

theorem step_loaded (clo : Nat → List Nat) (s : St) (hs : Closed clo s.loaded) (imp : Nat × Bool) (z : Nat) :
    z ∈ (step clo s imp).loaded ↔ z ∈ s.loaded ∨ (imp.2 = true ∧ z ∈ clo imp.1) := by
  unfold step
  cases h2 : imp.2 with
  | false => simp
  | true =>
    by_cases hc : imp.1 ∈ s.loaded
    · simp [hc]
      intro hz; exact hs _ hc _ hz
    · simp [hc]

theorem step_closed (clo : Nat → List Nat) (hc : IsClosure clo) (s : St) (hs : Closed clo s.loaded) (imp : Nat × Bool) :
    Closed clo (step clo s imp).loaded := by
  intro y hy z hz
  rw [step_loaded clo s hs] at hy ⊢
  cases hy with
  | inl h => exact Or.inl (hs y h z hz)
  | inr h => exact Or.inr ⟨h.1, hc.trans _ _ h.2 _ hz⟩

theorem foldl_loaded (clo : Nat → List Nat) (hc : IsClosure clo) (l : List (Nat × Bool)) (s : St)
    (hs : Closed clo s.loaded) (z : Nat) :
    z ∈ (l.foldl (step clo) s).loaded ↔ z ∈ s.loaded ∨ ∃ x, x ∈ l ∧ x.2 = true ∧ z ∈ clo x.1 := by
  induction l generalizing s with
  | nil => simp
  | cons a l ih =>
    rw [List.foldl_cons, ih _ (step_closed clo hc s hs a), step_loaded clo s hs]
    simp only [List.mem_cons, or_and_right, exists_or, exists_eq_left, or_assoc]

/-- what is loaded = the union of the closures of the LOCATED imports: a set-function of the statements -/
theorem imports_loaded_spec (clo : Nat → List Nat) (hc : IsClosure clo) (l : List (Nat × Bool)) (z : Nat) :
    z ∈ (run clo l).loaded ↔ ∃ x, x ∈ l ∧ x.2 = true ∧ z ∈ clo x.1 :=
  (foldl_loaded clo hc l ⟨[], []⟩ nofun z).trans (or_iff_right nofun)

/-- … hence the order of the xs:import children changes neither what is loaded nor what may be referenced -/
theorem imports_order_independent (clo : Nat → List Nat) (hc : IsClosure clo) (l₁ l₂ : List (Nat × Bool))
    (hp : l₁.Perm l₂) (z : Nat) :
    (z ∈ (run clo l₁).loaded ↔ z ∈ (run clo l₂).loaded) ∧
    (z ∈ (run clo l₁).recorded ↔ z ∈ (run clo l₂).recorded) := by
  refine ⟨?_, imports_recorded_perm clo l₁ l₂ hp z⟩
  rw [imports_loaded_spec clo hc, imports_loaded_spec clo hc]
  simp only [hp.mem_iff]

/-- a location-less import of a namespace that a located import loads transitively is satisfied in every position -/
theorem locationless_import_satisfied (clo : Nat → List Nat) (hc : IsClosure clo) (l : List (Nat × Bool))
    (ns via : Nat) (hv : (via, true) ∈ l) (hr : ns ∈ clo via) (hi : (ns, false) ∈ l) :
    ns ∈ (run clo l).loaded ∧ ns ∈ (run clo l).recorded :=
  ⟨(imports_loaded_spec clo hc l ns).2 ⟨(via, true), hv, rfl, hr⟩, import_refs_resolvable clo l (ns, false) hi⟩

/-- a loader that skips a location-less import whose namespace is already loaded BEFORE recording it -/
def stepSkip (clo : Nat → List Nat) (s : St) (imp : Nat × Bool) : St :=
  if !imp.2 && s.loaded.contains imp.1 then s else step clo s imp

def exClo : Nat → List Nat := fun x => if x = 0 then [0, 1] else [x]

/-- … records [A] for the order A(located), B(no location) and [B, A] for the other one -/
theorem skip_before_record_counterexample :
    ([(0, true), (1, false)].foldl (stepSkip exClo) ⟨[], []⟩).recorded = [0] ∧
    ([(1, false), (0, true)].foldl (stepSkip exClo) ⟨[], []⟩).recorded = [1, 0] ∧
    (run exClo [(0, true), (1, false)]).recorded = [0, 1] := by
  decide +kernel

end Imports

end XsVerif.Props.C09
