/-
  C12 — the settings of a resource object survive a rebuild: fetches made through `parse()` AFTER
  construction (xml_resource.py: `parse` = `self.__class__(**self.get_arguments(), source=..)`).

  A `parse(loc)` step constructs a resource for `loc` with the settings of `get_arguments()` (allow
  mode, base URL, uri mapper; independent of the class of the object); a refused / undecided /
  unreadable step leaves the object alone; after a successful step `base_url` reads as the directory
  of the new URL (`BaseUrlOption.__get__`), nothing else moves.  The harness (family `reparse`) checks
  on the real classes and subclasses that the settings and the arguments of the rebuild are those
  `parseStep` describes, and compares each step's outcome with the model's `resolve`.
-/
import XsVerif.Props.C12

namespace XsVerif.Props.C12
open XsVerif.Access

/-- the access settings held by a resource object (what `get_arguments()` hands to a rebuild) -/
structure ResState where
  allow : Allow
  base : Option Bytes
  mapper : Mapper
  deriving DecidableEq, Repr

/-- one `parse(loc)`: the new state and the event of the one resource construction it makes -/
def parseStep (cwd : Bytes) (readable : Norm → Bool) (s : ResState) (loc : Bytes) : ResState × Event :=
  let loc' := applyMapper s.mapper (strip loc)
  let r := resolveWith s.allow cwd s.base loc'
  match r.decision with
  | some .ok =>
    if readable r.norm then
      match childBase cwd s.base loc' r.norm with
      | some cb => ({ s with base := some cb }, .opened s.base loc r.norm)
      | none => (s, .opened s.base loc r.norm)
    else (s, .opened s.base loc r.norm)
  | some d => (s, .blocked s.base loc d)
  | none => (s, .undecided s.base loc)

/-- a history of `parse()` calls on one object -/
def parseRun (cwd : Bytes) (readable : Norm → Bool) : ResState → List Bytes → ResState × List Event
  | s, [] => (s, [])
  | s, l :: ls =>
    let r1 := parseStep cwd readable s l
    let r2 := parseRun cwd readable r1.1 ls
    (r2.1, r1.2 :: r2.2)

theorem parseStep_keeps (cwd : Bytes) (readable : Norm → Bool) (s : ResState) (loc : Bytes) :
    (parseStep cwd readable s loc).1.allow = s.allow ∧ (parseStep cwd readable s loc).1.mapper = s.mapper := by
  unfold parseStep
  simp only
  split
  · split
    · split <;> exact ⟨rfl, rfl⟩
    · exact ⟨rfl, rfl⟩
  · exact ⟨rfl, rfl⟩
  · exact ⟨rfl, rfl⟩

/-- SETTINGS SURVIVE: after any history of parse() calls — permitted, refused, failed, in any order —
    the allow mode and the uri mapper of the object are the configured ones. -/
theorem parse_keeps_settings (cwd : Bytes) (readable : Norm → Bool) (ls : List Bytes) :
    ∀ s, (parseRun cwd readable s ls).1.allow = s.allow ∧ (parseRun cwd readable s ls).1.mapper = s.mapper := by
  induction ls with
  | nil => intro s; exact ⟨rfl, rfl⟩
  | cons l ls ih =>
    intro s
    have h1 := parseStep_keeps cwd readable s l
    have h2 := ih (parseStep cwd readable s l).1
    simp only [parseRun]
    exact ⟨h2.1.trans h1.1, h2.2.trans h1.2⟩

theorem parse_opened {a : Allow} {cwd : Bytes} {m : Mapper} {readable : Norm → Bool}
    {Q : Option Bytes → Bytes → Norm → Prop} {Inv : Option Bytes → Prop}
    (hstep : StepOK a cwd m readable Q Inv) (ls : List Bytes) :
    ∀ s, s.allow = a → s.mapper = m → Inv s.base →
      ∀ e ∈ (parseRun cwd readable s ls).2, ∀ b loc n, e = .opened b loc n → Q b loc n := by
  induction ls with
  | nil => intro s _ _ _ e he; simp [parseRun] at he
  | cons l ls ih =>
    intro s ha hm hb e he
    have hk := parseStep_keeps cwd readable s l
    have key : (∀ b loc n, (parseStep cwd readable s l).2 = .opened b loc n → Q b loc n) ∧
        Inv (parseStep cwd readable s l).1.base := by
      have hs := hstep s.base l hb
      unfold parseStep
      simp only [ha, hm, resolveWith_norm] at hs ⊢
      split
      · rename_i hdec
        obtain ⟨hQ, hch⟩ := hs hdec
        have hQ' : ∀ b loc n, Event.opened s.base l (normalizeUrl cwd s.base (applyMapper m (strip l))) =
            .opened b loc n → Q b loc n := by
          rintro _ _ _ ⟨⟩; exact hQ
        split
        · rename_i hr
          split
          · rename_i cb hcb; exact ⟨hQ', hch hr cb hcb⟩
          · exact ⟨hQ', hb⟩
        · exact ⟨hQ', hb⟩
      · exact ⟨fun _ _ _ h => Event.noConfusion h, hb⟩
      · exact ⟨fun _ _ _ h => Event.noConfusion h, hb⟩
    simp only [parseRun, List.mem_cons] at he
    rcases he with he | he
    · rw [he]; exact key.1
    · exact ih _ (hk.1.trans ha) (hk.2.trans hm) key.2 e he

/-- EVERY FETCH THROUGH parse() IS CHECKED under the allow mode the object was CONFIGURED with,
    whatever happened to the object before. -/
theorem parse_every_fetch_checked (cwd : Bytes) (readable : Norm → Bool) (s : ResState) (ls : List Bytes) :
    ∀ e ∈ (parseRun cwd readable s ls).2, Checked s.allow cwd s.mapper e :=
  checked_of_opened (parse_opened (step_checked s.allow cwd s.mapper readable) ls s rfl rfl trivial)

/-- allow='none': no history of parse() calls opens anything. -/
theorem parse_none_opens_nothing (cwd : Bytes) (readable : Norm → Bool) (s : ResState) (hs : s.allow = .none)
    (ls : List Bytes) : ∀ e ∈ (parseRun cwd readable s ls).2, e.isOpened = false :=
  not_opened_of (parse_opened (step_none cwd s.mapper readable) ls s hs rfl trivial)

/-- allow='remote': whatever a history of parse() calls fetches has a non-local scheme. -/
theorem parse_remote_only_remote (cwd : Bytes) (hcwd : isAbsPath cwd = true) (readable : Norm → Bool)
    (s : ResState) (hs : s.allow = .remote) (ls : List Bytes) :
    ∀ e ∈ (parseRun cwd readable s ls).2, ∀ b' loc n, e = .opened b' loc n →
      ∃ sc nl j, n = .remote sc nl j ∧ isLocalScheme sc = false :=
  parse_opened (step_remote cwd s.mapper readable) ls s hs rfl trivial

/-- allow='local' / 'sandbox': whatever a history of parse() calls fetches is a local file. -/
theorem parse_local_only_files (a : Allow) (ha : a = .loc ∨ a = .sandbox) (cwd : Bytes) (readable : Norm → Bool)
    (s : ResState) (hs : s.allow = a) (ls : List Bytes) :
    ∀ e ∈ (parseRun cwd readable s ls).2, ∀ b' loc n, e = .opened b' loc n → ∃ p u, n = .file p u :=
  parse_opened (step_local a ha cwd s.mapper readable) ls s hs rfl trivial

/-- SANDBOX, ANY HISTORY OF parse() CALLS.  The configured base `b0` normalises to the directory `d0`
    (a directory, not a document: `hdir`).  Every successful step moves `base_url` to the directory
    of the loaded URL, so the sandbox of the next step changes — it only narrows: everything
    fetched by any later step is a local file with real-name components inside `d0`. -/
theorem parse_sandbox_confined (cwd : Bytes) (hcwd : isAbsPath cwd = true) (readable : Norm → Bool)
    (s : ResState) (hs : s.allow = .sandbox) (b0 d0 du0 : Bytes) (hb : s.base = some b0)
    (hb0 : normalizeUrl cwd none b0 = .file d0 du0)
    (hdir : ∀ p u, comps p = comps d0 → readable (.file p u) = false) (ls : List Bytes) :
    ∀ e ∈ (parseRun cwd readable s ls).2, ∀ b loc n, e = .opened b loc n →
      ∃ p u, n = .file p u ∧ Under d0 p ∧ ∀ c ∈ comps p, CleanComp c :=
  parse_opened (step_sandbox cwd hcwd s.mapper readable d0 hdir) ls s hs rfl (hb ▸ .root hb0)

/-- A refused step leaves the object alone (settings and therefore everything a later step sees). -/
theorem parse_refused_unchanged (cwd : Bytes) (readable : Norm → Bool) (s : ResState) (loc : Bytes)
    (h : (resolveWith s.allow cwd s.base (applyMapper s.mapper (strip loc))).decision ≠ some .ok) :
    (parseStep cwd readable s loc).1 = s := by
  unfold parseStep
  simp only
  split
  · rename_i hdec; exact absurd hdec h
  · rfl
  · rfl

end XsVerif.Props.C12
