/-
  C01 — child sequences are valid exactly when they are in the content-model language.
-/
import XsVerif.Lemmas.Rx
import XsVerif.Model.Visitor

namespace XsVerif.CM
open XsVerif.Wildcard

def Step.errs : Step → List Err | .done _ e => e | .ended _ e => e
def Step.st : Step → St | .done s _ => s | .ended s _ => s

section
variable (A : Arena) (oc : OC) (n root i : Nat) (q : QN) (f : Nat) {L : LoopSt}

/-! ### one child of the decoder's loop, branch by branch of `while model.element is not None` -/

theorem childStep_ended (h : L.s.element = none) :
    childStep A oc n root i q (f + 1) L =
      match modelLessMatch A root q with
      | none => { L with errors := L.errors ++ [⟨i, root, 0⟩], broken := true }
      | some e => if L.broken then L else { L with errors := L.errors ++ [⟨i, e, 0⟩], broken := true } := by
  rw [childStep]
  simp only [h]
  rfl

theorem childStep_matched {e : Nat} {sm : St} (h : L.s.element = some e)
    (hv : visitorMatchO A oc L.s q = (true, sm)) :
    childStep A oc n root i q (f + 1) L =
      { L with s := (advanceO A oc sm true).st,
               errors := L.errors ++ (advanceO A oc sm true).errs.map fun e => ⟨i, e.particle, e.occurs⟩ } := by
  rw [childStep]
  simp only [h, hv, if_true]
  cases advanceO A oc sm true <;> rfl

theorem childStep_unmatched {e : Nat} {sm : St} (h : L.s.element = some e)
    (hv : visitorMatchO A oc L.s q = (false, sm)) :
    childStep A oc n root i q (f + 1) L =
      match (advanceO A oc sm false).errs with
      | e :: _ => { L with s := ocFix oc (clear n root (advanceO A oc sm false).st),
                           errors := L.errors ++ [⟨i, e.particle, e.occurs⟩], broken := true }
      | [] => childStep A oc n root i q f { L with s := (advanceO A oc sm false).st } := by
  rw [childStep]
  simp only [h, hv, Bool.false_eq_true, if_false]
  cases advanceO A oc sm false <;> rfl

end

/-- the children loop of `childErrors` -/
def decLoop (A : Arena) (oc : OC) (n root : Nat) (w : List QN) : LoopSt :=
  w.zipIdx.foldl (fun L (x : QN × Nat) => childStep A oc n root x.2 x.1 (4 * A.size + 8) L)
    { s := ocFix oc (init A n root) }

/-- the first error of `model.stop()` after the children loop, if the model has not ended -/
def stopErr (A : Arena) (oc : OC) (s : St) : Option Err :=
  match s.element with
  | none => none
  | some _ => (stopFirst A oc (4 * A.size + 8) s).1

theorem childErrors_errors (A : Arena) (n root : Nat) (w : List QN) (oc : OC) :
    (childErrors A n root w oc).errors =
      if emptyChoiceRoot A root then [⟨0, root, 0⟩]
      else (decLoop A oc n root w).errors ++
        (stopErr A oc (decLoop A oc n root w).s).toList.map fun e => ⟨w.length, e.particle, e.occurs⟩ := by
  unfold childErrors emptyChoiceRoot decLoop stopErr
  simp only
  generalize List.foldl _ _ _ = L'
  split
  · rfl
  · cases L'.s.element with
    | none => rfl
    | some e =>
      simp only
      rcases stopFirst A oc (4 * A.size + 8) L'.s with ⟨_ | _, _⟩ <;> rfl

theorem verdict_iff (A : Arena) (n root : Nat) (w : List QN) (oc : OC) :
    verdict A n root w oc = true ↔ emptyChoiceRoot A root = false ∧ (decLoop A oc n root w).errors = [] ∧
      stopErr A oc (decLoop A oc n root w).s = none := by
  unfold verdict
  rw [childErrors_errors]
  cases emptyChoiceRoot A root with
  | true => simp
  | false => cases stopErr A oc (decLoop A oc n root w).s <;> simp

theorem errors_foldl_nil {α : Type} {g : LoopSt → α → LoopSt}
    (hg : ∀ L x, ∃ t, (g L x).errors = L.errors ++ t) :
    ∀ (l : List α) (L : LoopSt), (l.foldl g L).errors = [] → L.errors = []
  | [], _, h => h
  | x :: t, L, h => by
    obtain ⟨v, hv⟩ := hg L x
    exact (List.append_eq_nil_iff.mp (hv ▸ errors_foldl_nil hg t _ h)).1

theorem errors_foldl_cons_nil {α : Type} {g : LoopSt → α → LoopSt}
    (hg : ∀ L x, ∃ t, (g L x).errors = L.errors ++ t) {x : α} {t : List α} {L : LoopSt}
    (h : ((x :: t).foldl g L).errors = []) : (g L x).errors = L.errors :=
  have h1 := errors_foldl_nil hg t _ h
  h1.trans (errors_foldl_nil hg [x] L h1).symm

/-- `P`: what the silent steps of `g` preserve -/
theorem foldl_eq_of_silent {α : Type} {g g' : LoopSt → α → LoopSt} (P : LoopSt → Prop)
    (hg : ∀ L x, ∃ t, (g L x).errors = L.errors ++ t)
    (hstep : ∀ L x, P L → (g L x).errors = L.errors → g' L x = g L x ∧ P (g L x)) :
    ∀ (l : List α) (L : LoopSt), P L → (l.foldl g L).errors = [] → l.foldl g' L = l.foldl g L
  | [], _, _, _ => rfl
  | x :: t, L, hP, h => by
    obtain ⟨e, hP'⟩ := hstep L x hP (errors_foldl_cons_nil hg h)
    rw [List.foldl_cons, List.foldl_cons, e]
    exact foldl_eq_of_silent P hg hstep t _ hP' h

end XsVerif.CM

namespace XsVerif.Props.C01
open XsVerif XsVerif.CM XsVerif.Wildcard

/-- The oracle used as the judge of the property decides the language of the content model,
    for every model and every child sequence. -/
theorem oracle_decides_language (p : Particle) (w : List QN) :
    inModel p w = true ↔ InModel p w := by
  unfold inModel InModel
  exact Rx.accepts_iff Leaf.matches p.toRx w

/-- The same with XSD 1.1 open content wrapped around the model. -/
theorem oracle_decides_open_content (mode : OpenMode) (wl : Leaf) (p : Particle) (w : List QN) :
    Rx.accepts Leaf.matches (withOpen mode wl p.toRx) w = true ↔
      Rx.Lang Leaf.matches (withOpen mode wl p.toRx) w :=
  Rx.accepts_iff Leaf.matches _ w

/-- A rejected child sequence yields at least one children error (attached to the parent by
    construction of `childErrors`, whose errors are all reported on the parent element). -/
theorem rejected_reports_error (A : Arena) (n root : Nat) (w : List QN) (oc : OC)
    (h : verdict A n root w oc = false) : (childErrors A n root w oc).errors ≠ [] := by
  unfold verdict at h
  intro he
  rw [he] at h
  simp at h

theorem childStep_appends (A : Arena) (oc : OC) (n root i : Nat) (q : QN) :
    ∀ (fuel : Nat) (L : LoopSt), ∃ t, (childStep A oc n root i q fuel L).errors = L.errors ++ t ∧
      ∀ e ∈ t, e.index = i := by
  intro fuel
  induction fuel with
  | zero => intro L; exact ⟨[⟨i, root, 0⟩], rfl, List.forall_mem_singleton.mpr rfl⟩
  | succ f ih =>
    intro L
    cases he : L.s.element with
    | none =>
      rw [childStep_ended A oc n root i q f he]
      split
      · exact ⟨[_], rfl, List.forall_mem_singleton.mpr rfl⟩
      · split
        · exact ⟨[], (List.append_nil _).symm, fun _ h => absurd h List.not_mem_nil⟩
        · exact ⟨[_], rfl, List.forall_mem_singleton.mpr rfl⟩
    | some e =>
      rcases hv : visitorMatchO A oc L.s q with ⟨_ | _, sm⟩
      · rw [childStep_unmatched A oc n root i q f he hv]
        split
        · exact ⟨[_], rfl, List.forall_mem_singleton.mpr rfl⟩
        · exact ih _
      · rw [childStep_matched A oc n root i q f he hv]
        exact ⟨_, rfl, List.forall_mem_map.mpr fun _ _ => rfl⟩

theorem childStep_extends (A : Arena) (oc : OC) (n root : Nat) (fuel : Nat) (L : LoopSt) (x : QN × Nat) :
    ∃ t, (childStep A oc n root x.2 x.1 fuel L).errors = L.errors ++ t :=
  (childStep_appends A oc n root x.2 x.1 fuel L).imp fun _ h => h.1

/-- The index recorded with a children error designates a child of the parent, or `len` for
    "content ended too early": it never points outside the parent's child list. -/
theorem error_index_in_range (A : Arena) (n root : Nat) (w : List QN) (oc : OC) :
    ∀ e ∈ (childErrors A n root w oc).errors, e.index ≤ w.length := by
  intro e he
  rw [childErrors_errors] at he
  split at he
  · rw [List.mem_singleton.mp he]; exact Nat.zero_le _
  · rcases List.mem_append.mp he with he | he
    · -- every step of the fold appends errors that carry the index `zipIdx` gave the child
      refine List.foldlRecOn (motive := fun L : LoopSt => ∀ e ∈ L.errors, e.index ≤ w.length) w.zipIdx _
        (fun _ he => absurd he List.not_mem_nil) (fun L hL x hx e' he' => ?_) e he
      obtain ⟨u, hu, hi⟩ := childStep_appends A oc n root x.2 x.1 (4 * A.size + 8) L
      rcases List.mem_append.mp (hu ▸ he') with h' | h'
      · exact hL e' h'
      · rw [hi e' h']; exact Nat.le_of_lt (List.mem_zipIdx' hx).1
    · obtain ⟨e', _, rfl⟩ := List.mem_map.mp he
      exact Nat.le_refl _

theorem leafMatches_base (A : Arena) (c : Option Cnt) (e : Nat) (q : QN)
    (h : leafMatches A c e q = true) : baseMatch A e q = true := by
  unfold leafMatches at h
  unfold baseMatch
  simp only at h ⊢
  cases hk : (A.node e).kind <;> simp only [hk] at h ⊢
  · exact h
  · exact (Bool.and_eq_true _ _ ▸ h).1
  all_goals cases h

theorem visitorMatch_base (A : Arena) (s : St) (q : QN) (h : visitorMatch A s q = true) :
    ∃ e, baseMatch A e q = true := by
  unfold visitorMatch at h
  split at h
  · cases h
  · rename_i e _
    split at h
    · cases h
    · exact ⟨e, leafMatches_base A _ e q h⟩

theorem visitorMatchO_base (A : Arena) (oc : OC) (s : St) (q : QN)
    (h : (visitorMatchO A oc s q).1 = true) : ∃ e, baseMatch A e q = true := by
  cases hv : visitorMatch A s q with
  | true => exact visitorMatch_base A s q hv
  | false =>
    cases hw : leafMatches A (some s.cnt) oc.wild q with
    | true => exact ⟨oc.wild, leafMatches_base A _ _ q hw⟩
    | false =>
      unfold visitorMatchO at h
      simp only [hv, hw, Bool.false_or, Bool.not_false, if_true] at h
      repeat (split at h <;> try cases h)

theorem childStep_silent_matched (A : Arena) (oc : OC) (n root i : Nat) (q : QN) :
    ∀ (fuel : Nat) (L : LoopSt), (childStep A oc n root i q fuel L).errors = L.errors →
      ∃ e, baseMatch A e q = true := by
  intro fuel
  induction fuel with
  | zero => intro L h; exact absurd (List.append_right_eq_self.mp h) (List.cons_ne_nil _ _)
  | succ f ih =>
    intro L h
    cases he : L.s.element with
    | none =>
      rw [childStep_ended A oc n root i q f he] at h
      cases hm : modelLessMatch A root q with
      | none =>
        rw [hm] at h
        exact absurd (List.append_right_eq_self.mp h) (List.cons_ne_nil _ _)
      | some e =>
        have hp : leafMatches A none e q = true :=
          List.find?_some (p := fun e => leafMatches A none e q) hm
        exact ⟨e, leafMatches_base A none e q hp⟩
    | some e =>
      rcases hv : visitorMatchO A oc L.s q with ⟨_ | _, sm⟩
      · rw [childStep_unmatched A oc n root i q f he hv] at h
        split at h
        · exact absurd (List.append_right_eq_self.mp h) (List.cons_ne_nil _ _)
        · exact ih _ h
      · exact visitorMatchO_base A oc L.s q (by rw [hv])

/-- **An accepted child sequence contains only children that some particle of the model (or the
    open-content wildcard) can match**, for every model and word. -/
theorem accepted_children_admitted (A : Arena) (n root : Nat) (w : List QN) (oc : OC)
    (h : verdict A n root w oc = true) : ∀ q ∈ w, ∃ e, baseMatch A e q = true := by
  have key : ∀ (l : List (QN × Nat)) (L : LoopSt),
      (l.foldl (fun L (x : QN × Nat) => childStep A oc n root x.2 x.1 (4 * A.size + 8) L) L).errors = [] →
      ∀ x ∈ l, ∃ e, baseMatch A e x.1 = true := by
    intro l
    induction l with
    | nil => intro L _ x hx; cases hx
    | cons x t ih =>
      intro L h y hy
      rcases List.mem_cons.mp hy with rfl | hy
      · exact childStep_silent_matched A oc n root y.2 y.1 _ L
          (errors_foldl_cons_nil (childStep_extends A oc n root _) h)
      · exact ih _ h y hy
  intro q hq
  obtain ⟨k, hk, rfl⟩ := List.getElem_of_mem hq
  exact key w.zipIdx _ ((verdict_iff A n root w oc).mp h).2.1 (w[k], k)
    (List.mem_zipIdx_iff_getElem?.mpr (List.getElem?_eq_getElem hk))

/-! ### the ModelVisitor of xmlschema is not a decision procedure (finding C01-F0)

The full statement  `∀ p w, Det p → verdict (arena p) w = inModel p w`  is FALSE for its
algorithm; the three root causes below are kernel-evaluated on the port and replayed on the real
code by the harness (corpus/C01).  What is claimed for the visitor is the correspondence
(port = implementation on every explored case) and the exact-match rule of the known finding. -/

private def qa : QN := ⟨"urn:t", "a"⟩
private def qb : QN := ⟨"urn:t", "b"⟩
private def qc : QN := ⟨"urn:t", "c"⟩

/-- `(b{2,3}){1,2}` -/
def mGreedy : Particle := .group 0 .seq 1 (some 2) (.cons (.leaf (.elem 1 [qb]) 2 (some 3)) .nil)
/-- `(b?, choice(a?))` -/
def mChoiceExcess : Particle :=
  .group 0 .seq 1 (some 1) (.cons (.leaf (.elem 1 [qb]) 0 (some 1))
    (.cons (.group 2 .choice 1 (some 1) (.cons (.leaf (.elem 3 [qa]) 0 (some 1)) .nil)) .nil))
/-- `(c?){2,2}` -/
def mEmptiable : Particle := .group 0 .seq 2 (some 2) (.cons (.leaf (.elem 1 [qc]) 0 (some 1)) .nil)

/-- greedy split: `bbbb ∈ L((b{2,3}){1,2})` but the visitor rejects it -/
theorem visitor_counterexample_greedy_split :
    inModel mGreedy [qb, qb, qb, qb] = true ∧
    verdict (mkArena 2 mGreedy.flatten) 2 0 [qb, qb, qb, qb] = false := by decide +kernel

/-- nested choice never checks its excess: `baa ∉ L((b?, choice(a?)))` but the visitor accepts it -/
theorem visitor_counterexample_choice_excess :
    inModel mChoiceExcess [qb, qa, qa] = false ∧
    verdict (mkArena 4 mChoiceExcess.flatten) 4 0 [qb, qa, qa] = true := by decide +kernel

/-- emptiable repeated group: `c ∈ L((c?){2,2})` but the visitor rejects it -/
theorem visitor_counterexample_emptiable_repeat :
    inModel mEmptiable [qc] = true ∧
    verdict (mkArena 2 mEmptiable.flatten) 2 0 [qc] = false := by decide +kernel

/-! ### non-vacuity -/

example : InModel mGreedy [qb, qb, qb, qb] :=
  (oracle_decides_language _ _).mp (by decide +kernel)
example : ¬ InModel mChoiceExcess [qb, qa, qa] := fun h =>
  absurd ((oracle_decides_language _ _).mpr h) (by decide +kernel)
example : verdict (mkArena 2 mGreedy.flatten) 2 0 [qb, qb, qb] = true := by decide +kernel

end XsVerif.Props.C01
