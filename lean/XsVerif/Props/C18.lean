/-
  C18 — one schema object can be built and used from many threads with unchanged results.
  The property theorems quantify over ALL schedules (`List Nat`, any length) and, because threads are indexed by
  `Nat` and a schedule may name any of them, over any number of threads; the `_counterexample` and
  `_alone` theorems and `xsi_widening_sequential` are about one literal schedule each.
-/
import XsVerif.Lemmas.Threads
import XsVerif.Lemmas.ThreadsWiden
import XsVerif.Lemmas.ThreadsCache

namespace XsVerif.Props.C18
open XsVerif.Threads

/-- **build_once.**  Whatever the interleaving of any number of threads racing through
    `XsdGlobals.build()`: the build body is entered at most once, `_built` implies complete maps and
    exactly one run, and every thread that has returned from `build()` saw complete maps. -/
theorem build_once (bodyLen postLen : Nat) (sched : List Nat) :
    let c := exec sched (init bodyLen postLen)
    c.runs ≤ 1 ∧
    (c.built = true → c.maps = .complete ∧ c.runs = 1) ∧
    (∀ t ph, c.pc t = .done ph → ph = .complete ∧ c.built = true ∧ c.runs = 1) := by
  intro c
  have h : BInv c := binv_reach bodyLen postLen sched
  refine ⟨h.le, fun hb => ⟨(h.r2 hb).2, (h.r2 hb).1⟩, fun t ph hd => ?_⟩
  have ht := h.ths t
  rw [hd] at ht
  exact ⟨ht.2.1, ht.2.2, (h.r2 ht.2.2).1⟩

/-- While the maps are being (re)built no thread can be using them through `build()`: the maps are
    incomplete only while `_built` is false, and then nobody has returned. -/
theorem no_use_of_partial_maps (bodyLen postLen : Nat) (sched : List Nat) (t : Nat) (ph : Phase) :
    let c := exec sched (init bodyLen postLen)
    c.pc t = .done ph → c.maps = .complete := by
  intro c hd
  have h := build_once bodyLen postLen sched
  exact (h.2.1 (h.2.2 t ph hd).2.1).1

/-- Mutual exclusion: two different threads are never both inside the locked region. -/
theorem build_mutex (bodyLen postLen : Nat) (sched : List Nat) (t u : Nat) :
    let c := exec sched (init bodyLen postLen)
    (c.pc t).inRegion = true → (c.pc u).inRegion = true → t = u := by
  intro c ht hu
  have h : BInv c := binv_reach bodyLen postLen sched
  exact Option.some.inj (((h.ths t).holder ht).symm.trans ((h.ths u).holder hu))

/-- No deadlock: in every reachable configuration a thread that has not returned can take a step,
    unless the lock is held — and then the holder can. -/
theorem build_no_deadlock (bodyLen postLen : Nat) (sched : List Nat) (t : Nat) :
    let c := exec sched (init bodyLen postLen)
    (∀ ph, c.pc t ≠ .done ph) →
      (step t c).isSome = true ∨ ∃ u, c.lock = some u ∧ (step u c).isSome = true := by
  intro c hnd
  have h : BInv c := binv_reach bodyLen postLen sched
  cases hl : c.lock with
  | none => exact .inl ((step_isSome t c).2 ⟨hnd, fun _ => hl⟩)
  | some u =>
    -- the holder is inside the region: it has not returned and does not wait for the lock
    have hu := h.ths u
    exact .inr ⟨u, rfl, (step_isSome u c).2
      ⟨fun ph hd => (hd ▸ hu : Loc c u (.done ph)).1 hl, fun hw => absurd hl (hw ▸ hu : Loc c u .wantLock)⟩⟩

/-- **memo_benign.**  A cache of a deterministic function returns the function's value to every
    thread under every interleaving (lost updates and double computation included). -/
theorem memo_benign {K V : Type} [DecidableEq K] (f : K → V) (key : Nat → K) (memo₀ : K → Option V)
    (h₀ : ∀ k v, memo₀ k = some v → v = f k) (sched : List Nat) (t : Nat) (v : V) :
    (mexec f sched { pc := fun t => .call (key t), memo := memo₀ }).pc t = .ret v → v = f (key t) := by
  intro hr
  have h := minv_exec f key sched _ (⟨h₀, fun _ => rfl⟩ : MInv f key { pc := fun t => .call (key t), memo := memo₀ })
  have := h.pcs t
  rw [hr] at this
  exact this

/-- **xsi_widening_schedule_independent.**  Single (type, child) pair.  `Mode.patched` is the CURRENT tree
    (52f30cd: bind, then publish; ee393a6: `selected_by.add` unconditional) at statement granularity, `curCall`
    the tree before ee393a6 at function-call granularity: every thread, under every interleaving, collects the
    key fields of the selected child — exactly what a single-threaded run does. -/
theorem xsi_widening_schedule_independent (m : Mode) (hm : m = .curCall ∨ m = .patched)
    (sched : List Nat) (t : Nat) (b : Bool) :
    (wexec m sched winit).pc t = .fin b → b = true := by
  intro hf
  have := (winv_exec m hm sched _ (winv_init m)).pcs t
  rw [hf] at this
  exact this

/-- the sequential run (one thread alone) collects, in every mode -/
theorem xsi_widening_sequential (m : Mode) :
    (wexec m [0, 0, 0, 0, 0, 0, 0] winit).pc 0 = .fin true := by
  cases m <;> decide +kernel

/-- C18-F1 (`Mode.old`: publish before bind; fixed by 52f30cd): thread 0 publishes, thread 1 sees the
    type, skips the widening and validates the child without collecting. -/
theorem xsi_widening_old_order_counterexample :
    (wexec .old [0, 0, 1, 1] winit).pc 1 = .fin false := by decide +kernel

/-- C18-F2 (tree before ee393a6, statement granularity; `Mode.cur`): thread 0 stores `elements[e]`, is pre-empted before
    `selected_by.add`; thread 1 finds `e in elements`, skips, publishes and validates the child without
    collecting.  Not reachable when switches happen only at library function calls
    (`xsi_widening_schedule_independent` for `curCall`). -/
theorem xsi_widening_statement_level_counterexample :
    (wexec .cur [0, 0, 0, 1, 1, 1, 1] winit).pc 1 = .fin false := by decide +kernel

/-! ### xsi:type widening, statement granularity, any finite set of pairs, any programs -/

section widening
open XsVerif.Threads.XW

/-- **xsi_widening_own_pairs_collected.**  `addInside = false` (the trees since ee393a6; the child's loop over
    `selected_by` is in /repo until 1e49c64, which collects for every open scope instead), any initial state in
    which the published pairs are bound (a fresh schema: none is published): when a thread validates a child `e`, the identities it iterates
    over contain the identity of EVERY pair `p` with `e ∈ sel p` whose widening this thread's own walk has
    passed before (`o.seen`) — whether the thread did the widening itself, found it published by another
    thread, or raced with it statement by statement.  `WF`: every call of `update_elements` for a pair visits
    the same set of elements, in any order. -/
theorem xsi_widening_own_pairs_collected (sch : Sch) (v : Variant) (hv : v.addInside = false)
    (s₀ : Sh) (h₀ : Closed sch s₀) (prog : Nat → List Task) (hw : WF sch prog) (sched : List Nat) (t : Nat) (o : Obs) :
    o ∈ ((XW.exec sch v sched (XW.init s₀ prog)).th t).obs →
    ∀ p, p ∈ o.seen → o.e ∈ sch.sel p → sch.idOf p ∈ o.ids := by
  intro ho
  exact ((cinv_exec sch v hv sched _ (cinv_init sch s₀ h₀ prog hw)).ths t).obs o ho

/-- … and it contains every identity bound to `e` by the build (the state before the threads started), and
    nothing that is not bound to `e` in the shared state. -/
theorem xsi_widening_static_pairs_collected (sch : Sch) (v : Variant) (s₀ : Sh) (prog : Nat → List Task)
    (sched : List Nat) (t : Nat) (o : Obs) :
    let c := XW.exec sch v sched (XW.init s₀ prog)
    o ∈ (c.th t).obs →
    (∀ i, Fact.selBy o.e i ∈ s₀ → i ∈ o.ids) ∧ (∀ i, i ∈ o.ids → Fact.selBy o.e i ∈ c.sh) := by
  intro c ho
  exact ((sok_exec sch v s₀ prog sched).2 t).obs o ho

/-- **xsi_widening_no_thin_air.**  Every fact of the shared state was there before the threads started or is
    generated by a pair that the program of some thread widens (`Gen`): a race never binds an element to an
    identity that a sequential run of the same documents would not bind.  (Every variant of the code.) -/
theorem xsi_widening_no_thin_air (sch : Sch) (v : Variant) (s₀ : Sh) (prog : Nat → List Task) (hw : WF sch prog)
    (sched : List Nat) (f : Fact) :
    f ∈ (XW.exec sch v sched (XW.init s₀ prog)).sh → f ∈ s₀ ∨ Gen sch (Src prog) f :=
  (fed_exec sch v s₀ prog hw sched).1 f

/-- **xsi_widening_final_state_schedule_independent.**  When every thread has run its program to the end,
    the shared state is, as a set, exactly `s₀ ∪ {facts generated by the widened pairs}` — the right-hand
    side does not mention the schedule. -/
theorem xsi_widening_final_state_schedule_independent (sch : Sch) (v : Variant) (hv : v.addInside = false)
    (s₀ : Sh) (h₀ : Closed sch s₀) (prog : Nat → List Task) (hw : WF sch prog) (sched : List Nat) :
    let c := XW.exec sch v sched (XW.init s₀ prog)
    (∀ t, (c.th t).finished = true) → ∀ f, f ∈ c.sh ↔ (f ∈ s₀ ∨ Gen sch (Src prog) f) := by
  intro c hfin f
  have hc := cinv_exec sch v hv sched _ (cinv_init sch s₀ h₀ prog hw)
  refine ⟨(fed_exec sch v s₀ prog hw sched).1 f, fun h => h.elim (fun h => (sok_exec sch v s₀ prog sched).1 h) ?_⟩
  -- a finished thread has passed every widening of its program, and what it has passed is published and bound
  exact Gen.mem fun p ⟨t, _, ht⟩ => (hc.ths t).seen p (seen_of_finished sch v s₀ prog sched t (hfin t) ht)

/-- **xsi_widening_snapshot_no_error.**  With the iteration over a snapshot of `selected_by`
    (3ae5949; since 1e49c64 `collect_key_fields` does not iterate over `selected_by` at all) no thread ever leaves a
    call with RuntimeError, in any schedule. -/
theorem xsi_widening_snapshot_no_error (sch : Sch) (v : Variant) (hv : v.live = false) (s₀ : Sh)
    (prog : Nat → List Task) (sched : List Nat) (t : Nat) :
    ((XW.exec sch v sched (XW.init s₀ prog)).th t).pc ≠ .err :=
  noerr_exec sch v hv sched _ (fun _ => (nofun : PC.idle ≠ .err)) t

/-- FULL statement (false for the live iteration, the tree before 3ae5949): no thread ever leaves a call with
    RuntimeError.
    **xsi_widening_live_no_error_partial**: it holds for the live iteration under the guard `OneId`: no element
    can be bound to two different identities (by the build or by any widened pair) and no element is bound to
    two identities when the threads start.  The guard is exactly what C18-F3 violates
    (`xsi_widening_live_iteration_counterexample`). -/
theorem xsi_widening_live_no_error_partial (sch : Sch) (v : Variant) (s₀ : Sh) (prog : Nat → List Task)
    (hw : WF sch prog) (hone : OneId sch (Src prog) s₀) (hlen : ∀ e, (selOf s₀ e).length ≤ 1)
    (sched : List Nat) (t : Nat) :
    ((XW.exec sch v sched (XW.init s₀ prog)).th t).pc ≠ .err := by
  intro he
  have := live_exec sch v s₀ prog hw hone hlen sched t
  rw [he] at this
  exact this

/-- two element declarations whose xsi:type shares the child `7` -/
def f3Sch : Sch := { sel := fun _ => [7], idOf := fun p => p }
def f3Prog : Nat → List Task
  | 0 => [.widen 0 [7], .child 7]
  | 1 => [.widen 1 [7], .child 7]
  | _ => []

/-- **C18-F3** (`Variant.current` is the tree before 3ae5949: `for identity in self.selected_by` over the
    live set): thread 0 has bound child 7
    to identity 0 and is inside the loop; thread 1 binds the same child to identity 1; the next `next()` of
    thread 0's set iterator raises `RuntimeError: Set changed size during iteration`.  A single-threaded run
    of either program, and the snapshot variant under the same schedule, do not. -/
theorem xsi_widening_live_iteration_counterexample :
    ((XW.exec f3Sch .current [0, 0, 0, 0, 0, 0, 0, 0, 0, 0, 1, 1, 1, 1, 1, 0] (XW.init [] f3Prog)).th 0).pc = .err
    ∧ ((XW.exec f3Sch .snapshot [0, 0, 0, 0, 0, 0, 0, 0, 0, 0, 1, 1, 1, 1, 1, 0, 0] (XW.init [] f3Prog)).th 0).obs
        = [⟨7, [0], [0]⟩] := by
  decide +kernel

/-- the schedule of C18-F2 in the general model: with `selected_by.add` inside the `if` (tree before ee393a6)
    thread 1 finds `e in elements`, skips the binding, publishes, and iterates over nothing -/
theorem xsi_widening_before_F2_counterexample :
    let prog : Nat → List Task := fun _ => [.widen 0 [7], .child 7]
    ((XW.exec f3Sch .beforeF2 [0, 0, 0, 0, 1, 1, 1, 1, 1, 1, 1] (XW.init [] prog)).th 1).obs = [⟨7, [], [0]⟩] := by
  decide +kernel

end widening

/-! ### the benign-race family: every memo cache of the library -/

section caches
open XsVerif.Threads.Cache

/-- **cache_benign_all_schedules.**  One machine for `functools.cached_property`, `lru_cache` behind
    `SchemaCache`, `schema_cached_property`: whatever the interleaving of any number of threads, each running
    any program of calls, cache bypasses, `clear()`s and evictions, starting from any store whose entries are
    values of the function: every call returns the value of the function. -/
theorem cache_benign_all_schedules {K V : Type} [DecidableEq K] (f : K → V) (m₀ : Store K V)
    (h₀ : ∀ k v, m₀ k = some v → v = f k) (prog : Nat → List (Op K)) (sched : List Nat) (t : Nat) (k : K) (v : V) :
    (k, v) ∈ ((Cache.exec f sched (Cache.init m₀ prog)).th t).rets → v = f k := by
  intro h
  exact ((Cache.cinv_exec f prog sched _ (Cache.cinv_init f m₀ h₀ prog)).ths t).rets (k, v) h

/-- **cache_results_sequential.**  A thread that has run its program has received, call by call and in
    order, exactly what the uncached sequential program computes; and the store still holds only values of
    the function. -/
theorem cache_results_sequential {K V : Type} [DecidableEq K] (f : K → V) (m₀ : Store K V)
    (h₀ : ∀ k v, m₀ k = some v → v = f k) (prog : Nat → List (Op K)) (sched : List Nat) (t : Nat) :
    let c := Cache.exec f sched (Cache.init m₀ prog)
    (c.th t).finished = true →
      (c.th t).rets = (calls (prog t)).map (fun k => (k, f k)) ∧ (∀ k v, c.memo k = some v → v = f k) := by
  intro c hfin
  have h := Cache.cinv_exec f prog sched _ (Cache.cinv_init f m₀ h₀ prog)
  exact ⟨(h.ths t).finished hfin, h.memo⟩

/-- idempotent deterministic writes commute -/
theorem idempotent_writes_commute {K V : Type} [DecidableEq K] (f : K → V) (k k' : K) (s : Store K V) :
    put k (f k) (put k' (f k') s) = put k' (f k') (put k (f k) s) ∧ put k (f k) (put k (f k) s) = put k (f k) s :=
  ⟨put_comm f k k' s, put_idem k (f k) s⟩

/-- the store after any sequence of such writes depends only on the SET of keys written -/
theorem writes_order_irrelevant {K V : Type} [DecidableEq K] (f : K → V) (l₁ l₂ : List K) (s : Store K V)
    (h : ∀ x, x ∈ l₁ ↔ x ∈ l₂) : puts f l₁ s = puts f l₂ s :=
  puts_congr f h s

/-- **scratch_skip_safe.**  `text_decode(text)` on the shared scratch context (validation='skip') returns
    the pure value to every thread under every interleaving with any other users of the scratch context
    (skip or lax, with or without pattern facets), from any state of the scratch context. -/
theorem scratch_skip_safe (user : Nat → SUser) (sc : Scratch) (sched : List Nat) (t : Nat) (v : Nat) (ok : Bool) :
    ((sexec user sched (sinit sc)).pc t) = .fin v ok → v = (user t).val := by
  intro h
  have := sexec_ok user sched (sinit sc) (fun _ => trivial) t
  rw [h] at this
  exact this

/-- `text_is_valid(text)` alone on the scratch context gives the verdict of the type, from any scratch state -/
theorem scratch_lax_alone (user : Nat → SUser) (sc : Scratch) (h : (user 0).lax = true) :
    (sexec user [0, 0, 0, 0, 0, 0, 0, 0] (sinit sc)).pc 0 = .fin (user 0).val (user 0).expected := by
  cases hp : (user 0).pat with
  | none => simp [sexec, sstep, sinit, upd, hp, h, SUser.expected]
  | some p =>
    cases hr : (user 0).rej p <;> simp [sexec, sstep, sinit, upd, hp, h, hr, SUser.expected]

/-- FULL statement (false): `text_is_valid` on the shared scratch context returns the verdict of the type
    under every interleaving.  Witness: thread 0's text is rejected by its pattern, the error is collected in
    the shared list; thread 1 starts a use and clears the list; thread 0 reads `not errors` = True. -/
theorem scratch_lax_race_counterexample :
    let user : Nat → SUser := fun _ => { lax := true, pat := some 5, val := 1, rej := fun _ => true }
    (user 0).expected = false ∧
    (sexec user [0, 0, 0, 0, 0, 0, 0, 1, 0] (sinit ⟨none, 0⟩)).pc 0 = .fin 1 true := by
  decide +kernel

/-- **percall_context_no_interference.**  Every site that evaluates an XPath test builds the evaluation
    context inside the call (`shared = false`; the table of sites is regenerated from the source on every run):
    whatever the interleaving of any number of threads, with any number of statements between the store of the
    variable and its read, every test is evaluated on the value of its own call, and a thread that has finished has
    evaluated exactly its own values, in order — the single-threaded result. -/
theorem percall_context_no_interference (gap : Nat) (vals : Nat → List Nat) (sched : List Nat) (t : Nat) :
    let c := xexec false gap sched (xinit vals)
    (∃ rest, (c.th t).res ++ rest = vals t) ∧ ((c.th t).finished = true → (c.th t).res = vals t) := by
  intro c
  have h := xexec_ok gap vals sched (xinit vals) (fun _ => rfl) t
  exact ⟨⟨_, h⟩, h.finished⟩

/-- a single thread on a SHARED context is still right (the variable is overwritten before each evaluation):
    this is why a single-threaded test-suite cannot see the sharing -/
theorem shared_context_alone (v w : Nat) :
    ((xexec true 1 [0, 0, 0, 0, 0, 0, 0, 0, 0, 0] (xinit (fun t => if t = 0 then [v, w] else []))).th 0).res = [v, w] := by
  simp [xexec, xstep, xinit, upd]

/-- FULL statement for a shared context (false): thread 0 stores 7, thread 1 stores 700 and evaluates, thread 0
    evaluates its test on 700 (seeded change C18-5: a class-level XPathContext whose `variables` dict is shared by
    `copy`). -/
theorem shared_context_race_counterexample :
    let c := xexec true 1 [0, 0, 1, 1, 1, 1, 1, 0, 0, 0] (xinit (fun t => if t = 0 then [7] else if t = 1 then [700] else []))
    (c.th 0).res = [700] ∧ (c.th 1).res = [700] ∧ (c.th 0).finished = true := by
  decide +kernel

end caches

example : let c := exec [0, 1, 0, 1, 2, 0, 0, 0, 0, 0, 0, 0, 1, 1, 2, 2] (init 2 1)
    c.runs = 1 ∧ c.pc 0 = .done .complete ∧ c.pc 1 = .done .complete ∧ c.pc 2 = .done .complete := by decide +kernel

/-- two threads miss the cache at the same time, both compute, both store, both return f k -/
def memoEx : MCfg Nat Nat :=
  mexec (fun k : Nat => k * k) [0, 1, 0, 1, 0, 1] { pc := fun _ => .call 7, memo := fun _ => none }

def retVal : MPC Nat Nat → Option Nat
  | .ret v => some v
  | _ => none

example : retVal (memoEx.pc 0) = some 49 ∧ retVal (memoEx.pc 1) = some 49 ∧ memoEx.memo 7 = some 49 := by
  decide +kernel

example : (wexec .patched [0, 0, 0, 1, 1, 1, 1, 1] winit).pc 1 = .fin true := by decide +kernel

example :
    let c := XW.exec f3Sch .snapshot [0, 1, 0, 1, 0, 1, 0, 1, 0, 1, 0, 1, 0, 1, 0, 1, 0, 1, 0, 1, 0, 1, 0, 1, 0, 1] (XW.init [] f3Prog)
    (c.th 0).finished = true ∧ (c.th 1).finished = true ∧
    (c.th 0).obs = [⟨7, [0, 1], [0]⟩] ∧ (c.th 1).obs = [⟨7, [0, 1], [1]⟩] ∧
    c.sh = [.elem 0 7, .elem 1 7, .selBy 7 0, .selBy 7 1, .xsi 0, .xsi 1] := by decide +kernel

example : XW.Closed f3Sch [] := by intro p h; simp at h

/-- the guard of `xsi_widening_live_no_error_partial` is satisfiable with real widening -/
example : XW.OneId f3Sch (XW.Src (fun t => if t < 3 then [.widen 0 [7], .child 7] else [])) [] := by
  intro e i j hi hj
  have key : ∀ k, XW.Pot f3Sch (XW.Src (fun t => if t < 3 then [XW.Task.widen 0 [7], .child 7] else [])) [] e k → k = 0 := by
    intro k hk
    rcases hk with hk | ⟨p, ⟨t, ord, hp⟩, hk, _⟩
    · simp at hk
    · simp only at hp
      split at hp
      · simp at hp; rw [← hk, hp.1]; rfl
      · simp at hp
  rw [key i hi, key j hj]

example : XW.WF f3Sch f3Prog := by
  intro t p ord h e
  match t with
  | 0 => simp [f3Prog] at h; simp [h.2, f3Sch]
  | 1 => simp [f3Prog] at h; simp [h.2, f3Sch]
  | _ + 2 => simp [f3Prog] at h

/-- two visits of one pair in different orders (the selector's result is a set) -/
example :
    let sch : XW.Sch := { sel := fun _ => [1, 2], idOf := fun _ => 0 }
    let prog : Nat → List XW.Task := fun t => if t = 0 then [.widen 0 [1, 2], .child 2] else [.widen 0 [2, 1], .child 1]
    let c := XW.exec sch .current [0, 1, 0, 1, 0, 1, 0, 1, 0, 1, 0, 1, 0, 1, 0, 1, 0, 1, 0, 1, 0, 1, 0, 1, 0, 1, 0, 1, 0, 1] (XW.init [] prog)
    (c.th 0).obs = [⟨2, [0], [0]⟩] ∧ (c.th 1).obs = [⟨1, [0], [0]⟩] := by decide +kernel

example :
    let prog : Nat → List (Cache.Op Nat) := fun t => if t = 0 then [.call 3, .call 3] else [.call 3, .clear, .call 4]
    let c := Cache.exec (fun k : Nat => k + 10) [0, 0, 1, 1, 0, 1, 1, 1, 0, 0, 0, 0, 1, 1, 1, 1, 0, 0] (Cache.init Cache.empty prog)
    (c.th 0).rets = [(3, 13), (3, 13)] ∧ (c.th 1).rets = [(3, 13), (4, 14)] ∧ (c.th 0).finished = true := by
  decide +kernel

/-- the schedule of `shared_context_race_counterexample` with per-call contexts -/
example :
    let c := Cache.xexec false 1 [0, 0, 1, 1, 1, 1, 1, 0, 0, 0] (Cache.xinit (fun t => if t = 0 then [7] else if t = 1 then [700] else []))
    (c.th 0).res = [7] ∧ (c.th 1).res = [700] ∧ (c.th 0).finished = true := by decide +kernel

end XsVerif.Props.C18
