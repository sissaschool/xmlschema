/-
  C19 — a single fault at an element with a FIXED value and mixed complex content is reported at that element.
  The model is Model/FixedCC.lean (port of the decision of
  XsdElement.raw_decode), tied to the library by the driver op `fixedcc` on every generated case of the family
  `fx_family` of harness/props/c19.py.

  `SpecOk` is Element Locally Valid 5.2.2 (XSD Part 1) as the library reads it: an element with a fixed value has NO
  element children, and its text is absent / empty (the fixed value is supplied) or equals the fixed string (compared
  after trimming).
-/
import XsVerif.Model.FixedCC

namespace XsVerif.Props.C19
open XsVerif.FixedCC

def SpecOk (fixed : String) (e : El) : Prop :=
  e.kids = 0 ∧ (e.text = none ∨ e.text = some "" ∨ ∃ t, e.text = some t ∧ strip t = fixed)

/-- the ported decision raises no error exactly on the elements the rule allows -/
theorem fixed_lib_iff_spec (fixed : String) (e : El) : libErr fixed e = false ↔ SpecOk fixed e := by
  obtain ⟨text, kids⟩ := e
  cases text with
  | none =>
    simp [libErr, fixedValue, SpecOk]
  | some t =>
    by_cases ht : t = ""
    · subst ht
      simp [libErr, fixedValue, SpecOk]
    · by_cases hk : kids = 0
      · subst hk
        simp [libErr, fixedValue, SpecOk, ht]
        exact eq_comm
      · simp [libErr, fixedValue, SpecOk, ht, hk]

/-- "extra child" at an element with a fixed value is ALWAYS reported at that element: whatever the text, whatever the
    child (admitted by the type or not), however many children there were -/
theorem fixed_extra_child_reported (fixed : String) (e : El) : libErr fixed (addChild e) = true := by
  simp [libErr, addChild]

/-- "bad value": a non-empty text that is not the fixed string (after trimming) is always reported -/
theorem fixed_text_change_reported (fixed : String) (e : El) (t : String) (hk : e.kids = 0) (ht : t ≠ "")
    (hne : strip t ≠ fixed) : libErr fixed (setText e t) = true := by
  simp [libErr, fixedValue, setText, hk, ht]
  intro h; exact hne h.symm

-- non-vacuity (evaluated)
#guard libErr "see below" ⟨some "see below", 0⟩ == false
#guard libErr "see below" ⟨some " see below ", 0⟩ == false
#guard libErr "see below" ⟨none, 0⟩ == false
#guard libErr "see below" ⟨some "  ", 0⟩ == true
#guard libErr "see below" ⟨some "see below", 1⟩ == true

end XsVerif.Props.C19
