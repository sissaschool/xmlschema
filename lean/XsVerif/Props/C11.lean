/-
  C11 — every input ends in a verdict or a library error; documented limits hold.

  English property (properties.jsonl):
    For any document (well-formed or not) and any built schema, validation and decoding terminate
    with a verdict or raise an exception of the library's own hierarchy - never another exception
    type - and lax mode never raises for invalid content.  Documents deeper than the configured
    depth limit, or larger than the element limit when fully loaded, are refused with the
    documented resource error, while documents within the limits are processed.

  What is proved here (on the tables regenerated from the source on each run): the limit
  arithmetic of the parse loops, the limit setters, the closure of the exception hierarchy, the
  coverage of the conversion handlers, the error-collection policy over every `raise` statement of
  the validators, the interpreter-frame arithmetic of the recursive descent, and that lax / skip runs
  never raise.  Termination and the absence of foreign exceptions in the
  interpreter itself are runtime facts: they are monitored by the mutation/fuzz exploration
  (harness/props/c11.py), not proved.
-/
import XsVerif.Model.Limits
import XsVerif.Lemmas.Limits
import XsVerif.Lemmas.Modes
import XsVerif.Lemmas.RaisePolicy
import XsVerif.Generated.C11

namespace XsVerif.Props.C11
open XsVerif.Limits XsVerif.Generated.C11

/-- **Eager (fully loaded) resources.**  For every document tree, every depth limit `L` and every
    element limit `E`: the parse loop completes exactly when the tree is at most `L` deep and has
    at most `E` elements — refused only when a limit is *exceeded*. -/
theorem eager_limit_spec (L E : Nat) (f : Forest) :
    eagerParse L E f.events = .ok ↔ f.depth ≤ L ∧ f.size ≤ E := by
  have h := eagerGo_events_ok f [] L E (by omega) (by omega)
  simpa [eagerParse, eagerGo] using h

/-- … and what it raises otherwise is the documented resource error. -/
theorem eager_refusal_is_resource_error (L E : Nat) (evs : List Ev) (h : eagerParse L E evs ≠ .ok) :
    (eagerParse L E evs).excName = some "XMLResourceExceeded" := by
  cases hr : eagerParse L E evs <;> simp_all [ParseRes.excName]

/-- **Lazy resources**: only the depth limit applies (the element limit "not affects lazy
    resources", limits.py). -/
theorem lazy_limit_spec (L : Nat) (f : Forest) : lazyParse L f.events = .ok ↔ f.depth ≤ L := by
  have h := eager_limit_spec L f.size f
  unfold eagerParse at h
  rw [eagerGo_eq_lazyGo _ _ _ (by rw [count_start_events]; omega)] at h
  simpa [lazyParse] using h

example : let f := Forest.cons 1 (.cons 0 (.nil 0) (.cons 2 (.nil 1) (.nil 0))) (.nil 0)
    f.depth = 2 ∧ f.size = 3 ∧ eagerParse 2 3 f.events = .ok ∧ eagerParse 1 3 f.events = .depthExceeded ∧
    eagerParse 2 2 f.events = .elementsExceeded ∧ lazyParse 2 f.events = .ok := by decide

/-- the loop before commit 478fd1c refused a document whose depth *equals* the limit (and one whose
    element count equals the limit): record of the repaired defect C11-F1. -/
theorem depth_limit_off_by_one_counterexample :
    let chain2 := Forest.cons 0 (.cons 0 (.nil 0) (.nil 0)) (.nil 0)
    chain2.depth = 2 ∧ chain2.size = 2 ∧
    eagerGoPinned chain2.events 2 10 = .depthExceeded ∧ eagerGoPinned chain2.events 10 2 = .elementsExceeded ∧
    eagerParse 2 2 chain2.events = .ok := by decide

def Limits.admissible (l : Limits) : Prop :=
  ∀ a : Limit, minOf a ≤ l.get a

theorem setLimit_ok_iff (l : Limits) (a : Limit) (v : Option Int) :
    (∃ l', setLimit l a v = .ok l') ↔ ∃ n, v = some n ∧ minOf a ≤ n := by
  unfold setLimit
  cases v with
  | none => simp
  | some n => by_cases h : n < minOf a <;> simp [h] <;> omega

theorem admissible_put {l : Limits} (h : Limits.admissible l) {a : Limit} {v : Int} (hv : minOf a ≤ v) :
    Limits.admissible (l.put a v) := by
  intro b
  rw [Limits.get_put]
  split
  · subst b; exact hv
  · exact h b

/-- **Limit setters guard the minima**: whatever sequence of assignments is attempted (accepted or
    rejected, ints or not), every limit stays at or above its documented minimum. -/
theorem limit_setters_guard (ops : List (Limit × Option Int)) (l : Limits) (h : Limits.admissible l) :
    Limits.admissible (applyAll l ops) := by
  induction ops generalizing l with
  | nil => exact h
  | cons op k ih =>
    obtain ⟨a, v⟩ := op
    unfold applyAll
    cases hv : v with
    | none => simpa [setLimit] using ih l h
    | some n =>
      by_cases hn : n < minOf a
      · simpa [setLimit, hn] using ih l h
      · simp only [setLimit, hn, if_false]
        exact ih _ (admissible_put h (by omega))

/-- the defaults regenerated from the source are admissible and equal the documented values, and
    the minima probed through the real setter are the ones of the model. -/
theorem generated_limits_match : limitDefaults = defaults ∧ Limits.admissible limitDefaults ∧
    limitMinima = [(.modelDepth, minOf .modelDepth), (.schemaSources, minOf .schemaSources),
                   (.xmlDepth, minOf .xmlDepth), (.xmlElements, minOf .xmlElements)] := by
  refine ⟨by decide, ?_, by decide⟩
  intro a; cases a <;> decide

example : applyAll defaults [(.xmlDepth, some 0), (.xmlDepth, none), (.xmlElements, some 7), (.modelDepth, some 4)]
    = ⟨15, 1000, 1000, 7⟩ := by decide

def lookup (n : String) : Option Exc := excTable.find? (·.name == n)

/-- every error class the package exports or defines derives from `XMLSchemaException`:
    catching the root catches every library error. -/
theorem library_errors_closed :
    ∀ n ∈ libraryErrors, ∃ c, lookup n = some c ∧ classify (some c) = .libraryError := by decide +kernel

theorem public_errors_are_library_errors : ∀ n ∈ publicErrors, n ∈ libraryErrors := by decide +kernel

/-- the documented resource error is a library error -/
theorem resource_exceeded_is_library_error :
    ∃ c, lookup "XMLResourceExceeded" = some c ∧ classify (some c) = .libraryError ∧
      "XMLResourceError" ∈ c.mro := by decide

/-- the classification is not trivial: the interpreter's own errors are foreign -/
theorem foreign_examples : ∀ n ∈ ["RecursionError", "OverflowError", "KeyError", "ValueError", "ParseError"],
    ∃ c, lookup n = some c ∧ classify (some c) = .foreign := by decide

/-! ### handler coverage

  Full statement: `∀ s ∈ sites, ∀ c ∈ raisableAt s.name, catches s.handlers c = true`.
  It is false for the handlers of the tree before the repairs of C11-F4 (c43d912), C11-F5 (13aae48),
  C11-F6 (7d157b8) and C11-F8 / C11-F9 (d19bbb8): `knownGaps` lists the pairs those handlers
  missed, the theorem is stated with them excluded. -/

def raisableAt (site : String) : List Exc :=
  match raisable.find? (·.1 == site) with
  | some p => p.2
  | none => []

/-- (site, exception class) pairs not covered by the handlers before the repairs named above -/
def knownGaps : List (String × String) :=
  [("builtin.to_python:skip", "OverflowError"), ("group.check_dynamic_context", "XMLSchemaKeyError"),
   ("xml_loader._parse", "LookupError"), ("xml_loader._parse", "ValueError"), ("xml_loader._parse", "UnicodeError"),
   ("xml_loader._lazy_iterparse", "LookupError"), ("xml_loader._lazy_iterparse", "ValueError"),
   ("xml_loader._lazy_iterparse", "UnicodeError"),
   ("assertion.evaluate", "InvalidOperation"), ("assertion.evaluate", "ValueError")]

/-- every exception class observed under a conversion site is caught by that site's handlers,
    except for the listed gaps -/
theorem handlers_cover_partial :
    ∀ s ∈ sites, ∀ c ∈ raisableAt s.name, (s.name, c.name) ∉ knownGaps → catches s.handlers c = true := by
  decide +kernel

example : (sites.map (·.name)).length = 7 ∧ (raisableAt "builtin.to_python:validate").length ≥ 3 := by decide

/-- C11-F4: the skip-mode handler `(ValueError, TypeError, DecimalException)` (before c43d912) does not
    catch the OverflowError that the date/gYear converters raise for a huge year; the repaired one does. -/
theorem handlers_cover_counterexample_skip :
    catches ["ValueError", "TypeError", "DecimalException"]
      ⟨"OverflowError", ["OverflowError", "ArithmeticError", "Exception", "BaseException", "object"]⟩ = false ∧
    catches ["ValueError", "TypeError", "ArithmeticError"]
      ⟨"OverflowError", ["OverflowError", "ArithmeticError", "Exception", "BaseException", "object"]⟩ = true := by
  decide

/-- C11-F5: `(XMLSchemaValidationError, TypeError)` around `check_dynamic_context` (before 13aae48) does
    not catch the XMLSchemaKeyError of an unknown xsi:type, while `(KeyError, TypeError)` (elements.py)
    and `(XMLSchemaValidationError, KeyError, TypeError)` do. -/
theorem handlers_cover_counterexample_xsi_type :
    let k : Exc := ⟨"XMLSchemaKeyError", ["XMLSchemaKeyError", "XMLSchemaException", "KeyError", "LookupError",
                                        "Exception", "BaseException", "object"]⟩
    catches ["XMLSchemaValidationError", "TypeError"] k = false ∧ catches ["KeyError", "TypeError"] k = true ∧
    catches ["XMLSchemaValidationError", "KeyError", "TypeError"] k = true := by decide

/-- C11-F6: `except SyntaxError` around the parse loops (before 7d157b8) does not catch what the parser
    raises for an encoding it cannot handle (LookupError "unknown encoding", ValueError "multi-byte
    encodings are not supported"); `(SyntaxError, LookupError, ValueError)` does, and still catches
    ParseError. -/
theorem handlers_cover_counterexample_parse :
    let lk : Exc := ⟨"LookupError", ["LookupError", "Exception", "BaseException", "object"]⟩
    let ve : Exc := ⟨"ValueError", ["ValueError", "Exception", "BaseException", "object"]⟩
    let pe : Exc := ⟨"ParseError", ["ParseError", "SyntaxError", "Exception", "BaseException", "object"]⟩
    catches ["SyntaxError"] lk = false ∧ catches ["SyntaxError"] ve = false ∧ catches ["SyntaxError"] pe = true ∧
    catches ["SyntaxError", "LookupError", "ValueError"] lk = true ∧
    catches ["SyntaxError", "LookupError", "ValueError"] ve = true := by decide

/-- C11-F8 / C11-F9: `except ElementPathError` around the evaluation of an XSD 1.1 assertion (before
    d19bbb8) does not catch the decimal.InvalidOperation of a NaN comparison (F8) nor the plain
    ValueError that elementpath raises for a malformed xsi:type QName in the subtree (F9);
    `(ElementPathError, ValueError, ArithmeticError)` catches both. -/
theorem handlers_cover_counterexample_assert :
    let io : Exc := ⟨"InvalidOperation", ["InvalidOperation", "DecimalException", "ArithmeticError", "Exception",
                                          "BaseException", "object"]⟩
    let ve : Exc := ⟨"ValueError", ["ValueError", "Exception", "BaseException", "object"]⟩
    catches ["ElementPathError"] io = false ∧ catches ["ElementPathError"] ve = false ∧
    catches ["ElementPathError", "ValueError", "ArithmeticError"] io = true ∧
    catches ["ElementPathError", "ValueError", "ArithmeticError"] ve = true := by decide

/-! ### the error-collection policy over every `raise` statement of the validators

  Clause: "lax mode never raises for invalid content".  `raiseSites` is regenerated from the AST of
  xmlschema/validators on every run; `RaisePolicy.policyBase` (+ `guardEntries`) is the hand-maintained classification.
  Hypotheses of the property, under which `fire` is stated: a BUILT schema, a document given to
  the documented entry points with well-typed arguments.  The harness observes every raise of the
  package during the fuzz run and compares it with `fire`. -/

open XsVerif.RaisePolicy in
/-- the hand table for the variant of the source under check (`recursionGuard` is read from the AST:
    the repaired descent has two more `raise` statements, both of kind `limit`) -/
def policy : List (String × Nat × Kind) := policyOf recursionGuard

open XsVerif.RaisePolicy in
/-- the sites of the regenerated table with the kind that the walk along the hand table gives them -/
def classified : List (RaiseSite × Kind) :=
  match classifyAll raiseSites policy with
  | some l => l
  | none => []

open XsVerif.RaisePolicy in
/-- The walk, and what is read off its result site by site: evaluated by the kernel, once (comparing
    the keys — strings — makes one evaluation dearer than everything else in this file). -/
theorem classified_table :
    classifyAll raiseSites policy = some classified ∧
    (∀ p ∈ policy, p.2.2 ≠ Kind.strictGuard ∧ p.2.2 ≠ Kind.content) ∧
    (∀ x ∈ classified, x.2.resourceOrStop = true →
      ∃ c, lookup x.1.cls = some c ∧ classify (some c) = .libraryError) ∧
    ((⟨"validation:ValidationContext.raise_or_collect:<var:error>", 0, "<var:error>", .strict, true⟩,
      Kind.strictGuard) : RaiseSite × Kind) ∈ classified ∧
    policy.length ≥ 100 ∧ (classified.filter (·.2 == .caught)).length ≥ 40 ∧
    (classified.filter (·.2.resourceOrStop)).length ≥ 5 := by decide +kernel

open XsVerif.RaisePolicy in
/-- **every `raise` statement is classified, and the hand table matches the source exactly**: the
    walk succeeds — every statement that is not enclosed by `if validation == 'strict'` has an entry
    for its (function, class), every entry lists exactly as many statements as the source has, no
    entry is left over — and the classified list is the whole regenerated table, in order. -/
theorem raise_sites_classified :
    classifyAll raiseSites policy = some classified ∧ classified.map Prod.fst = raiseSites :=
  ⟨classified_table.1, (classifyAll_spec classified_table.1).1⟩

open XsVerif.RaisePolicy in
/-- a site is treated as strict-guarded exactly when the AST says `if validation == 'strict'`
    encloses it: the hand table cannot declare a site strict-guarded. -/
theorem strict_guard_kind_iff : ∀ x ∈ classified, (x.2 = Kind.strictGuard ↔ x.1.guard = Guard.strict) := by
  intro x hx
  rcases (classifyAll_spec classified_table.1).2 x hx with ⟨hg, hk⟩ | ⟨hg, hk⟩
  · exact ⟨fun _ => hg, fun _ => hk⟩
  · obtain ⟨p, hp, e⟩ := List.mem_map.1 hk
    exact ⟨fun h => absurd (e.trans h) (classified_table.2.1 p hp).1, fun h => absurd h hg⟩

open XsVerif.RaisePolicy in
/-- the walk hands out `strictGuard` and the kinds of the hand table, which has no `content` entry -/
theorem no_content_site : ∀ x ∈ classified, x.2 ≠ Kind.content := by
  intro x hx h
  rcases (classifyAll_spec classified_table.1).2 x hx with ⟨_, hk⟩ | ⟨_, hk⟩
  · cases hk.symm.trans h
  · obtain ⟨p, hp, e⟩ := List.mem_map.1 hk
    exact (classified_table.2.1 p hp).2 (e.trans h)

open XsVerif.RaisePolicy in
/-- **site level**: no site is of kind `content`; hence in lax and in skip mode every `raise`
    statement of the validators either does nothing, or hands its error to raise_or_collect, or is
    a resource / stop site (XMLSchemaModelDepthError, XMLSchemaStopValidation).
    Full statement of the clause over the table — no `_partial` needed: the table has no violating site. -/
theorem lax_skip_sites_never_raise_for_content :
    ∀ x ∈ classified, ∀ m, m ≠ Modes.Mode.strict →
      fire x.2 x.1.guard m = .silent ∨ fire x.2 x.1.guard m = .collected ∨ x.2.resourceOrStop = true := by
  intro x hx m hm
  cases hf : fire x.2 x.1.guard m with
  | silent => exact Or.inl rfl
  | collected => exact Or.inr (Or.inl rfl)
  | escapes =>
    rcases fire_escapes_not_strict x.2 x.1.guard m hm hf with h | h
    · exact Or.inr (Or.inr h)
    · exact absurd h (no_content_site x hx)

open XsVerif.RaisePolicy in
/-- the `Reached` record of a classified site, possibly inside a sub-descent run in a literal mode -/
def reachedOf (x : RaiseSite × Kind) (nested : Option Modes.Mode) : Reached := ⟨x.2, x.1.guard, x.1.cls, nested⟩

/-- **mode switches are shielded**: every call of the descent that starts a sub-descent in the literal
    mode 'strict' (the member trials of XsdUnion.raw_decode / raw_encode, text_is_valid, the
    enumeration values) sits under a handler that catches XMLSchemaValidationError — the only
    exception is `validate()`, which IS the strict entry point.  This is what `fireAt` assumes for
    a site reached inside such a sub-descent. -/
theorem mode_switches_are_shielded :
    ∀ w ∈ modeSwitches, w.mode = "strict" → w.func ≠ "schemas:XMLSchemaBase.validate" →
      ∃ c, lookup "XMLSchemaValidationError" = some c ∧ catches w.handlers c = true := by decide +kernel

example : (modeSwitches.filter (·.mode == "strict")).length ≥ 3 := by decide

open XsVerif.RaisePolicy in
/-- **descent level**, for EVERY sequence of sites of the table that a descent may reach, in any
    order and with any repetitions: in lax and skip mode the descent either ends normally or is
    ended by a resource / stop site. -/
theorem lax_skip_descent_raises_only_limits (script : List Reached)
    (h : ∀ r ∈ script, ∃ x ∈ classified, ∃ n, reachedOf x n = r) (m : Modes.Mode) (hm : m ≠ .strict) :
    (run m script).raised = none ∨
      ∃ r ∈ script, (run m script).raised = some r ∧ r.kind.resourceOrStop = true := by
  refine run_raises_only_limits m hm script fun r hr => ?_
  obtain ⟨x, hx, n, rfl⟩ := h r hr
  exact no_content_site x hx

open XsVerif.RaisePolicy in
/-- skip mode collects nothing, whatever is reached -/
theorem skip_descent_collects_nothing (script : List Reached) : (run .skip script).collected = [] :=
  run_skip_collects_nothing script

open XsVerif.RaisePolicy in
/-- what may leave a lax / skip entry point is an exception of the library hierarchy: the class of
    every resource / stop site is in the regenerated hierarchy table below `XMLSchemaException` -/
theorem lax_escaping_sites_are_library_errors :
    ∀ x ∈ classified, x.2.resourceOrStop = true →
      ∃ c, lookup x.1.cls = some c ∧ classify (some c) = .libraryError :=
  classified_table.2.2.1

open XsVerif.RaisePolicy in
/-- the only statement through which collected validation errors are raised is strict-guarded:
    `raise error` in raise_or_collect (validation.py:228) does nothing outside strict mode -/
theorem raise_or_collect_is_strict_guarded :
    ∃ x ∈ classified, x.1.key = "validation:ValidationContext.raise_or_collect:<var:error>" ∧
      x.1.guard = .strict ∧ ∀ m, m ≠ Modes.Mode.strict → fire x.2 x.1.guard m = .silent :=
  ⟨_, classified_table.2.2.2.1, rfl, rfl, fun m hm => fire_strict_guard _ m hm⟩

open XsVerif.RaisePolicy in
/-- non-vacuity -/
example : (raiseSites.filter (·.reachable)).length ≥ 100 ∧ policy.length ≥ 100 ∧ classified.length = raiseSites.length ∧
    (classified.filter (·.2 == .caught)).length ≥ 40 ∧ (classified.filter (·.2.resourceOrStop)).length ≥ 5 ∧
    run .lax [⟨.caught, .none, "XMLSchemaValidationError", none⟩, ⟨.strictGuard, .strict, "<var:error>", none⟩,
              ⟨.limit, .none, "XMLSchemaModelDepthError", none⟩, ⟨.caught, .none, "XMLSchemaValidationError", none⟩]
      = ⟨["XMLSchemaValidationError"], some ⟨.limit, .none, "XMLSchemaModelDepthError", none⟩⟩ ∧
    run .lax [⟨.caught, .none, "XMLSchemaValidationError", none⟩, ⟨.buildTime, .none, "XMLSchemaValueError", none⟩]
      = ⟨["XMLSchemaValidationError"], none⟩ ∧
    -- a union member trial in a lax run: the strict-guarded raise of raise_or_collect fires in the sub-descent and is caught
    run .lax [⟨.caught, .none, "ValueError", some .strict⟩, ⟨.strictGuard, .strict, "<var:error>", some .strict⟩,
              ⟨.caught, .none, "XMLSchemaValidationError", none⟩] = ⟨["XMLSchemaValidationError"], none⟩ ∧
    (run .strict [⟨.caught, .none, "XMLSchemaValidationError", none⟩, ⟨.strictGuard, .strict, "<var:error>", none⟩,
                  ⟨.limit, .none, "XMLSchemaModelDepthError", none⟩]).raised
      = some ⟨.strictGuard, .strict, "<var:error>", none⟩ :=
  have t := classified_table.2.2.2.2
  ⟨by decide +kernel, t.1, by rw [← raise_sites_classified.2, List.length_map], t.2.1, t.2.2, by decide⟩

/-! ### interpreter frames of the recursive descent (findings C11-F2 / C11-F16)

  Full statement of the clause "documents within the limits are processed" for the descent:
    `∀ f, f.depth ≤ L → f.size ≤ E → processExc g L E free tail f = none`
  — false for the code: the descent needs two interpreter frames per level and the default recursion
  limit (1000) is smaller than 2 · MAX_XML_DEPTH. -/

/-- **frame arithmetic of the descent**, for every forest: it fits iff `2·depth + tail ≤ free`. -/
theorem descent_frames_spec (tail : Nat) (f : Forest) (free : Int) :
    descendFits tail f free = true ↔ (2 * f.depth + tail : Int) ≤ free := descendFits_iff tail f free

theorem processExc_eq (g : Bool) (L E tail : Nat) (free : Int) (f : Forest) :
    processExc g L E free tail f =
      if f.depth ≤ L ∧ f.size ≤ E then
        if (2 * f.depth + tail : Int) ≤ free then none
        else if g then some "XMLResourceExceeded" else some "RecursionError"
      else some "XMLResourceExceeded" := by
  unfold processExc
  by_cases hP : f.depth ≤ L ∧ f.size ≤ E
  · rw [(eager_limit_spec L E f).2 hP, if_pos hP]
    simp only [descendFits_iff]
  · rw [if_neg hP]
    split
    · rfl
    · rfl
    · exact absurd ‹_› (mt (eager_limit_spec L E f).1 hP)

theorem within_limits_processed_partial (g : Bool) (L E tail : Nat) (free : Int) (f : Forest)
    (hd : f.depth ≤ L) (hs : f.size ≤ E) (hfr : (2 * f.depth + tail : Int) ≤ free) :
    processExc g L E free tail f = none := by
  rw [processExc_eq, if_pos ⟨hd, hs⟩, if_pos hfr]

/-- a chain of 4 elements is within MAX_XML_DEPTH = 10 but does not fit into 7 free frames: it is
    not processed — with the repaired descent it is refused with the resource error (C11-F16), with
    the descent before the repair (7869f1f) a RecursionError escapes (C11-F2). -/
theorem within_limits_processed_counterexample :
    let chain4 := Forest.cons 0 (.cons 0 (.cons 0 (.cons 0 (.nil 0) (.nil 0)) (.nil 0)) (.nil 0)) (.nil 0)
    chain4.depth = 4 ∧ chain4.depth ≤ 10 ∧ chain4.size ≤ 10 ∧
    processExc true 10 10 7 0 chain4 = some "XMLResourceExceeded" ∧
    processExc false 10 10 7 0 chain4 = some "RecursionError" ∧
    processExc false 10 10 8 0 chain4 = none := by decide

/-- **the repaired descent never lets a foreign exception out**: for every document, limits and
    frame budget, what `processExc true` raises is a library error. -/
theorem guarded_descent_never_foreign (L E tail : Nat) (free : Int) (f : Forest) :
    processExc true L E free tail f = none ∨ processExc true L E free tail f = some "XMLResourceExceeded" := by
  rw [processExc_eq]
  split
  · split
    · exact .inl rfl
    · exact .inr rfl
  · exact .inr rfl

/-- … while the descent before the repair does, exactly when the document is within the limits and does not
    fit the stack. -/
theorem unguarded_descent_foreign_iff (L E tail : Nat) (free : Int) (f : Forest) :
    processExc false L E free tail f = some "RecursionError" ↔
      (f.depth ≤ L ∧ f.size ≤ E) ∧ free < (2 * f.depth + tail : Int) := by
  rw [processExc_eq]
  by_cases hP : f.depth ≤ L ∧ f.size ≤ E
  · by_cases hfr : (2 * f.depth + tail : Int) ≤ free
    · simp [hP, hfr]
    · simp [hP, hfr]
      omega
  · simp [hP]

/-- the class raised by the repaired descent is the documented resource error of the regenerated
    hierarchy; RecursionError is foreign -/
theorem descent_error_classes :
    (∃ c, lookup "XMLResourceExceeded" = some c ∧ classify (some c) = .libraryError) ∧
    (∃ c, lookup "RecursionError" = some c ∧ classify (some c) = .foreign) :=
  have ⟨c, h1, h2, _⟩ := resource_exceeded_is_library_error
  ⟨⟨c, h1, h2⟩, foreign_examples "RecursionError" (List.mem_cons_self ..)⟩

example : let f := Forest.cons 1 (.cons 0 (.nil 0) (.cons 2 (.nil 1) (.nil 0))) (.nil 0)
    descendFits 3 f 7 = true ∧ descendFits 3 f 6 = false ∧ processExc true 2 3 7 3 f = none ∧
    processExc true 1 3 7 3 f = some "XMLResourceExceeded" := by decide

/-- whatever error events the descent produces, a lax run and a skip run end normally: the only
    primitive through which validation errors leave the descent raises in strict mode only. -/
theorem lax_and_skip_never_raise {D : Type} (s : List (Modes.Step D)) (buf : List Modes.Err) :
    (Modes.gen .lax s buf).raised = none ∧ (Modes.gen .skip s buf).raised = none :=
  ⟨Modes.gen_lax_raised s buf, Modes.gen_skip_raised s buf⟩

end XsVerif.Props.C11
