/-
  C01 — the Lean port of the real algorithm (ModelVisitor + XsdGroup child loop, `XsVerif.CM.verdict`)
  is *exact* on flat sequences; strict encode gets past the content model for exactly the words the
  validator accepts (every model); the witnesses that bound the fragment.
-/
import XsVerif.Lemmas.VisitorExactLang
import XsVerif.Lemmas.VisitorExactEncode

namespace XsVerif.Props.C01Exact
open XsVerif XsVerif.CM XsVerif.Wildcard

/-- The fragment: one `sequence` group with minOccurs = maxOccurs = 1 whose items are k ≥ 0 element
    leaves (each with its substitutes) of arbitrary occurrence ranges `lo ≤ hi` (`hi` possibly
    unbounded, `lo = 0` and `hi = 0` included), no name claimed by two leaves; the arena has `n`
    slots, ids are distinct and in range. -/
def FlatSeq (n : Nat) : Particle → Bool
  | .group root .seq 1 (some 1) ps =>
    match leafSpecs ps with
    | some ls => wfFlat n root ls
    | none => false
  | _ => false

/-- **The visitor is exact on flat sequences.**  For every flat sequence model and every child
    sequence of any length the verdict of the port of `ModelVisitor` + `XsdGroup.raw_decode` child loop
    is membership in the language of the model, and none of the port's fuel counters runs out. -/
theorem visitor_exact_flat_sequence (n : Nat) (p : Particle) (h : FlatSeq n p = true) (w : List QN) :
    verdict (mkArena n p.flatten) n p.pid w = inModel p w ∧
    (childErrors (mkArena n p.flatten) n p.pid w).fuelOut = false := by
  unfold FlatSeq at h
  split at h
  · rename_i root ps
    split at h
    · rename_i ls hls
      obtain rfl := leafSpecs_eq ps ls hls
      have F := flatA_of_wf n root .seq 1 (some 1) ls h
      simp only [wfFlat, Bool.and_eq_true, decide_eq_true_eq, List.all_eq_true] at h
      obtain ⟨⟨⟨_, hdis⟩, hok⟩, hlen⟩ := h
      obtain ⟨h1, h2⟩ := seq_exact F hok hlen w
      refine ⟨h1.trans ?_, h2⟩
      rw [Bool.eq_iff_iff, runSeq_lang ls hdis hok w, inModel, Rx.accepts_iff]
      exact (lang_rep_one _ w).symm
    · cases h
  · cases h

/-- the same through the specification `InModel` instead of the oracle -/
theorem visitor_exact_flat_sequence_lang (n : Nat) (p : Particle) (h : FlatSeq n p = true) (w : List QN) :
    verdict (mkArena n p.flatten) n p.pid w = true ↔ InModel p w := by
  rw [(visitor_exact_flat_sequence n p h w).1]
  unfold inModel InModel
  exact Rx.accepts_iff Leaf.matches p.toRx w

/-- **Fuel exhaustion is impossible on the fragment** (it is reported by the harness as a broken tie
    elsewhere). -/
theorem visitor_fuel_sufficient_flat_sequence (n : Nat) (p : Particle) (h : FlatSeq n p = true) (w : List QN) :
    (childErrors (mkArena n p.flatten) n p.pid w).fuelOut = false :=
  (visitor_exact_flat_sequence n p h w).2

/-- **Strict encode is complete for the content model**: whenever the validator's child loop accepts a
    child sequence, the encoder's child loop (same ModelVisitor, different loop: groups.py:1146-1181)
    reports no error for it either — for EVERY model, every open-content mode and every sequence.
    Converse of `C05.strict_encode_sound`. -/
theorem strict_encode_complete (A : Arena) (n root : Nat) (w : List QN) (oc : OC)
    (h : verdict A n root w oc = true) : encodeSilent A n root w oc = true := by
  obtain ⟨h0, h1, h2⟩ := (verdict_iff A n root w oc).mp h
  have e := loop_simulation_conv A oc n root w h1
  exact (encodeSilent_iff A n root w oc).mpr ⟨h0, e ▸ h1, e ▸ h2⟩

/-- strict encode raises for exactly the child sequences the validator rejects (content-model part),
    for every model and every word -/
theorem encodeSilent_eq_verdict (A : Arena) (n root : Nat) (w : List QN) (oc : OC) :
    encodeSilent A n root w oc = verdict A n root w oc := by
  cases hv : verdict A n root w oc
  · cases he : encodeSilent A n root w oc
    · rfl
    · rw [XsVerif.Props.C05.strict_encode_sound A n root w oc he] at hv; cases hv
  · exact strict_encode_complete A n root w oc hv

/-- on flat sequences strict encode is exact: it gets past the content model iff the emitted names are
    a word of the model -/
theorem encode_exact_flat_sequence (n : Nat) (p : Particle) (h : FlatSeq n p = true) (w : List QN) :
    encodeSilent (mkArena n p.flatten) n p.pid w = inModel p w := by
  rw [encodeSilent_eq_verdict, (visitor_exact_flat_sequence n p h w).1]

/-! ### the boundary: the group's own occurrence range

With `[glo, ghi] ≠ [1, 1]` on the group the full statement `verdict = inModel` is FALSE for the
library's algorithm already on flat sequences / choices of ONE leaf; the witnesses below are
kernel-evaluated on the port and replayed on the real code by harness/props/c01_exact.py
(each is an instance of the known finding C01-F0). -/

private def qa : QN := ⟨"urn:t", "a"⟩
private def qb : QN := ⟨"urn:t", "b"⟩
private def qc : QN := ⟨"urn:t", "c"⟩

def flatGroup (k : GKind) (glo : Nat) (ghi : Option Nat) (ls : List LeafSpec) : Particle :=
  .group 0 k glo ghi (ofSpecs ls)

/-- greedy split, smallest instance: `(a{2,3}){1,2}` (maxOccurs of the group = 2, a leaf range with
    2 ≤ lo < hi): `aaaa` = `aa·aa` is a word, the visitor takes `aaa` first and rejects -/
theorem flat_sequence_counterexample_group_max :
    inModel (flatGroup .seq 1 (some 2) [⟨1, [qa], 2, some 3⟩]) [qa, qa, qa, qa] = true ∧
    verdict (mkArena 2 (flatGroup .seq 1 (some 2) [⟨1, [qa], 2, some 3⟩]).flatten) 2 0 [qa, qa, qa, qa] = false := by
  decide +kernel

/-- emptiable leaf under minOccurs = 2 of the group: `(a?){2,2}` contains `a` (= `a·ε`), the visitor
    counts one occurrence of the group and rejects -/
theorem flat_sequence_counterexample_group_min :
    inModel (flatGroup .seq 2 (some 2) [⟨1, [qa], 0, some 1⟩]) [qa] = true ∧
    verdict (mkArena 2 (flatGroup .seq 2 (some 2) [⟨1, [qa], 0, some 1⟩]).flatten) 2 0 [qa] = false := by
  decide +kernel

/-- the same for a flat choice: `(a? | b){2,2}` contains `b` (= `b·ε`), the visitor rejects -/
theorem flat_choice_counterexample_group_min :
    inModel (flatGroup .choice 2 (some 2) [⟨1, [qa], 0, some 1⟩, ⟨2, [qb], 1, some 1⟩]) [qb] = true ∧
    verdict (mkArena 3 (flatGroup .choice 2 (some 2) [⟨1, [qa], 0, some 1⟩, ⟨2, [qb], 1, some 1⟩]).flatten) 3 0 [qb]
      = false := by
  decide +kernel

/-- a flat choice counts `ceil(run / hi)` occurrences of the group for a run of one leaf and never
    asks whether the run splits into blocks of `lo..hi`: `(a{3,4}){1,2}` does not contain `aaaaa`
    (3+3 > 5 > 4), the visitor accepts it -/
theorem flat_choice_counterexample_gap :
    inModel (flatGroup .choice 1 (some 2) [⟨1, [qa], 3, some 4⟩]) [qa, qa, qa, qa, qa] = false ∧
    verdict (mkArena 2 (flatGroup .choice 1 (some 2) [⟨1, [qa], 3, some 4⟩]).flatten) 2 0 [qa, qa, qa, qa, qa]
      = true := by
  decide +kernel

/-! ### non-vacuity -/

/-- `(a{2,3}, b?, c{0,0}, s*)` with a substitution-group leaf -/
def mSeq : Particle := flatGroup .seq 1 (some 1)
  [⟨1, [qa], 2, some 3⟩, ⟨2, [qb], 0, some 1⟩, ⟨3, [qc], 0, some 0⟩, ⟨4, [⟨"urn:t", "h"⟩, ⟨"urn:t", "s"⟩], 0, none⟩]

example : FlatSeq 5 mSeq = true := by decide +kernel
example : FlatSeq 1 (flatGroup .seq 1 (some 1) []) = true := by decide +kernel
example : verdict (mkArena 5 mSeq.flatten) 5 0 [qa, qa, qb, ⟨"urn:t", "s"⟩, ⟨"urn:t", "h"⟩] = true := by decide +kernel
example : verdict (mkArena 5 mSeq.flatten) 5 0 [qa, qb] = false := by decide +kernel
example : InModel mSeq [qa, qa, qa] := (visitor_exact_flat_sequence_lang 5 mSeq (by decide +kernel) _).mp (by decide +kernel)
example : encodeSilent (mkArena 5 mSeq.flatten) 5 0 [qa, qa, qb] = true := by decide +kernel
-- the fragment excludes what the boundary theorems use
example : FlatSeq 2 (flatGroup .seq 1 (some 2) [⟨1, [qa], 2, some 3⟩]) = false := by decide +kernel

end XsVerif.Props.C01Exact
