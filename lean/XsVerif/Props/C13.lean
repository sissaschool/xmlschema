/-
  C13 — defused parsing refuses every entity declaration before any expansion.
-/
import XsVerif.Model.Defuse
import XsVerif.Model.Prolog
import XsVerif.Model.OpenFlow
import XsVerif.Lemmas.Defuse
import XsVerif.Lemmas.Prolog
import XsVerif.Generated.C13

namespace XsVerif.Props.C13
open XsVerif.Defuse

def modeName : Mode → String
  | .never => "never" | .remote => "remote" | .nonlocal => "nonlocal" | .always => "always"

def allModes : List Mode := [.never, .remote, .nonlocal, .always]

/-- `DEFUSE_MODES` of xmlschema/arguments.py (regenerated on every run) = the constructors of `Mode` -/
theorem modes_exact :
    (allModes.map modeName).all (XsVerif.Generated.C13.defuseModes.contains ·) = true ∧
    XsVerif.Generated.C13.defuseModes.all ((allModes.map modeName).contains ·) = true ∧
    ∀ m : Mode, m ∈ allModes := by
  refine ⟨by decide, by decide, fun m => by cases m <;> decide⟩

/-- S: "always; or for non-local / remote data under the 'nonlocal' and 'remote' settings" -/
def Applies (m : Mode) (b : BaseClass) : Prop :=
  m = .always ∨ (m = .nonlocal ∧ b ≠ .loc) ∨ (m = .remote ∧ b = .remote)

theorem isDefused_iff_applies (m : Mode) (b : BaseClass) : isDefused m b = true ↔ Applies m b := by
  cases m <;> simp [isDefused, Applies]

/-- The stream reaches the parser without a scan exactly when defusing does not apply —
    for every mode, base class and channel, with or without the repairs of C13-F2 / C13-F3 (`Variant`). -/
theorem plan_noDefuse_iff (v : Variant) (m : Mode) (b : BaseClass) (ch : Chan) :
    plan v m b ch = .noDefuse ↔ isDefused m b = false :=
  ⟨fun e => Bool.eq_false_iff.mpr fun hd => plan_ne_noDefuse v m b ch hd e, fun h => by rw [plan, h]; rfl⟩

/-- When defusing applies, a document that must be refused never reaches the parser, on any
    channel: the outcome is the forbidden-resource error or (on channels that cannot be defused
    at all) a resource OS error raised before anything is parsed. -/
theorem defused_entities_never_parsed (v : Variant) (m : Mode) (b : BaseClass) (ch : Chan) (scanEnd bufLen : Nat)
    (h : isDefused m b = true) : outcome (plan v m b ch) true scanEnd bufLen ≠ .parsed :=
  fun hp => Bool.noConfusion ((outcome_parsed hp).2 (plan_ne_noDefuse v m b ch h))

/-- … and it is the forbidden-resource error on every channel except the one that `open`
    refuses outright (see `plan_refuse_iff`). -/
theorem defused_entities_forbidden (v : Variant) (m : Mode) (b : BaseClass) (ch : Chan) (scanEnd bufLen : Nat)
    (h : isDefused m b = true) (hr : plan v m b ch ≠ .refuse) :
    outcome (plan v m b ch) true scanEnd bufLen = .forbidden := by
  cases hpl : plan v m b ch with
  | noDefuse => exact absurd hpl (plan_ne_noDefuse v m b ch h)
  | refuse => exact absurd hpl hr
  | _ => rfl

/-- The refusing channel is exactly: not seekable, no URL to open a second time, and a stream that
    `defuse_xml` cannot wrap in a replay reader. -/
theorem plan_refuse_iff (v : Variant) (m : Mode) (b : BaseClass) (ch : Chan) :
    plan v m b ch = .refuse ↔
      isDefused m b = true ∧ ch.seekable = false ∧ ch.hasUrl = false ∧ wrappable v ch.io = false := by
  unfold plan
  cases isDefused m b
  · exact ⟨nofun, fun h => nomatch h.1⟩
  · cases ch.seekable
    · cases ch.hasUrl
      · cases wrappable v ch.io
        · exact ⟨fun _ => ⟨rfl, rfl, rfl, rfl⟩, fun _ => rfl⟩
        · simp only [Bool.not_false, Bool.or_true, Bool.and_true, if_true, Bool.not_true, Bool.false_eq_true,
            if_false]
          exact ⟨fun h => absurd h (wrap_ne _ (.inr (.inr rfl))), fun h => nomatch h.2.2.2⟩
      · simp only [Bool.not_true, Bool.false_eq_true, if_false, if_true]
        exact ⟨fun h => absurd h (ite_ne (wrap_ne _ (.inr (.inr rfl))) nofun), fun h => nomatch h.2.2.1⟩
    · exact ⟨nofun, fun h => nomatch h.2.1⟩

/-- without the repair of C13-F3 the refusing channel is: non-seekable text streams and non-seekable
    objects outside the io class hierarchy; with the repair of C13-F3 only the latter -/
theorem unwrappable_iff (v : Variant) (io : IoKind) :
    wrappable v io = false ↔ io = .other ∨ (io = .text ∧ v.wrapText = false) := by
  cases io <;> simp [wrappable]

/-- Where defusing does not apply the document always reaches the parser. -/
theorem undefused_transparent (v : Variant) (m : Mode) (b : BaseClass) (ch : Chan) (mr : Bool) (scanEnd bufLen : Nat)
    (h : isDefused m b = false) : outcome (plan v m b ch) mr scanEnd bufLen = .parsed := by
  rw [(plan_noDefuse_iff v m b ch).mpr h]; rfl

/-
  FULL STATEMENT (second sentence of the property), false for `Variant.current` (the tree before 185fe8c and
  7498b2c):
    theorem clean_parsed : isDefused m b = true → outcome (plan v m b ch) false scanEnd bufLen = .parsed
  It fails on two kinds of channels, both as safe refusals (see the counter-examples below, and
  `clean_parsed_iff` for the exact characterisation).  Non-seekable raw streams behave like buffered
  ones since 1d3fb41 (finding C13-F1).  For `Variant.repaired` — /repo since 185fe8c (C13-F2: the replay
  reader keeps all it reads until the first seek) and 7498b2c (C13-F3: non-seekable text streams are wrapped) —
  it holds for every stream of the io class hierarchy: `clean_parsed_repaired`.
-/

/-- decidable guard: the channels on which a clean document survives defusing -/
def cleanGuard (pl : Plan) (scanEnd bufLen : Nat) : Bool :=
  pl != .refuse && ((pl != .wrapBuffered && pl != .wrapRaw && pl != .wrapText) || decide (scanEnd ≤ bufLen))

/-- Documents without entity declarations are handed to the parser (from the start of the stream,
    see `scan_then_rewind`) on every channel satisfying the guard. -/
theorem clean_parsed_partial (v : Variant) (m : Mode) (b : BaseClass) (ch : Chan) (scanEnd bufLen : Nat)
    (hg : cleanGuard (plan v m b ch) scanEnd bufLen = true) :
    outcome (plan v m b ch) false scanEnd bufLen = .parsed := by
  generalize plan v m b ch = pl at hg ⊢
  cases pl with
  | refuse => cases hg
  | wrapRaw | wrapBuffered | wrapText => exact if_neg (Nat.not_lt.mpr (of_decide_eq_true hg))
  | _ => rfl

/-- C13-F2 on a raw stream: same buffer edge -/
theorem clean_refused_counterexample_raw_bigprolog :
    outcome (plan .current .always .absent ⟨false, .raw, false, false⟩) false 81820 65536 = .oserror := by decide

/-- C13-F2: a clean document on a non-seekable buffered stream whose first start tag lies beyond
    the 64 KiB buffer is refused -/
theorem clean_refused_counterexample_bigprolog :
    outcome (plan .current .always .absent ⟨false, .buffered, false, false⟩) false 81820 65536 = .oserror := by decide

/-- C13-F3: without the repair any document on a non-seekable text stream is refused -/
theorem clean_refused_counterexample_text :
    outcome (plan .current .always .absent ⟨false, .text, false, false⟩) false 100 65536 = .oserror := by decide

example : cleanGuard (plan .current .always .absent ⟨true, .buffered, false, false⟩) 100 65536 = true := by decide
example : isDefused .nonlocal .absent = true := by decide
example : plan .repaired .always .absent ⟨false, .text, false, false⟩ = .wrapText := by decide

/-! ## DefusableReader is a transparent, partially rewindable view of the byte stream -/

/-- outputs agree with the plain byte list, or stop at some point with an OS error: the reader
    never returns different bytes and never silently skips any -/
def Agrees (l ref : List Out) : Prop := l = ref ∨ ∃ k, l = ref.take k ++ [.oserror]

theorem Agrees.cons {l ref : List Out} (o : Out) (h : Agrees l ref) : Agrees (o :: l) (o :: ref) := by
  rcases h with rfl | ⟨k, rfl⟩
  · exact .inl rfl
  · exact .inr ⟨k + 1, rfl⟩

/-- Refinement: any script of read/seek/tell operations on the reader built over stream `s`
    behaves exactly like the same script on the byte list `s` with a cursor, up to the first
    OS error (for every stream, buffer size and script — unbounded; growing buffer or not). -/
theorem run_refines (s : List Nat) (ops : List Op) (r : Reader) (h : Inv s r) :
    Agrees (r.run ops) (absRun s ops r.pos) := by
  induction ops generalizing r with
  | nil => exact Or.inl rfl
  | cons op ops ih =>
    cases op with
    | read n =>
      rw [absRun_read h n]
      exact (ih _ (read_refines h n).2.inv).cons _
    | tell => exact (ih r h).cons _
    | seek p =>
      simp only [Reader.run, absRun]
      cases hs : r.seek p with
      | none => exact Or.inr ⟨0, rfl⟩
      | some r' =>
        obtain ⟨h1, h2, -, -⟩ := seek_refines h hs
        have := ih r' h1
        rw [h2] at this
        exact this.cons _

/-- … in particular the reader as `defuse_xml` builds it, for whatever the stream contains. -/
theorem init_refines (g : Bool) (size : Nat) (s : List Nat) (ops : List Op) :
    Agrees ((Reader.init g size s).run ops) (absRun s ops 0) :=
  run_refines s ops _ (init_inv g size s)

theorem rewind_of_inv {s : List Nat} {r r1 : Reader} (h : Inv s r) (hs : r.seek 0 = some r1) :
    (∀ ms, (r1.readMany ms).1 = s.take ms.sum) ∧ (r1.read none).1 = s ∧
    ∀ ops, Agrees (r1.run ops) (absRun s ops 0) := by
  obtain ⟨i1, i2, -⟩ := seek_refines h hs
  have hr := (read_refines i1 none).1
  have ha := fun ops => run_refines s ops r1 i1
  rw [i2] at hr ha
  exact ⟨fun ms => by have := (readMany_refines ms i1).1; rwa [i2] at this, hr, ha⟩

/-- After a scan that stayed within the buffer, `seek(0)` succeeds and the parser then
    receives exactly the original byte stream. -/
theorem scan_then_rewind (s : List Nat) (r : Reader) (h : Inv s r) (hp : r.pos ≤ r.buf.length) :
    ∃ r', r.seek 0 = some r' ∧ (r'.read none).1 = s := by
  have hs : r.seek 0 = some { r with pos := 0, grow := false } := by
    rw [Reader.seek, if_neg (Nat.not_lt_zero _), if_neg (Nat.not_lt.mpr hp)]
  exact ⟨_, hs, (rewind_of_inv h hs).2.1⟩

/-- A seek is refused exactly when the scan went beyond the buffer (or asks for a position beyond
    it): the bytes between are gone, and the reader says so instead of delivering a gap (C13-F2). -/
theorem seek_refused_iff (r : Reader) (p : Nat) :
    r.seek p = none ↔ r.buf.length < p ∨ r.buf.length < r.pos := by
  unfold Reader.seek
  by_cases h1 : r.buf.length < p <;> by_cases h2 : r.buf.length < r.pos <;> simp [h1, h2]

theorem rewind_refused_iff (r : Reader) : r.seek 0 = none ↔ r.buf.length < r.pos :=
  (seek_refused_iff r 0).trans ⟨fun h => h.resolve_left (Nat.not_lt_zero _), .inr⟩

example : (Reader.init false 8192 [1, 2, 3]).run [.read (some 2), .seek 0, .read none] =
    [.data [1, 2], .at 0, .data [1, 2, 3]] := by decide +kernel

/-! ## exactness of the rewind: the parser is fed EXACTLY the bytes the scan saw

  What seeded change C13-3 (`elif pos > self._buffer_size` instead of `self._pos` in
  DefusableReader.seek) broke.  `ks` = the sizes of the reads of the
  scan (pulldom blocks), `ms` = the sizes of the reads of the parser after the rewind. -/

/-- On the reader `defuse_xml` builds over ANY stream `s`: whatever reads the scan makes, if the rewind
    `seek(0)` succeeds then (1) the scan was fed exactly a prefix of the stream, (2) whatever block sizes the
    parser then uses it is fed exactly a prefix of the stream and (3) reading to the end delivers the whole
    stream: nothing skipped, nothing repeated. -/
theorem rewind_exact (s : List Nat) (g : Bool) (size : Nat) (ks ms : List Nat) (r1 : Reader)
    (hs : ((Reader.init g size s).readMany ks).2.seek 0 = some r1) :
    ((Reader.init g size s).readMany ks).1 = s.take ks.sum ∧
    (r1.readMany ms).1 = s.take ms.sum ∧ (r1.read none).1 = s := by
  obtain ⟨h1, h2⟩ := readMany_refines ks (init_inv g size s)
  obtain ⟨j1, j2, -⟩ := rewind_of_inv h2.inv hs
  exact ⟨h1, j1 ms, j2⟩

/-- … in particular, a parser that reads with the same block sizes as the scan receives the very
    same bytes. -/
theorem rewind_same_blocks (s : List Nat) (g : Bool) (size : Nat) (ks : List Nat) (r1 : Reader)
    (hs : ((Reader.init g size s).readMany ks).2.seek 0 = some r1) :
    (r1.readMany ks).1 = ((Reader.init g size s).readMany ks).1 := by
  obtain ⟨h1, h2, -⟩ := rewind_exact s g size ks ks r1 hs
  rw [h1, h2]

/-- The same for EVERY read/seek/tell history of the reader (not
    only a sequential scan): if the history raised no OS error and the rewind succeeds, every
    later script behaves as on the original stream from position 0 (up to a later OS error). -/
theorem rewind_exact_any_history (s : List Nat) (g : Bool) (size : Nat) (hist : List Op) (r r1 : Reader)
    (he : (Reader.init g size s).exec hist = some r) (hs : r.seek 0 = some r1) :
    (∀ ms, (r1.readMany ms).1 = s.take ms.sum) ∧ (r1.read none).1 = s ∧
    ∀ ops, Agrees (r1.run ops) (absRun s ops 0) :=
  rewind_of_inv (exec_inv hist (init_inv g size s) he) hs

/-- The guard that seeded change C13-3 replaced is necessary: with `seekSeeded` (the test on the
    target position instead of the current one) a reader that satisfies the invariant and has read
    beyond its buffer rewinds "successfully" and then delivers a stream with a gap. -/
example : Inv [1, 2, 3] ⟨[1], [], 3, false⟩ ∧
    (Reader.seekSeeded ⟨[1], [], 3, false⟩ 0).map (fun r => (r.read none).1) = some [1] ∧
    Reader.seek ⟨[1], [], 3, false⟩ 0 = none := by
  exact ⟨⟨[2, 3], rfl, .inr ⟨rfl, rfl⟩⟩, by decide, by decide⟩

example : ((Reader.init true 8192 [1, 2, 3, 4]).readMany [3]).2.seek 0 =
    some ⟨[1, 2, 3, 4], [], 0, false⟩ := by decide +kernel

/-- The repair of C13-F2: a reader whose buffer grows until the first
    seek can always be rewound after a sequential scan, however far the scan read. -/
theorem grow_scan_never_refused (s : List Nat) (size : Nat) (ks : List Nat) :
    ∃ r1, ((Reader.init true size s).readMany ks).2.seek 0 = some r1 ∧ (r1.read none).1 = s := by
  obtain ⟨-, h⟩ := readMany_refines ks (init_inv true size s)
  exact scan_then_rewind s _ h.inv (h.inv.pos_le_buf h.grow)

/-! ## the second sentence, with the scan end predicted instead of measured -/

/-- the position of the reader and the length of its buffer when the scan stops are the two
    numbers the outcome function compares (and the harness records at the real `seek(0)`) -/
theorem scan_state (g : Bool) (s : List Nat) (tagEnd : Nat) :
    ((Reader.init g bufferSize s).readBlocks (blocksFor tagEnd)).pos = scanEndOf s.length tagEnd ∧
    ((Reader.init g bufferSize s).readBlocks (blocksFor tagEnd)).buf.length = bufLenAfter g s.length tagEnd :=
  scan_init g s (blocksFor tagEnd)

/-- The scan of `k` blocks followed by `seek(0)` on the reader that `defuse_xml` builds over ANY
    stream `s` fails exactly when the reader has the fixed buffer, the stream is longer than the
    64 KiB buffer and the scan read beyond it. -/
theorem scan_rewind_refused_iff (g : Bool) (s : List Nat) (k : Nat) :
    ((Reader.init g bufferSize s).readBlocks k).seek 0 = none ↔
      g = false ∧ bufferSize < s.length ∧ bufferSize < k * blockSize := by
  rw [rewind_refused_iff, (scan_init g s k).1, (scan_init g s k).2]
  exact buf_lt_pos_iff g s.length (k * blockSize)

/-- `outcomeDoc` compares exactly the two quantities of the reader. -/
theorem outcomeDoc_reader (g : Bool) (s : List Nat) (tagEnd : Nat) :
    ((Reader.init g bufferSize s).readBlocks (blocksFor tagEnd)).seek 0 = none ↔
      bufLenAfter g s.length tagEnd < scanEndOf s.length tagEnd := by
  rw [rewind_refused_iff, (scan_state g s tagEnd).1, (scan_state g s tagEnd).2]

/-- Exact characterisation of the second sentence: when defusing applies, a document without
    entity declarations reaches the parser iff the channel is not the refusing one and, on
    non-seekable streams that go through a replay reader, the reader grows, or the document fits
    the 64 KiB buffer, or its first start tag ends within the first four blocks (65456 bytes). -/
theorem clean_parsed_iff (v : Variant) (m : Mode) (b : BaseClass) (ch : Chan) (total tagEnd : Nat)
    (h : isDefused m b = true) :
    outcomeDoc v (plan v m b ch) false total tagEnd = .parsed ↔
      plan v m b ch ≠ .refuse ∧
      ((plan v m b ch).wraps = true →
        growOf v (plan v m b ch) = true ∨ total ≤ bufferSize ∨ tagEnd ≤ 4 * blockSize) := by
  cases hpl : plan v m b ch with
  | noDefuse => exact absurd hpl (plan_ne_noDefuse v m b ch h)
  | refuse => exact ⟨nofun, fun h => absurd rfl h.1⟩
  | rewind | secondOpen => exact ⟨fun _ => ⟨nofun, nofun⟩, fun _ => rfl⟩
  | wrapRaw | wrapBuffered | wrapText =>
    refine (ite_eq_right_iff.trans ⟨fun h hc => (nomatch h hc), fun h hc => absurd hc h⟩).trans ?_
    exact (rewind_ok_iff _ total tagEnd).trans ⟨fun h => ⟨nofun, fun _ => h⟩, fun h => h.2 rfl⟩

/-- every document of at most 64 KiB without entity declarations is parsed on every channel
    except the refusing one -/
theorem clean_small_parsed (v : Variant) (m : Mode) (b : BaseClass) (ch : Chan) (total tagEnd : Nat)
    (h : isDefused m b = true) (hr : plan v m b ch ≠ .refuse) (hs : total ≤ bufferSize) :
    outcomeDoc v (plan v m b ch) false total tagEnd = .parsed :=
  (clean_parsed_iff v m b ch total tagEnd h).mpr ⟨hr, fun _ => Or.inr (Or.inl hs)⟩

/-- The second sentence at full strength for the repaired readers: when
    both replay readers grow, every document without entity declarations reaches the parser on
    every channel that is not refused outright; with the text repair the refused channel is only a non-seekable object
    outside the io class hierarchy without URL (`plan_refuse_iff`, `unwrappable_iff`). -/
theorem clean_parsed_repaired (v : Variant) (m : Mode) (b : BaseClass) (ch : Chan) (total tagEnd : Nat)
    (hb : v.growBuf = true) (ht : v.growText = true)
    (h : isDefused m b = true) (hr : plan v m b ch ≠ .refuse) :
    outcomeDoc v (plan v m b ch) false total tagEnd = .parsed := by
  refine (clean_parsed_iff v m b ch total tagEnd h).mpr ⟨hr, fun hw => Or.inl ?_⟩
  cases hpl : plan v m b ch <;> simp_all [Plan.wraps, growOf]

/-- … and on every stream of the io class hierarchy (binary or text, seekable or not) the repaired
    tree parses every clean document when defusing applies -/
theorem clean_parsed_repaired_streams (m : Mode) (b : BaseClass) (ch : Chan) (total tagEnd : Nat)
    (h : isDefused m b = true) (hio : ch.io ≠ .other) :
    outcomeDoc .repaired (plan .repaired m b ch) false total tagEnd = .parsed := by
  refine clean_parsed_repaired .repaired m b ch total tagEnd rfl rfl h ?_
  intro hr
  obtain ⟨-, -, -, hw⟩ := (plan_refuse_iff .repaired m b ch).mp hr
  rcases (unwrappable_iff .repaired ch.io).mp hw with e | ⟨-, e⟩
  · exact hio e
  · simp [Variant.repaired] at e

/-- C13-F2 with the numbers of the replayed witness (payload `big-comment-clean` as an instance:
    70036 bytes, first start tag ends at offset 70031); the repaired reader parses it -/
theorem clean_refused_counterexample_doc :
    outcomeDoc .current (plan .current .always .absent ⟨false, .buffered, false, false⟩) false 70036 70031 = .oserror ∧
    outcomeDoc .current (plan .current .always .absent ⟨false, .raw, false, false⟩) false 70036 70031 = .oserror ∧
    outcomeDoc .repaired (plan .repaired .always .absent ⟨false, .buffered, false, false⟩) false 70036 70031 = .parsed := by
  decide +kernel

example : outcomeDoc .current (plan .current .always .absent ⟨false, .raw, false, false⟩) false 70036 30 = .parsed := by decide
example : scanEndOf 70036 70031 = 70036 ∧ bufLenOf 70036 = 65536 ∧ bufLenAfter true 70036 70031 = 70036 := by decide
example : outcomeDoc .repaired (plan .repaired .always .absent ⟨false, .text, false, false⟩) false 70036 70031 = .parsed := by decide

/-! ## the prolog grammar: what the handlers of the safe parser react to -/

open XsVerif.Prolog

/-- For every prolog of the grammar (XML declaration, comments, PIs, DOCTYPE with external identifier and
    internal subset of ENTITY / NOTATION / ELEMENT / ATTLIST declarations, comments, PIs, PE references) followed by the start tag of the root
    element, the byte-level scanner reaches exactly the handler that the syntax tree says. -/
theorem classify_render (p : Prolog) (root : Bytes) (hwf : p.wf = true) (hr : startsTag root = true) :
    classify (p.render ++ root) = firstHandler p := by
  obtain ⟨bom, xd, m1, dt, m2⟩ := p
  simp only [Prolog.wf, Bool.and_eq_true] at hwf
  obtain ⟨⟨⟨hx, hm1⟩, hd⟩, hm2⟩ := hwf
  have hbom : run st0 (if bom then [239, 187, 191] else []) = st0 := by cases bom <;> rfl
  have hxd : run st0 (xmlDeclBytes xd) =
      .text { flags0 with sa := Prolog.standalone ⟨bom, xd, m1, dt, m2⟩ } false := by
    cases xd with
    | none => rfl
    | some x => exact run_xmlDecl x hx
  simp only [classify, Prolog.render, run_append, hbom, hxd, run_miscs _ m1 hm1]
  cases dt with
  | none =>
    rw [doctypeBytes, run_nil, run_miscs _ m2 hm2, run_startsTag _ root hr]
    rfl
  | some d =>
    rw [doctypeBytes, run_doctype _ d hd rfl]
    simp only [firstHandler, flags0]
    cases firstLive (Prolog.standalone ⟨bom, xd, m1, some d, m2⟩) true (d.subset.getD []) <;>
      simp only [run_done, verdictOf]

/-- The scanner never reports `malformed` on a rendered prolog (the verdict is always one of the
    four a handler can produce). -/
theorem render_never_malformed (p : Prolog) (root : Bytes) (hwf : p.wf = true) (hr : startsTag root = true) :
    classify (p.render ++ root) ≠ .malformed := by
  rw [classify_render p root hwf hr]
  unfold firstHandler
  cases p.doctype with
  | none => simp
  | some d =>
    simp only
    cases hfl : firstLive p.standalone true (d.subset.getD []) with
    | some v => exact (firstLive_some _ _ _ _ hfl).2.1
    | none => simp only; split <;> simp

/-- No false refusal: a prolog that declares no entity and has no external identifier reaches no
    handler — for every prolog, without guard (second sentence of the property, scanner side). -/
theorem clean_never_refused (p : Prolog) (root : Bytes) (hwf : p.wf = true) (hr : startsTag root = true)
    (hc : mustRefuse p = false) : classify (p.render ++ root) = .clean := by
  rw [classify_render p root hwf hr]
  unfold firstHandler
  unfold mustRefuse at hc
  cases hd : p.doctype with
  | none => rfl
  | some d =>
    simp only [hd, Bool.or_eq_false_iff] at hc
    simp only
    cases hfl : firstLive p.standalone true (d.subset.getD []) with
    | some v =>
      have := (firstLive_some _ _ _ _ hfl).2.2
      simp [hc.2] at this
    | none => simp [hc.1]

/-
  FULL STATEMENT (first sentence, scanner side), false for the parser configuration in use:
    theorem classify_render_mustRefuse : p.wf → startsTag root →
        (classify (p.render ++ root) != .clean) = mustRefuse p
  It fails for (a) standalone="yes" with an external identifier and no processed entity declaration
  (XML_PARAM_ENTITY_PARSING_UNLESS_STANDALONE: the external subset is not loaded, the handler is not
  reached) and (b) entity declarations that follow a reference to an undeclared parameter entity in
  a document that is not standalone (expat stops processing declarations, XML 1.0 §5.1).  In both
  cases nothing is expanded or fetched by the parser either.  Findings C13-F4 and C13-F5.
-/

/-- On regular prologs (no standalone="yes" together with an external identifier, no PE reference
    in the internal subset) a handler is reached exactly when the document declares an entity of
    any of the four kinds or references an external DTD subset. -/
theorem classify_render_mustRefuse_partial (p : Prolog) (root : Bytes) (hwf : p.wf = true)
    (hr : startsTag root = true) (hg : regular p = true) :
    (classify (p.render ++ root) != .clean) = mustRefuse p := by
  rw [classify_render p root hwf hr]
  unfold firstHandler mustRefuse
  unfold regular at hg
  cases hd : p.doctype with
  | none => rfl
  | some d =>
    simp only [hd, Bool.and_eq_true, Bool.not_eq_true', Bool.and_eq_false_iff] at hg
    simp only
    cases hfl : firstLive p.standalone true (d.subset.getD []) with
    | some v =>
      obtain ⟨h1, -, h3⟩ := firstLive_some _ _ _ _ hfl
      simp [h1, h3]
    | none =>
      have hne := firstLive_none_noEntity p.standalone _ hg.2 hfl
      simp only [hne, Bool.or_false]
      rcases hg.1 with hs | he
      · cases hx : d.ext.isSome <;> simp [hs]
      · simp [he]

/-- (a) `<?xml version="1.0" standalone="yes"?><!DOCTYPE r SYSTEM "x">` -/
def witnessStandalone : Prolog :=
  { bom := false, xmlDecl := some ⟨none, some true⟩, misc1 := [],
    doctype := some ⟨[114], some (.system ⟨.dq, [120]⟩), none⟩, misc2 := [] }

/-- (b) `<!DOCTYPE r [%p;<!ENTITY e "v">]>` -/
def witnessPeRef : Prolog :=
  { bom := false, xmlDecl := none, misc1 := [],
    doctype := some ⟨[114], none, some [.peRef [112], .entity false [101] (.value ⟨.dq, [118]⟩)]⟩, misc2 := [] }

/-- C13-F4: an external DTD subset referenced by a standalone="yes" document reaches no handler -/
theorem standalone_external_counterexample :
    witnessStandalone.wf = true ∧ mustRefuse witnessStandalone = true ∧
    classify (witnessStandalone.render ++ [60, 114, 47, 62]) = .clean := by decide +kernel

/-- C13-F5: an entity declared after a reference to an undeclared parameter entity reaches no handler -/
theorem entity_after_peref_counterexample :
    witnessPeRef.wf = true ∧ mustRefuse witnessPeRef = true ∧
    classify (witnessPeRef.render ++ [60, 114, 47, 62]) = .clean := by decide +kernel

/-- BOM, XML declaration with encoding, comment with a dash, DOCTYPE with PUBLIC identifier, ATTLIST default
    containing `>` and `]`, comment and PI containing `<!ENTITY`, external parameter entity -/
def samplePrology : Prolog :=
  { bom := true, xmlDecl := some ⟨some [85, 84, 70, 45, 56], some false⟩,
    misc1 := [.comment [32, 97, 45, 98, 32], .space [10]],
    doctype := some ⟨[114], some (.pub ⟨.dq, [45, 47, 47, 88]⟩ ⟨.sq, [120, 34, 121]⟩),
      some [.element [120] [40, 35, 80, 67, 68, 65, 84, 65, 41],
            .attlist [120] [⟨[97], [67, 68, 65, 84, 65], .lit ⟨.dq, [97, 62, 98, 93, 62]⟩⟩],
            .comment [60, 33, 69, 78, 84, 73, 84, 89, 32, 101, 32, 34, 120, 34, 62],
            .pi [112] [60, 33, 69, 78, 84, 73, 84, 89, 32, 63],
            .entity true [112, 101] (.ext (.system ⟨.dq, [117]⟩))]⟩,
    misc2 := [.pi [113] []] }

example : samplePrology.wf = true ∧ regular samplePrology = true ∧
    classify (samplePrology.render ++ [60, 114, 47, 62]) = .entity [112, 101] := by decide +kernel

def samplePrologyEv : Prolog :=
  { bom := false, xmlDecl := none, misc1 := [],
    doctype := some ⟨[114], some (.system ⟨.dq, [100]⟩),
      some [.entity false [101] (.value ⟨.dq, [118]⟩),
            .entity false [117] (.ndata (.system ⟨.dq, [103]⟩) [110]),
            .entity false [120] (.ext (.system ⟨.dq, [102]⟩)),
            .peRef [112],
            .entity false [122] (.value ⟨.dq, [119]⟩)]⟩, misc2 := [] }

/-! ## the event model: refusal at the first thing the parser would report; nothing expanded or
      fetched where no handler is reached (what IS guaranteed for C13-F4 / C13-F5) -/

/-- The verdict of the scan is read off the FIRST event of the
    prolog: the handlers of the safe parser raise at the first entity declaration the parser
    processes, or at the request for the external subset — before any later event. -/
theorem scan_verdict_is_first_event (p : Prolog) : firstHandler p = verdictOfEvents (prologEvents p) := by
  unfold firstHandler prologEvents XsVerif.Prolog.Prolog.liveEnts XsVerif.Prolog.Prolog.extRequested
  cases hd : p.doctype with
  | none => rfl
  | some d =>
    simp only [firstLive_eq_head]
    cases hl : XsVerif.Prolog.liveEnts p.standalone true (d.subset.getD []) with
    | nil => by_cases hx : (d.ext.isSome && !p.standalone) = true <;> simp [verdictOfEvents, hx]
    | cons e es => simp [verdictOfEvents]

/-- For every prolog of the grammar: the scan of the rendered document
    reaches a handler (the document is refused where defusing applies) iff the internal subset
    contains an entity declaration that the parser processes, or the DOCTYPE has an external
    identifier and the document is not standalone="yes" — i.e. iff the parser would report
    anything at all. -/
theorem scan_refuses_iff (p : Prolog) (root : Bytes) (hwf : p.wf = true) (hr : startsTag root = true) :
    classify (p.render ++ root) ≠ .clean ↔ p.liveEnts ≠ [] ∨ p.extRequested = true := by
  rw [classify_render p root hwf hr, scan_verdict_is_first_event]
  unfold prologEvents
  cases hl : p.liveEnts with
  | nil => by_cases hx : p.extRequested = true <;> simp [verdictOfEvents, hx]
  | cons e es =>
    have := (entityVerdict_ne_clean e.2.1 e.2.2).1
    simp [verdictOfEvents, this]

/-- C13-F4 and C13-F5 restated: whenever the scan reaches no handler —
    in particular for a standalone="yes" document with an external subset, and for entity
    declarations that follow a reference to an unreadable parameter entity — the parser processes
    no entity declaration, does not request the external subset, and EVERY entity reference in the
    content is an "undefined entity" error: nothing is expanded, nothing is fetched. -/
theorem clean_scan_nothing_hot (p : Prolog) (root : Bytes) (refs : List Bytes) (hwf : p.wf = true)
    (hr : startsTag root = true) (hc : classify (p.render ++ root) = .clean) :
    docEvents p refs = refs.map .undefinedRef := by
  have h : ¬ (p.liveEnts ≠ [] ∨ p.extRequested = true) := fun hh => ((scan_refuses_iff p root hwf hr).mpr hh) hc
  simp only [not_or, ne_eq, Decidable.not_not, Bool.not_eq_true] at h
  simp [docEvents, prologEvents, refEvent, h.1, h.2, lookupGeneral]

/-- … conversely: a document in which the parser would expand an entity or request the external
    subset is always refused by the scan, and (scan_verdict_is_first_event) at the first event. -/
theorem hot_implies_refused (p : Prolog) (root : Bytes) (refs : List Bytes) (e : PEv) (hwf : p.wf = true)
    (hr : startsTag root = true) (he : e ∈ docEvents p refs) (hh : e.hot = true) :
    classify (p.render ++ root) ≠ .clean := by
  intro hc
  rw [clean_scan_nothing_hot p root refs hwf hr hc] at he
  obtain ⟨n, -, rfl⟩ := List.mem_map.mp he
  simp [PEv.hot] at hh

example : docEvents witnessStandalone [[101]] = [.undefinedRef [101]] ∧
    docEvents witnessPeRef [[101]] = [.undefinedRef [101]] := by decide +kernel
example : docEvents samplePrologyEv [[101], [117], [120], [122]] =
    [.declared (.entity [101]), .declared (.unparsed [117]), .declared (.entity [120]), .extSubset,
     .expanded [101], .binaryRef [117], .undefinedRef [120], .undefinedRef [122]] := by decide +kernel

/-! ## first sentence, end to end: scanner verdict + decision table -/

/-- When defusing applies, a regular prolog that declares an entity or references an external
    subset never reaches the parser, whatever the channel. -/
theorem defused_prolog_never_parsed (v : Variant) (m : Mode) (b : BaseClass) (ch : Chan) (p : Prolog) (root : Bytes)
    (total tagEnd : Nat) (h : isDefused m b = true) (hwf : p.wf = true) (hr : startsTag root = true)
    (hg : regular p = true) (hm : mustRefuse p = true) :
    outcomeDoc v (plan v m b ch) (classify (p.render ++ root) != .clean) total tagEnd ≠ .parsed := by
  rw [classify_render_mustRefuse_partial p root hwf hr hg, hm]
  exact defused_entities_never_parsed v m b ch _ _ h

/-- In the trace of a schema build (main schema, includes, redefines,
    overrides, imports, nested to any depth), every resource that is handed to the parser while
    defusing applies to it was scanned immediately before, and is not a document that must be
    refused. -/
theorem every_parse_scanned (v : Variant) (m : Mode) (f : Forest) (pre post : List Ev) (r : Res)
    (ht : (build v m f).1 = pre ++ .parsed r :: post) (hd : isDefused m r.base = true) :
    r.mustRefuse = false ∧ ∃ pre', pre = pre' ++ [.scanned r] := by
  have h := build_ok v m f none
  rw [ht] at h
  obtain ⟨h1, ⟨-, h2⟩ | h2⟩ := okFrom_spec m r post hd pre none h
  · cases h2
  · exact ⟨h1, h2⟩

/-- a document that must be refused is never parsed in a build when defusing applies to it -/
theorem build_refused_never_parsed (v : Variant) (m : Mode) (f : Forest) (r : Res)
    (hd : isDefused m r.base = true) (hm : r.mustRefuse = true) : .parsed r ∉ (build v m f).1 := by
  intro hmem
  obtain ⟨pre, post, ht⟩ := List.append_of_mem hmem
  have := (every_parse_scanned v m f pre post r ht hd).1
  simp [hm] at this

/-- the included-schema role: a refused include (redefine, override) aborts the build of the
    including schema with the forbidden-resource error; nothing after it is loaded -/
theorem include_forbidden_raises (v : Variant) (m : Mode) (r : Res) (c s : Forest)
    (h : resOutcome v m r = .forbidden) :
    build v m (.cons r .incl c s) = (resEvents v m r, .raised .forbidden) := by
  rw [build_failed v m .incl c s (h ▸ nofun), h]
  rfl

/-- … and the main schema that includes it raises the same error -/
theorem main_include_forbidden_raises (v : Variant) (m : Mode) (r0 r : Res) (c s : Forest)
    (h0 : resOutcome v m r0 = .parsed) (h : resOutcome v m r = .forbidden) :
    (build v m (.cons r0 .main (.cons r .incl c s) .nil)).2 = .raised .forbidden := by
  rw [build, if_pos h0, include_forbidden_raises v m r c s h]
  rfl

/-- characterisation of the other role: a refused *import* is not loaded either, but the loader
    turns the error into a warning and goes on (loaders.py:188-201) -/
theorem import_forbidden_skipped (v : Variant) (m : Mode) (r : Res) (c s : Forest)
    (h : resOutcome v m r = .forbidden) :
    build v m (.cons r .imp c s) = (resEvents v m r ++ (build v m s).1, (build v m s).2) := by
  rw [build_failed v m .imp c s (h ▸ nofun), h]
  rfl

def resA : Res := ⟨0, .absent, ⟨true, .other, false, false⟩, false, 100, 40⟩
def resB : Res := ⟨1, .loc, ⟨true, .buffered, false, true⟩, false, 100, 40⟩
def resC : Res := ⟨2, .remote, ⟨false, .buffered, false, true⟩, true, 100, 40⟩

example : build .current .remote (.cons resA .main (.cons resB .incl (.cons resC .incl .nil .nil) .nil) .nil) =
    ([.opened resA, .parsed resA, .opened resB, .parsed resB, .opened resC, .scanned resC,
      .failed resC .forbidden], .raised .forbidden) := by decide +kernel

/-! ## the caller: a file-like source in ANY initial state

  `XMLResource.open()` itself: whatever position the stream is at when the library opens it (sniffed by
  the application, used before by another call), what the parser is fed is what the scan was fed.
  Seeded change C13-5 (no rewind before the scan when defusing applies) is what they exclude. -/

open XsVerif.OpenFlow

/-- For every stream (seekable or not, any content) and every initial
    position: the bytes the scan is fed are the bytes the parser is fed. -/
theorem open_scanned_eq_parsed (st : Stream) : st.scanned = st.parsed := by
  cases h : st.seekable <;> simp [Stream.scanned, Stream.parsed, Stream.afterGuard, Stream.parseFrom, h]

/-- … and for a seekable stream both are the WHOLE document, for every initial position. -/
theorem open_seekable_whole (st : Stream) (h : st.seekable = true) :
    st.scanned = st.data ∧ st.parsed = st.data := by
  simp [Stream.scanned, Stream.parsed, Stream.afterGuard, Stream.parseFrom, h]

/-- Whatever `open()` hands to the parser while defusing applies has itself gone through the scan
    and reached no handler. -/
theorem open_parsed_was_scanned (st : Stream) (b : List Nat) (h : openResult true st = some b) :
    b = st.scanned ∧ scanPasses (classify b) = true := by
  unfold openResult at h
  by_cases hp : scanPasses (classify st.scanned) = true
  · simp [hp] at h
    rw [open_scanned_eq_parsed]
    exact ⟨h.symm, by rw [← h, ← open_scanned_eq_parsed]; exact hp⟩
  · simp [hp] at h

/-- The initial position of a seekable stream has no influence on the result of `open()`. -/
theorem open_position_irrelevant (d : Bool) (st : Stream) (k : Nat) (h : st.seekable = true) :
    openResult d { st with pos := k } = openResult d st := by
  simp [openResult, Stream.scanned, Stream.parsed, Stream.afterGuard, Stream.parseFrom, h]

/-- A document of the grammar whose prolog reaches a handler is
    refused when it is given as a seekable stream at ANY position. -/
theorem open_refuses_at_any_position (p : Prolog) (root : Bytes) (k : Nat) (hwf : p.wf = true)
    (hr : startsTag root = true) (hne : firstHandler p ≠ .clean) :
    openResult true ⟨true, p.render ++ root, k⟩ = none := by
  have hm := render_never_malformed p root hwf hr
  have hs : Stream.scanned ⟨true, p.render ++ root, k⟩ = p.render ++ root := rfl
  rw [classify_render p root hwf hr] at hm
  rw [openResult, hs, classify_render p root hwf hr]
  cases hv : firstHandler p with
  | clean => exact absurd hv hne
  | malformed => exact absurd hv hm
  | _ => rfl

/-- a non-seekable stream at position `k` (`scanned` = the rest of the stream): the wrapper is built over it; after any
    scan and a successful rewind the parser is fed exactly `parsed` (instance of `rewind_exact`) -/
theorem open_nonseekable_exact (st : Stream) (g : Bool) (size : Nat) (ks : List Nat) (r1 : Reader)
    (hs : ((Reader.init g size st.scanned).readMany ks).2.seek 0 = some r1) :
    (r1.read none).1 = st.parsed := by
  rw [← open_scanned_eq_parsed]
  exact (rewind_exact st.scanned g size ks [] r1 hs).2.2

/-- `<!DOCTYPE r [<!ENTITY e "v">]><r/>` -/
def entityDoc : Bytes :=
  (⟨false, none, [], some ⟨[114], none, some [.entity false [101] (.value ⟨.dq, [118]⟩)]⟩, []⟩ : Prolog).render ++
    [60, 114, 47, 62]

/-- the code refuses the document at position 5; without the guard (seeded change C13-5) the scan
    starts at `CTYPE …`, ends in a syntax error that is swallowed, and the whole document — entity
    declaration included — goes to the parser -/
example : openResult true ⟨true, entityDoc, 5⟩ = none ∧
    openResultSeeded true ⟨true, entityDoc, 5⟩ = some entityDoc ∧
    classify entityDoc = .entity [101] := by decide +kernel
example : openResult true ⟨false, entityDoc, 30⟩ = some [60, 114, 47, 62] := by decide +kernel

/-! ## the caller: a file-like source that declares a URL is scanned ITSELF

  Seeded change C13-6 (the defuse decision of open() consults the `url` attribute of the given stream and
  scans a second resource opened from it) is what these exclude. -/

/-- a file-like source never takes the "double opening" branch -/
theorem given_never_second_open (v : Variant) (m : Mode) (b : BaseClass) (g : Given) :
    plan v m b g.chan ≠ .secondOpen :=
  fun e => Bool.false_ne_true (plan_secondOpen_hasUrl e)

/-- The bytes scanned (and the bytes parsed) do not depend on the
    URL the object declares nor on what is reachable at any URL. -/
theorem given_scan_ignores_declared_url (v : Variant) (m : Mode) (b : BaseClass) (web web' : Nat → List Nat)
    (g : Given) (u : Option Nat) :
    scanInput v m b web { g with declared := u } = scanInput v m b web' g ∧
    parseInput v m b { g with declared := u } = parseInput v m b g :=
  -- by unfolding: `Given.chan` does not read `declared`, and `web` is only applied to `selfUrl`, which is `none`
  ⟨rfl, rfl⟩

/-- When a stream is given and defusing applies, whatever reaches the
    parser is exactly what the scan was fed — the content of THAT stream (for a seekable one the
    whole of it, `open_seekable_whole`). -/
theorem given_scanned_is_parsed (v : Variant) (m : Mode) (b : BaseClass) (web : Nat → List Nat) (g : Given)
    (hd : isDefused m b = true) (bs : List Nat) (hp : parseInput v m b g = some bs) :
    scanInput v m b web g = some bs ∧ bs = g.st.scanned := by
  have h1 := given_never_second_open v m b g
  have h2 := plan_ne_noDefuse v m b g.chan hd
  unfold scanInput
  unfold parseInput at hp
  cases hpl : plan v m b g.chan <;> simp_all [open_scanned_eq_parsed]

/-- a source given as a URL: the double opening scans what the same URL delivers (equal to what is parsed
    as long as the location answers the same twice — the documented limit of that branch) -/
example (web : Nat → List Nat) (u : Nat) : urlScanInput web u = urlParseInput web u := rfl

/-- the seeded variant scans the content at the declared URL instead of the stream: a non-seekable
    buffered stream with a custom opener that declares URL 7 (clean content there) while it carries
    `entityDoc` itself -/
example :
    let g : Given := ⟨⟨false, entityDoc, 0⟩, .buffered, true, some 7⟩
    let web : Nat → List Nat := fun _ => [60, 114, 47, 62]
    scanInput .repaired .always .absent web g = some entityDoc ∧
    scanInputSeeded .repaired .always .absent web g = some [60, 114, 47, 62] ∧
    parseInput .repaired .always .absent g = some entityDoc := by decide +kernel

end XsVerif.Props.C13
