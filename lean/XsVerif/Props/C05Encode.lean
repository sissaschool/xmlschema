/-
  C05, clause "an encode call in strict mode either raises a validation error or returns XML that the
  same schema accepts" — the content-model part, proved on the ports of the two child loops
  (`XsdGroup.raw_encode` and `XsdGroup.raw_decode`) that drive the same ModelVisitor.
-/
import XsVerif.Props.C01

namespace XsVerif.CM
open XsVerif.Wildcard

section
variable (A : Arena) (oc : OC) (root i : Nat) (q : QN) (f : Nat) {L : LoopSt}

theorem encStep_ended (h : L.s.element = none) :
    encStep A oc root i q (f + 1) L = { L with errors := L.errors ++ [⟨i, root, 0⟩] } := by
  rw [encStep]
  simp only [h]

theorem encStep_matched {e : Nat} {sm : St} (h : L.s.element = some e)
    (hv : visitorMatchO A oc L.s q = (true, sm)) :
    encStep A oc root i q (f + 1) L =
      { L with s := (advanceO A oc sm true).st,
               errors := L.errors ++ (advanceO A oc sm true).errs.map fun e => ⟨i, e.particle, e.occurs⟩ } := by
  rw [encStep]
  simp only [h, hv, if_true]
  cases advanceO A oc sm true <;> rfl

theorem encStep_unmatched {e : Nat} {sm : St} (h : L.s.element = some e)
    (hv : visitorMatchO A oc L.s q = (false, sm)) :
    encStep A oc root i q (f + 1) L =
      encStep A oc root i q f
        { L with s := (advanceO A oc sm false).st,
                 errors := L.errors ++ (advanceO A oc sm false).errs.map fun e => ⟨i, e.particle, e.occurs⟩ } := by
  rw [encStep]
  simp only [h, hv, Bool.false_eq_true, if_false]
  cases advanceO A oc sm false <;> rfl

end

/-- the names loop of `encodeErrors` -/
def encLoop (A : Arena) (oc : OC) (n root : Nat) (w : List QN) : LoopSt :=
  w.zipIdx.foldl (fun L (x : QN × Nat) => encStep A oc root x.2 x.1 (4 * A.size + 8) L)
    { s := ocFix oc (init A n root) }

theorem encodeSilent_iff (A : Arena) (n root : Nat) (w : List QN) (oc : OC) :
    encodeSilent A n root w oc = true ↔ emptyChoiceRoot A root = false ∧ (encLoop A oc n root w).errors = [] ∧
      stopErr A oc (encLoop A oc n root w).s = none := by
  unfold encodeSilent encodeErrors encLoop stopErr
  simp only
  generalize List.foldl _ _ _ = L'
  simp only [Bool.and_eq_true, Bool.not_eq_true', List.isEmpty_iff, List.append_eq_nil_iff]
  refine and_congr_right fun _ => and_congr_right fun _ => ?_
  cases L'.s.element with
  | none => simp
  | some e =>
    simp only
    rcases stopFirst A oc (4 * A.size + 8) L'.s with ⟨_ | _, _⟩ <;> simp

end XsVerif.CM

namespace XsVerif.Props.C05
open XsVerif XsVerif.CM XsVerif.Wildcard

theorem encStep_extends (A : Arena) (oc : OC) (root i : Nat) (q : QN) :
    ∀ (fuel : Nat) (L : LoopSt), ∃ t, (encStep A oc root i q fuel L).errors = L.errors ++ t := by
  intro fuel
  induction fuel with
  | zero => intro L; exact ⟨_, rfl⟩
  | succ f ih =>
    intro L
    cases he : L.s.element with
    | none => rw [encStep_ended A oc root i q f he]; exact ⟨_, rfl⟩
    | some e =>
      rcases hv : visitorMatchO A oc L.s q with ⟨_ | _, sm⟩
      · rw [encStep_unmatched A oc root i q f he hv]
        obtain ⟨t, ht⟩ := ih { L with s := (advanceO A oc sm false).st, errors := L.errors ++
          (advanceO A oc sm false).errs.map fun e => ⟨i, e.particle, e.occurs⟩ }
        exact ⟨_, ht.trans (List.append_assoc _ _ _)⟩
      · rw [encStep_matched A oc root i q f he hv]; exact ⟨_, rfl⟩

theorem encStep_silent (A : Arena) (oc : OC) (root i : Nat) (q : QN) (fuel : Nat) {L : LoopSt}
    {l m : List ChildErr} (hL : L.errors = l ++ m) (h : (encStep A oc root i q fuel L).errors = l) : m = [] := by
  obtain ⟨t, ht⟩ := encStep_extends A oc root i q fuel L
  rw [ht, hL, List.append_assoc] at h
  exact (List.append_eq_nil_iff.mp (List.append_right_eq_self.mp h)).1

/-- **One step**: when the encoder's loop reports nothing for a name, the validator's loop does exactly
    the same thing with that child. -/
theorem step_simulation (A : Arena) (oc : OC) (n root i : Nat) (q : QN) :
    ∀ (fuel : Nat) (ls : LoopSt), (encStep A oc root i q fuel ls).errors = ls.errors →
      childStep A oc n root i q fuel ls = encStep A oc root i q fuel ls := by
  intro fuel
  induction fuel with
  | zero => intro L h; exact absurd (List.append_right_eq_self.mp h) (List.cons_ne_nil _ _)
  | succ f ih =>
    intro L h
    cases he : L.s.element with
    | none =>
      -- the model has ended: the encoder always reports an error
      rw [encStep_ended A oc root i q f he] at h
      exact absurd (List.append_right_eq_self.mp h) (List.cons_ne_nil _ _)
    | some e =>
      rcases hv : visitorMatchO A oc L.s q with ⟨_ | _, sm⟩
      · rw [encStep_unmatched A oc root i q f he hv] at h ⊢
        rw [childStep_unmatched A oc n root i q f he hv]
        -- `advance` reported no error, so both loops go round again
        have h0 := List.map_eq_nil_iff.mp (encStep_silent A oc root i q f rfl h)
        rw [h0, List.map_nil, List.append_nil] at h ⊢
        exact ih _ h
      · rw [encStep_matched A oc root i q f he hv, childStep_matched A oc n root i q f he hv]

theorem loop_simulation (A : Arena) (oc : OC) (n root : Nat) (w : List QN)
    (h : (encLoop A oc n root w).errors = []) : decLoop A oc n root w = encLoop A oc n root w :=
  foldl_eq_of_silent (fun _ => True) (fun L (x : QN × Nat) => encStep_extends A oc root x.2 x.1 _ L)
    (fun L x _ h => ⟨step_simulation A oc n root x.2 x.1 _ L h, trivial⟩) _ _ trivial h

/-- **Strict encode is sound for the content model**: if the encoder's child loop reports no error
    for the child names it emits (in strict mode any error is raised, so this is "encode returned"),
    then the validator's child loop accepts exactly that child sequence.  (Before fix 246d372 this needed the guard "the root is not
    an empty `choice` with minOccurs > 0": the encoder lacked the decoder's clause for it.) -/
theorem strict_encode_sound (A : Arena) (n root : Nat) (w : List QN) (oc : OC)
    (h : encodeSilent A n root w oc = true) : verdict A n root w oc = true := by
  obtain ⟨h0, h1, h2⟩ := (encodeSilent_iff A n root w oc).mp h
  -- the two loops end in the same state; the end-of-content errors differ only in their index
  have e := loop_simulation A oc n root w h1
  exact (verdict_iff A n root w oc).mpr ⟨h0, e ▸ h1, e ▸ h2⟩

/-- before fix 246d372 the encoder had no empty-choice clause: its child loop alone is silent on the
    empty sequence for an empty `choice` with minOccurs = 1, which the validator rejects -/
theorem strict_encode_counterexample_empty_choice :
    let A : Arena := mkArena 1 [(0, { kind := .choice, lo := 1, hi := some 1 })]
    (encodeErrors A 1 0 []).errors = [] ∧ verdict A 1 0 [] = false ∧ encodeSilent A 1 0 [] = false := by
  decide +kernel

/-! non-vacuity: a model and a word for which the encoder's loop is silent -/
private def qa : QN := ⟨"urn:t", "a"⟩
private def mSeq : Particle := .group 0 .seq 1 (some 1) (.cons (.leaf (.elem 1 [qa]) 1 (some 2)) .nil)
example : encodeSilent (mkArena 2 mSeq.flatten) 2 0 [qa, qa] = true := by decide +kernel
example : (encodeErrors (mkArena 2 mSeq.flatten) 2 0 [qa, qa, qa]).errors ≠ [] := by decide +kernel

end XsVerif.Props.C05
