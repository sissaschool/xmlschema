/-
  C19 — errors point at the offending node.

  The path attached to a validation error is `etree_getpath(elem, root, namespaces, relative=False,
  add_position=True)`.  Theorem `path_selects_unique`: for every tree and every element position, the path
  computed for that position selects, under the XPath child-step semantics, exactly that position — for
  trees of any size, depth and any repetition pattern of sibling names.
-/
import XsVerif.Model.Paths
import XsVerif.Lemmas.NsMapper
import XsVerif.Lemmas.Localise

namespace XsVerif.Props.C19
open XsVerif.Paths

/-- a position is valid when every index is within the children list on the way down -/
def Valid : T → List Nat → Prop
  | _, [] => True
  | .node _ ch, i :: is => ∃ c, ch[i]? = some c ∧ Valid c is

theorem idxOf_length_offset (name : String) (l : List T) (k k' : Nat) :
    (idxOf name l k).length = (idxOf name l k').length := by
  induction l generalizing k k' with
  | nil => rfl
  | cons c cs ih =>
    simp only [idxOf]
    split
    · simp only [List.length_cons]; rw [ih (k + 1) (k' + 1)]
    · exact ih _ _

theorem idxOf_split {l : List T} {i : Nat} {c : T} (k : Nat) (h : l[i]? = some c) :
    idxOf c.tag l k = idxOf c.tag (l.take i) k ++ (k + i) :: idxOf c.tag (l.drop (i + 1)) (k + i + 1) := by
  induction l generalizing i k with
  | nil => cases h
  | cons d cs ih =>
    cases i with
    | zero => cases h; rw [idxOf, if_pos rfl]; rfl
    | succ i =>
      rw [idxOf, List.take_succ_cons, List.drop_succ_cons, idxOf, ih (k + 1) h, Nat.add_right_comm k 1 i]
      split <;> rfl

theorem eq_nil_of_length_eq_one {α : Type} {A B : List α} {x : α} (h : (A ++ x :: B).length = 1) :
    A = [] ∧ B = [] := by
  rw [List.length_append, List.length_cons] at h
  exact ⟨List.eq_nil_of_length_eq_zero (by omega), List.eq_nil_of_length_eq_zero (by omega)⟩

theorem stepFor_spec {l : List T} {i : Nat} {s : Step} (h : stepFor l i = some s) :
    ∃ c A B, l[i]? = some c ∧ idxOf c.tag l 0 = A ++ i :: B ∧
      (s = ⟨c.tag, none⟩ ∧ A = [] ∧ B = [] ∨ s = ⟨c.tag, some (A.length + 1)⟩) := by
  unfold stepFor at h
  split at h
  · cases h
  · rename_i c hc
    have hs := idxOf_split 0 hc
    rw [Nat.zero_add] at hs
    refine ⟨c, _, _, hc, hs, ?_⟩
    cases h
    split
    · rename_i h1
      rw [hs] at h1
      exact .inl ⟨rfl, eq_nil_of_length_eq_one h1⟩
    · exact .inr rfl

theorem selectStep_stepFor (l : List T) (i : Nat) (s : Step) (h : stepFor l i = some s) :
    selectStep l s = [i] := by
  obtain ⟨c, A, B, _, hs, ⟨rfl, rfl, rfl⟩ | rfl⟩ := stepFor_spec h
  · exact hs
  · show (match (idxOf c.tag l 0)[A.length + 1 - 1]? with | some j => [j] | none => []) = [i]
    rw [hs, Nat.add_sub_cancel, List.getElem?_append_right (Nat.le_refl _), Nat.sub_self]
    rfl

theorem getSteps_cons {tag : String} {ch : List T} {i : Nat} {is : List Nat} {steps : List Step}
    (h : getSteps (.node tag ch) (i :: is) = some steps) :
    ∃ s c rest, stepFor ch i = some s ∧ ch[i]? = some c ∧ getSteps c is = some rest ∧ steps = s :: rest := by
  rw [getSteps] at h
  split at h
  · obtain ⟨rest, hr, rfl⟩ := Option.map_eq_some_iff.mp h
    exact ⟨_, _, rest, ‹_›, ‹_›, hr, rfl⟩
  · cases h

/-- **Every error path selects exactly the element it was computed for.** -/
theorem path_selects_unique (t : T) (pos : List Nat) (p : String × List Step)
    (h : getPath t pos = some p) : selectAbs t p = [pos] := by
  obtain ⟨steps, hs, rfl⟩ := Option.map_eq_some_iff.mp h
  rw [selectAbs, if_pos rfl]
  clear h
  induction pos generalizing t steps with
  | nil => cases t; cases hs; rfl
  | cons i is ih =>
    obtain ⟨tag, ch⟩ := t
    obtain ⟨s, c, rest, h1, h2, h3, rfl⟩ := getSteps_cons hs
    rw [select, selectStep_stepFor ch i s h1, List.flatMap_singleton, h2]
    show (select c rest).map (i :: ·) = _
    rw [ih c rest h3]
    rfl

/-- a path is computed for every valid position (the `None` outcome only for non-descendants) -/
theorem path_exists (t : T) (pos : List Nat) (h : Valid t pos) : ∃ p, getPath t pos = some p := by
  suffices ∃ s, getSteps t pos = some s by
    obtain ⟨s, hs⟩ := this
    exact ⟨_, congrArg (Option.map _) hs⟩
  induction pos generalizing t with
  | nil => exact ⟨[], by cases t; rfl⟩
  | cons i is ih =>
    obtain ⟨tag, ch⟩ := t
    obtain ⟨c, hc, hv⟩ := h
    obtain ⟨s, hs⟩ := ih c hv
    simp only [getSteps, stepFor, hc, hs]
    exact ⟨_, rfl⟩

theorem path_injective (t : T) (p1 p2 : List Nat) (p : String × List Step)
    (h1 : getPath t p1 = some p) (h2 : getPath t p2 = some p) : p1 = p2 := by
  have a := path_selects_unique t p1 p h1
  have b := path_selects_unique t p2 p h2
  rw [a] at b
  exact (List.cons.inj b).1

/-- b is the 2nd of three `b` children among other names: `/r/b[2]` selects position [2] only -/
example : let t := T.node "r" [.node "b" [], .node "a" [], .node "b" [.node "c" []], .node "b" []]
    getPath t [2, 0] = some ("r", [⟨"b", some 2⟩, ⟨"c", none⟩]) ∧
    selectAbs t ("r", [⟨"b", some 2⟩, ⟨"c", none⟩]) = [[2, 0]] ∧ Valid t [2, 0] := by
  refine ⟨by decide +kernel, by decide +kernel, ?_⟩
  exact ⟨_, rfl, _, rfl, trivial⟩


/-! ### names in the path: rendered with the error's namespace map, read back with the same map -/
open XsVerif.NsMapper

/-- how a reader of the path resolves a step name (XPath 2.0 with the default element namespace
    taken from the map's empty prefix — the convention of `XMLResource.find`/elementpath) -/
def resolveName (ns : Map) : PName → Option QN
  | .braced u l => some ⟨u, l⟩
  | .pre p l => match ns.get p with
    | some u => if u = "" then none else some ⟨u, l⟩
    | none => none
  | .loc l => match ns.get "" with
    | some d => some ⟨d, l⟩
    | none => some ⟨"", l⟩

theorem get_of_mem_filter {ns : Map} {u p : String} (hn : ns.Nodup)
    (h : p ∈ (ns.filter fun e => e.2 = u).map (·.1)) : ns.get p = some u := by
  obtain ⟨⟨a, b⟩, hm, rfl⟩ := List.mem_map.mp h
  rw [List.mem_filter, decide_eq_true_eq] at hm
  rw [Map.get_of_mem hn hm.1]
  exact congrArg some hm.2

theorem resolve_pre {ns : Map} {p u : String} (l : String) (h : ns.get p = some u) (h0 : u ≠ "") :
    resolveName ns (.pre p l) = some ⟨u, l⟩ := by
  simp only [resolveName, h, if_neg h0]

/-  Full statement (false for the code as it is, finding C19-F1):
      ∀ ns q, ns.Nodup → resolveName ns (renderName ns q) = some q
    A tag in no namespace is written as a bare local name; when the map binds the empty prefix the
    reader takes it into that namespace and the path selects nothing. -/
theorem render_resolves_partial (ns : Map) (q : QN) (hn : ns.Nodup)
    (hguard : q.ns = "" → ns.get "" = none ∨ ns.get "" = some "") :
    resolveName ns (renderName ns q) = some q := by
  obtain ⟨u, l⟩ := q
  by_cases h0 : u = ""
  · subst h0
    rw [renderName, if_pos rfl]
    rcases hguard rfl with h | h <;> simp only [resolveName, h]
  · rw [renderName, if_neg h0]
    by_cases he : ns.isEmpty = true
    · rw [if_pos he]; rfl
    · rw [if_neg he]
      generalize hP : (ns.filter fun e => e.2 = u).map (·.1) = P
      have hget : ∀ x ∈ P, ns.get x = some u := fun x hx => get_of_mem_filter hn (hP ▸ hx)
      match P, hget with
      | [], _ => rfl
      | p :: rest, hget =>
        show resolveName ns (if p ≠ "" then .pre p l else _) = _
        by_cases hp : p = ""
        · subst hp
          rw [if_neg (not_not_intro rfl)]
          cases rest with
          | nil => simp only [resolveName, hget "" List.mem_cons_self]
          | cons p2 _ => exact resolve_pre l (hget p2 (List.mem_cons_of_mem _ List.mem_cons_self)) h0
        · rw [if_pos hp]
          exact resolve_pre l (hget p List.mem_cons_self) h0

example : resolveName [("t", "urn:t")] (renderName [("t", "urn:t")] ⟨"urn:t", "item"⟩) = some ⟨"urn:t", "item"⟩ := by
  decide +kernel

/-- `<root xmlns="urn:t"><head xmlns=""><date>…`: the step for the no-namespace `date` is written
    `date` and read as `{urn:t}date`. -/
theorem render_counterexample :
    renderName [("", "urn:t")] ⟨"", "date"⟩ = .loc "date" ∧
    resolveName [("", "urn:t")] (.loc "date") = some ⟨"urn:t", "date"⟩ := by decide +kernel


/-! ## The fault-localisation clause

  "If a valid document is damaged at a single node, the document is reported invalid and at least one error is
  located at the damaged node or its parent, while no error is located outside the damaged node's ancestor chain
  and subtree" — for the compositional validator `Val` of Model/Localise.lean (the shape of
  elements.py:597-878 / groups.py:953-1087).  Modelling assumptions, all checked on the real code by the
  correspondence run (harness/props/c19.py, `hypotheses`):
    (H-own)  the errors an element owns are a function of its declaration, tag, attributes, character data and
             the names of its children                                  — built into `Val.pre`/`Val.post`;
    (H-gov)  `GovLocal`: the declaration of a child is a function of the parent's declaration, the parent's
             attributes and the child's name (false with a wildcard beside a same-named declaration:
             `gov_nonlocal_counterexample`, finding C19-F2);
    (H-eff)  `Effective`: the damaged site is governed (the run descends to it) and its own check rejects the
             damaged input (the catalogue damages "by construction"; that the content-model / datatype checks
             reject is the subject of C01/C07 and C11–C13). -/
open XsVerif.Localise

variable {D E : Type}

theorem getElem?_append_cons {α : Type} {l1 l2 : List α} {c x : α} {i : Nat} (h : (l1 ++ c :: l2)[i]? = some x) :
    i = l1.length ∨ x ∈ l1 ++ l2 := by
  induction l1 generalizing i with
  | nil =>
    cases i with
    | zero => exact .inl rfl
    | succ i => exact .inr (List.mem_of_getElem? h)
  | cons y ys ih =>
    cases i with
    | zero => cases h; exact .inr List.mem_cons_self
    | succ i => exact (ih h).imp (congrArg (· + 1)) (List.mem_cons_of_mem _)

section
variable {v : Val D E} {d dp dq : D} {t : Doc} {p q : List Nat} {tg : String} {a : Attrs} {tx : String}
  {cs : List Doc}

/-- (bad value, bad / missing / extra attribute) one error is located at the relabelled element, all of them at or
    below it; all of them at it when the new attributes leave the declarations of its children as they were. -/
theorem relabel_fault_localised {a' : Attrs} {tx' : String} (hv : errs v d t = [])
    (hr : reach v d t p = some (dp, .node tg a tx cs)) (heff : own v dp tg a' tx' (names cs) ≠ []) :
    (∃ e ∈ errs v d ((Fault.relabel p a' tx').apply t), e.1 = p) ∧
    (∀ e ∈ errs v d ((Fault.relabel p a' tx').apply t), p <+: e.1) ∧
    ((∀ j, v.gov dp a' (names cs) j = v.gov dp a (names cs) j) →
       ∀ e ∈ errs v d ((Fault.relabel p a' tx').apply t), e.1 = p) := by
  rw [Fault.apply, errs_editAt (setLabel a' tx') hv hr rfl]
  refine ⟨?_, ?_, ?_⟩
  · exact exists_mem_below (own_located heff)
  · intro e he
    obtain ⟨e0, _, rfl⟩ := mem_below.mp he
    exact List.prefix_append _ _
  · intro hg e he
    obtain ⟨e0, h0, rfl⟩ := mem_below.mp he
    rw [setLabel, errs_node, errsKids_congr_gov hg,
      kids_valid (reach_valid hv hr), List.append_nil, List.mem_append] at h0
    rcases h0 with h0 | h0 <;> rw [mem_here h0, List.append_nil]

/-- (extra child, misplaced child) under `GovLocal`, when the children `cs` of a governed element are replaced by
    `g cs = l1 ++ c :: l2` where `l1`, `l2` only contain former children: every error is located at that element or
    in the subtree of the new child `c`, and the element's own rejection surfaces at the element. -/
theorem child_fault_localised (hl : GovLocal v) (g : List Doc → List Doc) {l1 l2 : List Doc} {c : Doc}
    (hv : errs v d t = []) (hr : reach v d t q = some (dq, .node tg a tx cs))
    (hg : g cs = l1 ++ c :: l2) (hm : ∀ x ∈ l1 ++ l2, x ∈ cs) :
    (∀ e ∈ errs v d (editAt (setKids g) t q), e.1 = q ∨ (q ++ [l1.length]) <+: e.1) ∧
    (own v dq tg a tx (names (g cs)) ≠ [] → ∃ e ∈ errs v d (editAt (setKids g) t q), e.1 = q) := by
  rw [errs_editAt (setKids g) hv hr rfl]
  constructor
  · intro e he
    obtain ⟨e0, h0, rfl⟩ := mem_below.mp he
    rcases errs_newKids hl (reach_valid hv hr) (g cs) h0 with h | ⟨i, x, rest, hx, hnew, h⟩
    · exact .inl (by rw [h, List.append_nil])
    · rw [hg] at hx
      rcases getElem?_append_cons hx with hi | hmem
      · exact .inr ⟨rest, by rw [h, hi, List.append_assoc]; rfl⟩
      · exact absurd (hm x hmem) hnew
  · exact fun heff => exists_mem_below (own_located heff)

/-- (missing child, and any rearrangement of former children) under `GovLocal`, when the children of a governed
    element are replaced by a list of former children, every error is located at that element. -/
theorem child_removed_localised (hl : GovLocal v) (g : List Doc → List Doc) (hv : errs v d t = [])
    (hr : reach v d t q = some (dq, .node tg a tx cs)) (hm : ∀ x ∈ g cs, x ∈ cs) :
    (∀ e ∈ errs v d (editAt (setKids g) t q), e.1 = q) ∧
    (own v dq tg a tx (names (g cs)) ≠ [] → ∃ e ∈ errs v d (editAt (setKids g) t q), e.1 = q) := by
  rw [errs_editAt (setKids g) hv hr rfl]
  constructor
  · intro e he
    obtain ⟨e0, h0, rfl⟩ := mem_below.mp he
    rcases errs_newKids hl (reach_valid hv hr) (g cs) h0 with h | ⟨i, x, _, hx, hnew, _⟩
    · rw [h, List.append_nil]
    · exact absurd (hm x (List.mem_of_getElem? hx)) hnew
  · exact fun heff => exists_mem_below (own_located heff)

end

/-- (H-eff) the fault is effective: its site is governed in the valid document and the site's own check rejects
    the damaged input -/
def Effective (v : Val D E) (d : D) (t : Doc) : Fault → Prop
  | .relabel p a' tx' => ∃ dp tg a tx cs, reach v d t p = some (dp, .node tg a tx cs) ∧
      own v dp tg a' tx' (names cs) ≠ []
  | .insert q i c => ∃ dq tg a tx cs, reach v d t q = some (dq, .node tg a tx cs) ∧ i ≤ cs.length ∧
      own v dq tg a tx (names (insertAt i c cs)) ≠ []
  | .remove q i => ∃ dq tg a tx cs, reach v d t q = some (dq, .node tg a tx cs) ∧
      own v dq tg a tx (names (cs.eraseIdx i)) ≠ []
  | .move q i j => ∃ dq tg a tx cs, reach v d t q = some (dq, .node tg a tx cs) ∧ i < cs.length ∧
      own v dq tg a tx (names (moveTo i j cs)) ≠ []

theorem mem_moveTo {i j : Nat} {cs : List Doc} {x : Doc} (hx : x ∈ moveTo i j cs) : x ∈ cs := by
  unfold moveTo at hx
  split at hx
  · rename_i c hc
    rcases List.mem_append.mp hx with h | h
    · exact List.mem_of_mem_eraseIdx (List.mem_of_mem_take h)
    · rcases List.mem_cons.mp h with rfl | h
      · exact List.mem_of_getElem? hc
      · exact List.mem_of_mem_eraseIdx (List.mem_of_mem_drop h)
  · exact hx

/-- **Fault localisation** (the clause of C19, for every document, declaration, validator of the shape `Val` with a
    local choice of declarations, and every effective single-node fault of the catalogue):
    (a) the damaged document has at least one error, (b) some error is located at the damaged node or its parent,
    (c) every error is located in the damaged node's ancestor chain or subtree. -/
theorem single_fault_localised (v : Val D E) (hl : GovLocal v) (d : D) (t : Doc) (f : Fault)
    (hv : errs v d t = []) (heff : Effective v d t f) :
    errs v d (f.apply t) ≠ [] ∧
    (∃ e ∈ errs v d (f.apply t), near f.damaged e.1 = true) ∧
    (∀ e ∈ errs v d (f.apply t), inZone f.damaged e.1 = true) := by
  suffices h : (∃ e ∈ errs v d (f.apply t), near f.damaged e.1 = true) ∧
      (∀ e ∈ errs v d (f.apply t), inZone f.damaged e.1 = true) by
    obtain ⟨e, he, _⟩ := h.1
    exact ⟨List.ne_nil_of_mem he, h⟩
  cases f with
  | relabel p a' tx' =>
    obtain ⟨dp, tg, a, tx, cs, hr, ho⟩ := heff
    obtain ⟨⟨e, he, hp⟩, hz, _⟩ := relabel_fault_localised hv hr ho
    exact ⟨⟨e, he, near_self hp⟩, fun e he => inZone_of_prefix (hz e he)⟩
  | insert q i c =>
    obtain ⟨dq, tg, a, tx, cs, hr, hi, ho⟩ := heff
    obtain ⟨hz, hn⟩ := child_fault_localised hl (insertAt i c) (l1 := cs.take i) (l2 := cs.drop i) hv hr rfl
      (by rw [List.take_append_drop]; exact fun _ h => h)
    rw [List.length_take, Nat.min_eq_left hi] at hz
    obtain ⟨e, he, hq⟩ := hn ho
    refine ⟨⟨e, he, near_parent i hq⟩, fun e he => ?_⟩
    rcases hz e he with h | h
    · exact inZone_parent i h
    · exact inZone_of_prefix h
  | remove q i =>
    obtain ⟨dq, tg, a, tx, cs, hr, ho⟩ := heff
    obtain ⟨hz, hn⟩ := child_removed_localised hl (fun cs => cs.eraseIdx i) hv hr
      fun x hx => List.mem_of_mem_eraseIdx hx
    obtain ⟨e, he, hq⟩ := hn ho
    exact ⟨⟨e, he, near_self hq⟩, fun e he => inZone_self (hz e he)⟩
  | move q i j =>
    obtain ⟨dq, tg, a, tx, cs, hr, _, ho⟩ := heff
    obtain ⟨hz, hn⟩ := child_removed_localised hl (moveTo i j) hv hr fun _ => mem_moveTo
    obtain ⟨e, he, hq⟩ := hn ho
    exact ⟨⟨e, he, near_parent j hq⟩, fun e he => inZone_parent j (hz e he)⟩


/-- the validator denoted by observation tables chooses declarations locally, by construction -/
theorem tableVal_local (own : List OwnRow) (gov : List GovRow) : GovLocal (tableVal own gov) := by
  intro d a ns ns' j j' x h1 h2
  simp only [tableVal, h1, h2]

theorem ne_nil_of_not_isEmpty {α : Type} {l : List α} (h : (!l.isEmpty) = true) : l ≠ [] := by
  rintro rfl
  cases h

theorem effectiveB_sound (v : Val D E) (d : D) (t : Doc) (f : Fault) (h : effectiveB v d t f = true) :
    Effective v d t f := by
  cases f with
  | relabel p a' tx' =>
    rw [effectiveB] at h
    split at h
    · exact ⟨_, _, _, _, _, ‹_›, ne_nil_of_not_isEmpty h⟩
    · cases h
  | insert q i c =>
    rw [effectiveB] at h
    split at h
    · rw [Bool.and_eq_true, decide_eq_true_eq] at h
      exact ⟨_, _, _, _, _, ‹_›, h.1, ne_nil_of_not_isEmpty h.2⟩
    · cases h
  | remove q i =>
    rw [effectiveB] at h
    split at h
    · exact ⟨_, _, _, _, _, ‹_›, ne_nil_of_not_isEmpty h⟩
    · cases h
  | move q i j =>
    rw [effectiveB] at h
    split at h
    · rw [Bool.and_eq_true, decide_eq_true_eq] at h
      exact ⟨_, _, _, _, _, ‹_›, h.1, ne_nil_of_not_isEmpty h.2⟩
    · cases h

/-- **What the correspondence run instantiates**: for every pair of observation tables, every document the
    tables accept and every fault the tables make effective, the errors the tables predict for the damaged
    document satisfy the three clauses.  (The harness compares these predicted errors with the errors of the real
    validator, position by position and in order.) -/
theorem observed_fault_localised (own : List OwnRow) (gov : List GovRow) (d : Nat) (t : Doc) (f : Fault)
    (hv : errs (tableVal own gov) d t = []) (heff : effectiveB (tableVal own gov) d t f = true) :
    errs (tableVal own gov) d (f.apply t) ≠ [] ∧
    (∃ e ∈ errs (tableVal own gov) d (f.apply t), near f.damaged e.1 = true) ∧
    (∀ e ∈ errs (tableVal own gov) d (f.apply t), inZone f.damaged e.1 = true) :=
  single_fault_localised _ (tableVal_local own gov) d t f hv (effectiveB_sound _ d t f heff)

/-! ### non-vacuity -/

/-- `<r id=…>` with content `a` (an integer, declaration 1) then `b` (any text, declaration 2) -/
def vLoc : Val Nat String where
  pre := fun d _ at_ tx _ =>
    if d = 0 then (if at_.any (fun p => p.1 == "id") then [] else ["missing attribute id"])
    else if d = 1 then (if tx = "foo" then ["not an integer"] else [])
    else []
  post := fun d _ _ _ ns => if d = 0 then (if ns = ["a", "b"] then [] else ["children"]) else []
  gov := fun d _ ns j =>
    if d = 0 then (match ns[j]? with
      | some x => if x = "a" then some 1 else if x = "b" then some 2 else none
      | none => none)
    else none

def tLoc : Doc := .node "r" [("id", "7")] "" [.node "a" [] "1" [], .node "b" [] "x" []]

theorem vLoc_local : GovLocal vLoc := by
  intro d a ns ns' j j' x h1 h2
  simp only [vLoc, h1, h2]

example : GovLocal vLoc ∧ errs vLoc 0 tLoc = [] ∧
    Effective vLoc 0 tLoc (.relabel [0] [] "foo") ∧
    Effective vLoc 0 tLoc (.insert [] 1 (.node "zzz" [] "" [])) ∧
    Effective vLoc 0 tLoc (.remove [] 0) ∧
    Effective vLoc 0 tLoc (.move [] 0 1) ∧
    errs vLoc 0 ((Fault.relabel [0] [] "foo").apply tLoc) = [([0], "not an integer")] ∧
    errs vLoc 0 ((Fault.insert [] 1 (.node "zzz" [] "" [])).apply tLoc) = [([], "children")] ∧
    errs vLoc 0 ((Fault.move [] 0 1).apply tLoc) = [([], "children")] := by
  refine ⟨vLoc_local, by decide +kernel, ⟨1, "a", [], "1", [], rfl, by decide +kernel⟩,
    ⟨0, "r", [("id", "7")], "", _, rfl, by decide +kernel, by decide +kernel⟩,
    ⟨0, "r", [("id", "7")], "", _, rfl, by decide +kernel⟩,
    ⟨0, "r", [("id", "7")], "", _, rfl, by decide +kernel, by decide +kernel⟩, by decide +kernel, by decide +kernel, by decide +kernel⟩

/-  Full statement without (H-gov) — false for the code as it is (finding C19-F2):
      ∀ v d t f, errs v d t = [] → Effective v d t f → ∀ e ∈ errs v d (f.apply t), inZone f.damaged e.1
    groups.py:1013-1041: once the content model is broken the declaration of the remaining children is looked up
    by name (`self.match_element`), not by the model; with `sequence(a : xs:int, any*)` the second `a` of
    `<r><a>1</a><a>foo</a></r>` is matched by the wildcard, but after an extra first child it is validated against
    `a : xs:int` and an error appears at a sibling of the damaged node. -/
def vWild : Val Nat String where
  pre := fun d _ _ tx _ => if d = 1 then (if tx = "foo" then ["not an integer"] else []) else []
  post := fun d _ _ _ ns => if d = 0 then (if ns[0]? = some "a" then [] else ["children"]) else []
  gov := fun d _ ns j =>
    if d = 0 then
      (if ns[0]? = some "a" then (if j = 0 then some 1 else none)
       else if ns[j]? = some "a" then some 1 else none)
    else none

def tWild : Doc := .node "r" [] "" [.node "a" [] "1" [], .node "a" [] "foo" []]

theorem gov_nonlocal_counterexample :
    ¬ GovLocal vWild ∧ errs vWild 0 tWild = [] ∧
    Effective vWild 0 tWild (.insert [] 0 (.node "zzz" [] "" [])) ∧
    errs vWild 0 ((Fault.insert [] 0 (.node "zzz" [] "" [])).apply tWild)
      = [([2], "not an integer"), ([], "children")] ∧
    inZone (Fault.insert [] 0 (.node "zzz" [] "" [])).damaged [2] = false := by
  refine ⟨fun h => ?_, by decide +kernel, ⟨0, "r", [], "", _, rfl, by decide +kernel, by decide +kernel⟩, by decide +kernel, by decide +kernel⟩
  have := h 0 [] ["a", "a"] ["zzz", "a", "a"] 1 2 "a" rfl rfl
  revert this
  decide +kernel

theorem toTs_eq_map (r : String → String) (cs : List Doc) : toTs r cs = cs.map (toT r) := by
  induction cs with
  | nil => rfl
  | cons c cs ih => rw [toTs, ih, List.map_cons]

theorem isPos_valid (r : String → String) {t : Doc} {p : List Nat} (h : IsPos t p) : Valid (toT r t) p := by
  induction p generalizing t with
  | nil => cases t; exact trivial
  | cons i is ih =>
    obtain ⟨tg, a, tx, cs⟩ := t
    obtain ⟨c, hc, hp⟩ := h
    exact ⟨toT r c, by rw [toTs_eq_map, List.getElem?_map, hc]; rfl, ih hp⟩

/-- **For every validator of the shape `Val`, every document and every reported error: `etree_getpath` computes a
    path for the error's element and that path selects exactly that element** (whatever the rendering `r` of the
    tags). -/
theorem error_paths_locate (v : Val D E) (d : D) (t : Doc) (r : String → String) (e : Located E)
    (he : e ∈ errs v d t) :
    ∃ path, getPath (toT r t) e.1 = some path ∧ selectAbs (toT r t) path = [e.1] := by
  obtain ⟨path, hp⟩ := path_exists (toT r t) e.1 (isPos_valid r (errs_pos v t d e he))
  exact ⟨path, hp, path_selects_unique _ _ _ hp⟩

/-- **The clause of C19 in terms of paths**: after an effective single-node fault, some error carries a path that
    selects exactly the damaged node or exactly its parent, and the path of every error selects exactly one node,
    which lies in the damaged node's ancestor chain or subtree. -/
theorem single_fault_paths_locate (v : Val D E) (hl : GovLocal v) (d : D) (t : Doc) (f : Fault)
    (r : String → String) (hv : errs v d t = []) (heff : Effective v d t f) :
    (∃ e ∈ errs v d (f.apply t), ∃ path, getPath (toT r (f.apply t)) e.1 = some path ∧
        (selectAbs (toT r (f.apply t)) path = [f.damaged] ∨
         selectAbs (toT r (f.apply t)) path = [f.damaged.dropLast])) ∧
    (∀ e ∈ errs v d (f.apply t), ∃ path n, getPath (toT r (f.apply t)) e.1 = some path ∧
        selectAbs (toT r (f.apply t)) path = [n] ∧ inZone f.damaged n = true) := by
  obtain ⟨_, ⟨e, he, hn⟩, hz⟩ := single_fault_localised v hl d t f hv heff
  constructor
  · obtain ⟨path, hp, hs⟩ := error_paths_locate v d (f.apply t) r e he
    refine ⟨e, he, path, hp, ?_⟩
    rw [hs]
    exact (near_iff.mp hn).imp (congrArg (· :: [])) (congrArg (· :: []))
  · intro e he
    obtain ⟨path, hp, hs⟩ := error_paths_locate v d (f.apply t) r e he
    exact ⟨path, e.1, hp, hs, hz e he⟩

example : ∃ e ∈ errs vLoc 0 ((Fault.relabel [0] [] "foo").apply tLoc),
    getPath (toT id ((Fault.relabel [0] [] "foo").apply tLoc)) e.1 = some ("r", [⟨"a", none⟩]) :=
  ⟨([0], "not an integer"), by decide +kernel, by decide +kernel⟩

/-! ## Lazy resources: what `error.path` of a pruned tree selects

  For a lazy resource the path is computed on the tree as it is when the error is created
  (`lazyState`: yielded depth-level elements cleared, elements not yet read by the parser absent). -/

theorem selectStep_pre {cs' cs : List T} {i : Nat} {s : Step} (hp : preF cs' cs = true)
    (h : stepFor cs' i = some s) : i ∈ selectStep cs s := by
  obtain ⟨c, A, B, _, hs, hcase⟩ := stepFor_spec h
  -- the children with the name of child `i` in the cut are a prefix of those in the document, so the rank
  -- computed in the cut still finds `i` there (and a step without predicate selects it among others)
  obtain ⟨C, hC⟩ := idxOf_preF c.tag hp 0
  rw [hs] at hC
  obtain ⟨rfl, rfl, rfl⟩ | rfl := hcase
  · show i ∈ idxOf c.tag cs 0
    rw [hC]
    exact List.mem_cons_self
  · show i ∈ (match (idxOf c.tag cs 0)[A.length + 1 - 1]? with | some j => [j] | none => [])
    rw [hC, Nat.add_sub_cancel, List.append_assoc, List.getElem?_append_right (Nat.le_refl _), Nat.sub_self]
    exact List.mem_singleton_self i

/-- **A lazy error path always selects the error's element in the full document** (possibly together with other
    elements: see `lazy_path_counterexample`): `t'` any prefix cut of the document `t`. -/
theorem lazy_path_contains (t' t : T) (pos : List Nat) (p : String × List Step)
    (hpre : pre t' t = true) (h : getPath t' pos = some p) : pos ∈ selectAbs t p := by
  obtain ⟨steps, hs, rfl⟩ := Option.map_eq_some_iff.mp h
  rw [selectAbs, if_pos (pre_tag hpre)]
  clear h
  induction pos generalizing t' t steps with
  | nil => cases t'; cases hs; cases t; exact List.mem_singleton_self _
  | cons i is ih =>
    obtain ⟨tg', ch'⟩ := t'
    obtain ⟨tg, ch⟩ := t
    obtain ⟨s, c', rest, h1, h2, h3, rfl⟩ := getSteps_cons hs
    obtain ⟨c, hc, hcp⟩ := preF_get (pre_node.mp hpre).2 h2
    rw [select, List.mem_flatMap]
    refine ⟨i, selectStep_pre (pre_node.mp hpre).2 h1, ?_⟩
    rw [hc]
    exact List.mem_map.mpr ⟨is, ih c' c hcp rest h3, rfl⟩

/-- … in particular for every state a lazy resource goes through -/
theorem lazy_state_path_contains (k done n : Nat) (t t' : T) (pos : List Nat) (p : String × List Step)
    (hs : lazyState k done n t = some t') (h : getPath t' pos = some p) : pos ∈ selectAbs t p :=
  lazy_path_contains t' t pos p (lazyState_pre k done n t t' hs) h

theorem idxOf_tags (name : String) {l l' : List T} (k : Nat) (h : l.map T.tag = l'.map T.tag) :
    idxOf name l k = idxOf name l' k := by
  induction l generalizing l' k with
  | nil => cases l' with
    | nil => rfl
    | cons _ _ => cases h
  | cons c cs ih =>
    cases l' with
    | nil => cases h
    | cons c' cs' =>
      rw [List.map_cons, List.map_cons, List.cons.injEq] at h
      rw [idxOf, idxOf, h.1, ih (k + 1) h.2]

theorem stepFor_tags {l l' : List T} (i : Nat) (h : l.map T.tag = l'.map T.tag) :
    stepFor l i = stepFor l' i := by
  have hi : (l[i]?).map T.tag = (l'[i]?).map T.tag := by
    rw [← List.getElem?_map, h, List.getElem?_map]
  have ht : (l.take i).map T.tag = (l'.take i).map T.tag := by
    rw [List.map_take, h, List.map_take]
  unfold stepFor
  cases h1 : l[i]? with
  | none =>
    cases h2 : l'[i]? with
    | none => rfl
    | some c' => rw [h1, h2] at hi; cases hi
  | some c =>
    cases h2 : l'[i]? with
    | none => rw [h1, h2] at hi; cases hi
    | some c' =>
      rw [h1, h2] at hi
      simp only [Option.some.inj hi, idxOf_tags c'.tag 0 ht, idxOf_tags c'.tag 0 h]

/-  Full statement (false for the code as it is): the path of a lazy error selects exactly its element in the
    document, `∀ t' t pos p, pre t' t → getPath t' pos = some p → selectAbs t p = [pos]`.
    Proved under the guard `completeAlong` (on the way to the element no sibling is missing in the lazy state). -/
theorem lazy_path_exact_partial (t' t : T) (pos : List Nat) (hc : completeAlong t' t pos = true)
    (htag : t'.tag = t.tag) : getPath t' pos = getPath t pos := by
  unfold getPath
  rw [htag]
  congr 1
  clear htag
  induction pos generalizing t' t with
  | nil => cases t'; cases t; rfl
  | cons i is ih =>
    obtain ⟨tg', ch'⟩ := t'
    obtain ⟨tg, ch⟩ := t
    rw [completeAlong, Bool.and_eq_true, beq_iff_eq] at hc
    rw [getSteps, getSteps, stepFor_tags i hc.1]
    split at hc
    · rename_i c' c h2 h3
      rw [h2, h3]
      cases stepFor ch i with
      | none => rfl
      | some s => exact congrArg (Option.map (s :: ·)) (ih c' c hc.2)
    · cases hc.2

example : completeAlong (.node "r" [.node "a" [], .node "b" [.node "c" []]])
    (.node "r" [.node "a" [.node "x" []], .node "b" [.node "c" []]]) [1, 0] = true := by decide +kernel

/-- the first of two `item`s is being validated at lazy depth 2 while the parser has read 4 elements
    (`r`, `item`, `q`, `q`): the path of the second `q` is `/r/item/q[2]`, which selects two elements of the
    document (replayed on the real code by the harness with a document larger than the parser's read block). -/
theorem lazy_path_counterexample :
    let t := T.node "r" [.node "item" [.node "q" [], .node "q" []], .node "item" [.node "q" [], .node "q" []]]
    lazyState 2 0 4 t = some (.node "r" [.node "item" [.node "q" [], .node "q" []]]) ∧
    getPath (.node "r" [.node "item" [.node "q" [], .node "q" []]]) [0, 1]
      = some ("r", [⟨"item", none⟩, ⟨"q", some 2⟩]) ∧
    selectAbs t ("r", [⟨"item", none⟩, ⟨"q", some 2⟩]) = [[0, 1], [1, 1]] := by
  intro t
  exact ⟨rfl, by decide +kernel, by decide +kernel⟩

end XsVerif.Props.C19
