/-
  C03 — the simple-type parameters made concrete.  `Props/C03.lean` proves the attribute-set theorems for an
  arbitrary `Sem` (type validity + the fixed-value test) under the hypothesis that the test is reflexive.
  Here `Sem` is `AttrTypes.semCat` — the port of what `XsdAttribute.raw_decode` computes for the catalogue
  types of the run.
-/
import XsVerif.Props.C03
import XsVerif.Model.AttrTypes
import XsVerif.Lemmas.DatatypesWs

namespace XsVerif.Props.C03Types
open XsVerif.Wildcard XsVerif.Attributes XsVerif.AttrTypes XsVerif.Datatypes XsVerif.Props.C03

/-! ## the fixed-value test is an equivalence relation -/

theorem eqv_iff (a b : Dec) : a.eqv b = true ↔ a.toInt * (10 : Int) ^ b.scale = b.toInt * (10 : Int) ^ a.scale := by
  unfold Dec.eqv; simp

theorem eqv_refl (a : Dec) : a.eqv a = true := (eqv_iff a a).mpr rfl

theorem eqv_symm {a b : Dec} (h : a.eqv b = true) : b.eqv a = true :=
  (eqv_iff b a).mpr ((eqv_iff a b).mp h).symm

theorem eqv_trans {a b c : Dec} (h1 : a.eqv b = true) (h2 : b.eqv c = true) : a.eqv c = true := by
  rw [eqv_iff] at *
  refine Int.eq_of_mul_eq_mul_right (a := (10 : Int) ^ b.scale) (Int.pow_ne_zero (by decide)) ?_
  rw [Int.mul_right_comm, h1, Int.mul_right_comm, h2, Int.mul_right_comm]

theorem av_refl (a : AV) : a.pyEq a = true := by
  cases a
  case dec d => exact eqv_refl d
  all_goals exact beq_self_eq_true _

theorem av_symm {a b : AV} (h : a.pyEq b = true) : b.pyEq a = true := by
  -- values of different kinds are never equal: `cases h` closes the mixed cases
  cases a <;> cases b <;> first | cases h | skip
  case dec.dec => exact eqv_symm h
  all_goals exact beq_iff_eq.mpr (eq_of_beq h).symm

theorem av_trans {a b c : AV} (h1 : a.pyEq b = true) (h2 : b.pyEq c = true) : a.pyEq c = true := by
  cases a <;> cases b <;> first | cases h1 | (cases c <;> first | cases h2 | skip)
  case dec.dec.dec => exact eqv_trans h1 h2
  all_goals exact beq_iff_eq.mpr ((eq_of_beq h1).trans (eq_of_beq h2))

theorem listPyEq_cons {x y : AV} {xs ys : List AV} :
    listPyEq (x :: xs) (y :: ys) = true ↔ x.pyEq y = true ∧ listPyEq xs ys = true :=
  Bool.and_eq_true_iff

theorem list_refl : ∀ l : List AV, listPyEq l l = true
  | [] => rfl
  | a :: t => listPyEq_cons.mpr ⟨av_refl a, list_refl t⟩

theorem list_symm : ∀ {a b : List AV}, listPyEq a b = true → listPyEq b a = true
  | [], [], _ => rfl
  | [], _ :: _, h => nomatch h
  | _ :: _, [], h => nomatch h
  | _ :: _, _ :: _, h =>
    listPyEq_cons.mpr ⟨av_symm (listPyEq_cons.mp h).1, list_symm (listPyEq_cons.mp h).2⟩

theorem list_trans : ∀ {a b c : List AV}, listPyEq a b = true → listPyEq b c = true → listPyEq a c = true
  | [], [], _, _, h => h
  | [], _ :: _, _, h, _ => nomatch h
  | _ :: _, [], _, h, _ => nomatch h
  | _ :: _, _ :: _, [], _, h => nomatch h
  | _ :: _, _ :: _, _ :: _, h1, h2 =>
    listPyEq_cons.mpr ⟨av_trans (listPyEq_cons.mp h1).1 (listPyEq_cons.mp h2).1,
      list_trans (listPyEq_cons.mp h1).2 (listPyEq_cons.mp h2).2⟩

theorem sv_refl (a : SV) : a.pyEq a = true := by
  cases a
  · exact av_refl _
  · exact list_refl _

theorem sv_symm {a b : SV} (h : a.pyEq b = true) : b.pyEq a = true := by
  cases a <;> cases b <;> first | cases h | skip
  · exact av_symm h
  · exact list_symm h

theorem sv_trans {a b c : SV} (h1 : a.pyEq b = true) (h2 : b.pyEq c = true) : a.pyEq c = true := by
  cases a <;> cases b <;> first | cases h1 | (cases c <;> first | cases h2 | skip)
  · exact av_trans h1 h2
  · exact list_trans h1 h2

/-- **The fixed-value test of the code is an equivalence relation** on the lexical forms of every catalogue
    type (Python `==` of the skip-decoded values: reflexive, symmetric, transitive — no NaN, no mixed
    comparison inside one type). -/
theorem fixed_test_equiv (inst : NsCtx) (t : Nat) :
    (∀ x, (semCat inst).valueEq t x x = true) ∧
    (∀ x y, (semCat inst).valueEq t x y = true → (semCat inst).valueEq t y x = true) ∧
    (∀ x y z, (semCat inst).valueEq t x y = true → (semCat inst).valueEq t y z = true →
      (semCat inst).valueEq t x z = true) := by
  cases hty : CatTy.ofIdx t with
  | none =>
    have e : ∀ a b, (semCat inst).valueEq t a b = (a == b) := fun a b => by simp only [semCat, hty]
    simp only [e, beq_iff_eq]
    exact ⟨fun _ => trivial, fun _ _ => Eq.symm, fun _ _ _ => Eq.trans⟩
  | some ty =>
    have e : ∀ a b, (semCat inst).valueEq t a b = (skipDecode ty a.toList).pyEq (skipDecode ty b.toList) :=
      fun a b => by simp only [semCat, hty]
    simp only [e]
    exact ⟨fun _ => sv_refl _, fun _ _ => sv_symm, fun _ _ _ => sv_trans⟩

/-- the hypothesis `hrefl` of the theorems of Props/C03.lean holds for the catalogue semantics -/
theorem semCat_refl (inst : NsCtx) : ∀ t x, (semCat inst).valueEq t x x = true :=
  fun t => (fixed_test_equiv inst t).1

/-- **C03, validity clause with the concrete type semantics**: no parameter left for the simple types of the
    catalogue — the decoder reports no error exactly when the attribute set is valid, where "valid for the
    declared type" is `validLex` and "equal to the fixed value" is the code's test `SV.pyEq ∘ skipDecode`
    (characterised as value-space equality by `fixed_test_value_partial`). -/
theorem attrs_valid_iff_cat (inst : NsCtx) (env : Attributes.Env) (o : Opts) (G : Group) (A : List Attr)
    (hleg : o.legacy = false) (hwf : WF (semCat inst) G)
    (hnd : (G.decls.map (·.name)).Nodup) (hg : (env.globals.map (·.name)).Nodup)
    (hxsi : ∀ d ∈ G.decls, d.name.ns ≠ xsiNs) :
    errors (semCat inst) env o G A = [] ↔ Ok (semCat inst) env G A :=
  attrs_valid_iff (semCat inst) env o G A hleg (semCat_refl inst) hwf hnd hg hxsi

/-! ## the value space -/

inductive CV where
  | int (i : Int)
  | dec (d : Dec)
  | bool (b : Bool)
  | str (s : Str)
  | qname (ns : String) (loc : Str)
  | ints (l : List Int)
  deriving DecidableEq

/-- equality in the value space; decimals are the rationals `coef / 10^scale` (cross-multiplication) -/
def CV.Same : CV → CV → Prop
  | .int a, .int b => a = b
  | .dec a, .dec b => a.toInt * (10 : Int) ^ b.scale = b.toInt * (10 : Int) ^ a.scale
  | .bool a, .bool b => a = b
  | .str a, .str b => a = b
  | .qname n a, .qname m b => n = m ∧ a = b
  | .ints a, .ints b => a = b
  | _, _ => False

def allInts : List Str → Option (List Int)
  | [] => some []
  | w :: ws => match parseInt w, allInts ws with
    | some i, some l => some (i :: l)
    | _, _ => none

/-- S: the value denoted by a lexical form (XSD datatypes: white space facet, then the lexical mapping);
    `c` = the namespace bindings in scope where the literal is written -/
def valueOf (c : NsCtx) : CatTy → Str → Option CV
  | .int, s => (parseInt (coll s)).map .int
  | .small, s => (parseInt (coll s)).map .int
  | .decimal, s => (parseDec (coll s)).map .dec
  | .string, s => some (.str s)
  | .anySimple, s => some (.str s)
  | .token, s => some (.str (coll s))
  | .boolean, s => (boolOf (coll s)).map .bool
  | .qname, s => (qnameValue c (coll s)).map fun p => .qname p.1 p.2
  | .intList, s => (allInts (words isXmlWs (coll s))).map .ints

/-- S: the instance value `v` (bindings `ci`) and the fixed value `f` of the schema (bindings `cs`) are the
    same value -/
def SameValue (ci cs : NsCtx) (ty : CatTy) (v f : Str) : Prop :=
  ∃ a b, valueOf ci ty v = some a ∧ valueOf cs ty f = some b ∧ a.Same b

theorem ofIdx_toIdx (ty : CatTy) : CatTy.ofIdx ty.toIdx = some ty := by cases ty <;> rfl

theorem semCat_valueEq (ci : NsCtx) (ty : CatTy) (v f : String) :
    (semCat ci).valueEq ty.toIdx v f = (skipDecode ty v.toList).pyEq (skipDecode ty f.toList) := by
  simp only [semCat, ofIdx_toIdx]

theorem iff_sameValue {ci cs : NsCtx} {ty : CatTy} {v f : Str} {a b : CV} {P : Prop}
    (ha : valueOf ci ty v = some a) (hb : valueOf cs ty f = some b) (h : P ↔ a.Same b) :
    P ↔ SameValue ci cs ty v f := by
  refine h.trans ⟨fun h => ⟨a, b, ha, hb, h⟩, ?_⟩
  rintro ⟨a', b', ha', hb', h⟩
  cases ha.symm.trans ha'
  cases hb.symm.trans hb'
  exact h

theorem intOk_some {t : Str} (h : intOk t = true) : ∃ i, parseInt t = some i := by
  unfold intOk at h
  cases hp : parseInt t with
  | none => simp [hp] at h
  | some i => exact ⟨i, rfl⟩

theorem allInts_of_ok : ∀ ws : List Str, (∀ w ∈ ws, intOk w = true) →
    ∃ l, allInts ws = some l ∧ ws.map intSkip = l.map AV.int
  | [], _ => ⟨[], rfl, rfl⟩
  | w :: ws, h => by
    obtain ⟨i, hi⟩ := intOk_some (h w (List.mem_cons_self ..))
    obtain ⟨l, hl, hm⟩ := allInts_of_ok ws fun x hx => h x (List.mem_cons_of_mem _ hx)
    exact ⟨i :: l, by simp only [allInts, hi, hl], by simp only [List.map_cons, intSkip, hi, hm]⟩

theorem listPyEq_ints : ∀ l m : List Int, listPyEq (l.map .int) (m.map .int) = true ↔ l = m
  | [], [] => iff_of_true rfl rfl
  | [], _ :: _ => ⟨nofun, nofun⟩
  | _ :: _, [] => ⟨nofun, nofun⟩
  | i :: l, j :: m => by
    rw [List.map_cons, List.map_cons, listPyEq_cons, listPyEq_ints l m, List.cons.injEq]
    exact and_congr_left' beq_iff_eq

/-
  Full statement (false for `semCat` when `ty = .qname`: finding C03-F3, repaired by 71ba6c5):
     ∀ ci cs ty v f, validLex ci ty v → validLex cs ty f →
        ((semCat ci).valueEq ty.toIdx v f = true ↔ SameValue ci cs ty v.toList f.toList)
-/
/-- **C03, "equal in value space to any fixed value"** — for every catalogue type except xs:QName the test
    the code makes between a (valid) attribute value and the (valid) fixed value holds exactly when both
    denote the same value: the same integer (`03` = `3` = ` +3 `), the same rational (`1.0` = `1.00`), the
    same truth value (`1` = `true`), the same string after the type's white-space normalisation
    (` a  b ` = `a b` for xs:token, not for xs:string), the same list of integers. -/
theorem fixed_test_value_partial (ci cs : NsCtx) (ty : CatTy) (hq : ty ≠ .qname) (v f : String)
    (hv : validLex ci ty v.toList = true) (hf : validLex cs ty f.toList = true) :
    (semCat ci).valueEq ty.toIdx v f = true ↔ SameValue ci cs ty v.toList f.toList := by
  rw [semCat_valueEq]
  generalize v.toList = a at *
  generalize f.toList = b at *
  -- a valid literal parses; both sides then compare the parsed values
  cases ty with
  | qname => exact absurd rfl hq
  | int | small =>
    obtain ⟨i, hi⟩ : ∃ i, parseInt (coll a) = some i := by
      cases h : parseInt (coll a) with
      | none => simp [validLex, intOk, h] at hv
      | some i => exact ⟨i, rfl⟩
    obtain ⟨j, hj⟩ : ∃ j, parseInt (coll b) = some j := by
      cases h : parseInt (coll b) with
      | none => simp [validLex, intOk, h] at hf
      | some j => exact ⟨j, rfl⟩
    refine iff_sameValue (congrArg (Option.map CV.int) hi) (congrArg (Option.map CV.int) hj) ?_
    simp only [skipDecode, intSkip, hi, hj]
    exact beq_iff_eq
  | decimal =>
    obtain ⟨i, hi⟩ := Option.isSome_iff_exists.mp hv
    obtain ⟨j, hj⟩ := Option.isSome_iff_exists.mp hf
    refine iff_sameValue (congrArg (Option.map CV.dec) hi) (congrArg (Option.map CV.dec) hj) ?_
    simp only [skipDecode, decSkip, hi, hj]
    exact eqv_iff i j
  | boolean =>
    obtain ⟨i, hi⟩ := Option.isSome_iff_exists.mp hv
    obtain ⟨j, hj⟩ := Option.isSome_iff_exists.mp hf
    refine iff_sameValue (congrArg (Option.map CV.bool) hi) (congrArg (Option.map CV.bool) hj) ?_
    simp only [skipDecode, boolSkip, hi, hj]
    exact beq_iff_eq
  | string | anySimple | token => exact iff_sameValue rfl rfl beq_iff_eq
  | intList =>
    obtain ⟨l, hl, hla⟩ := allInts_of_ok _ (List.all_eq_true.mp hv)
    obtain ⟨m, hm, hmb⟩ := allInts_of_ok _ (List.all_eq_true.mp hf)
    refine iff_sameValue (congrArg (Option.map CV.ints) hl) (congrArg (Option.map CV.ints) hm) ?_
    simp only [skipDecode, hla, hmb]
    exact listPyEq_ints l m

/-! ### xs:QName: the code before 71ba6c5 compares collapsed texts (finding C03-F3) -/

def ctxP : NsCtx := [("p", "urn:t")]
def ctxT : NsCtx := [("t", "urn:t")]
def ctxTo : NsCtx := [("p", "urn:t"), ("t", "urn:other")]

/-- C03-F3, witness 1: schema `fixed="t:x"` with `xmlns:t="urn:t"`, instance `<p:e xmlns:p="urn:t" q="p:x"/>`:
    both literals are valid and denote the value (urn:t, x), yet that fixed-value test fails. -/
theorem fixed_qname_rejects_counterexample :
    validLex ctxP .qname "p:x".toList = true ∧ validLex ctxT .qname "t:x".toList = true ∧
    SameValue ctxP ctxT .qname "p:x".toList "t:x".toList ∧
    (semCat ctxP).valueEq CatTy.qname.toIdx "p:x" "t:x" = false := by
  refine ⟨by decide +kernel, by decide +kernel, ⟨.qname "urn:t" ['x'], .qname "urn:t" ['x'], by decide +kernel, by decide +kernel, rfl, rfl⟩, by decide +kernel⟩

/-- C03-F3, witness 2: instance `<p:e xmlns:p="urn:t" xmlns:t="urn:other" q="t:x"/>`: the literal denotes
    (urn:other, x) ≠ (urn:t, x), yet that test passes. -/
theorem fixed_qname_admits_counterexample :
    validLex ctxTo .qname "t:x".toList = true ∧ validLex ctxT .qname "t:x".toList = true ∧
    ¬ SameValue ctxTo ctxT .qname "t:x".toList "t:x".toList ∧
    (semCat ctxTo).valueEq CatTy.qname.toIdx "t:x" "t:x" = true := by
  refine ⟨by decide +kernel, by decide +kernel, ?_, by decide +kernel⟩
  have ha : valueOf ctxTo .qname "t:x".toList = some (.qname "urn:other" ['x']) := by decide +kernel
  have hb : valueOf ctxT .qname "t:x".toList = some (.qname "urn:t" ['x']) := by decide +kernel
  exact fun h => absurd ((iff_sameValue ha hb Iff.rfl).mpr h).1 (by decide +kernel)

/-- for xs:QName the code's test is equality of the collapsed texts (what the model ports) -/
theorem fixed_test_qname (ci : NsCtx) (v f : String) :
    (semCat ci).valueEq CatTy.qname.toIdx v f = true ↔ coll v.toList = coll f.toList := by
  rw [semCat_valueEq]
  exact beq_iff_eq

/-- xs:token (and every collapse type): a value and its collapsed form pass the test — ` a  b ` vs `a b` -/
theorem token_collapse_invariant (s : Str) :
    (skipDecode .token s).pyEq (skipDecode .token (coll s)) = true := by
  have hidem : coll (coll s) = coll s :=
    wsCollapse_fix isXmlWs _ (wsCollapse_sqz isXmlWs rfl s)
      (by unfold coll wsCollapse strip; exact rstrip_last isXmlWs _)
  exact beq_iff_eq.mpr hidem.symm

/-- xs:string does NOT normalise: the test is string equality -/
theorem string_test_exact (ci : NsCtx) (v f : String) :
    (semCat ci).valueEq CatTy.string.toIdx v f = true ↔ v = f := by
  rw [semCat_valueEq]
  exact beq_iff_eq.trans String.toList_inj

/-! ## Non-vacuity: the clauses on concrete literals -/

example : (semCat []).valueEq CatTy.decimal.toIdx "1.00" "1.0" = true := by decide +kernel
example : (semCat []).valueEq CatTy.decimal.toIdx " +1. " "1.0" = true := by decide +kernel
example : (semCat []).valueEq CatTy.decimal.toIdx "1.01" "1.0" = false := by decide +kernel
example : (semCat []).valueEq CatTy.token.toIdx " a  b " "a b" = true := by decide +kernel
example : (semCat []).valueEq CatTy.string.toIdx " a  b " "a b" = false := by decide +kernel
example : (semCat []).valueEq CatTy.int.toIdx "03" " 3" = true := by decide +kernel
example : (semCat []).valueEq CatTy.boolean.toIdx "1" "true" = true := by decide +kernel
example : (semCat []).valueEq CatTy.boolean.toIdx "0" "true" = false := by decide +kernel
example : (semCat []).valueEq CatTy.intList.toIdx " 01  2 " "1 2" = true := by decide +kernel
example : (semCat []).valueEq CatTy.intList.toIdx "1 3" "1 2" = false := by decide +kernel
example : (semCat []).validT CatTy.small.toIdx "7" = false := by decide +kernel
example : (semCat []).validT CatTy.int.toIdx "2147483648" = false := by decide +kernel
example : (semCat ctxT).validT CatTy.qname.toIdx "t:x" = true ∧ (semCat ctxT).validT CatTy.qname.toIdx "zz:x" = false := by
  decide +kernel
example : SameValue [] [] .decimal "1.00".toList "1.0".toList :=
  (fixed_test_value_partial [] [] .decimal (by decide +kernel) "1.00" "1.0" (by decide +kernel) (by decide +kernel)).mp (by decide +kernel)

/-- the whole model on the C03-F3 witness: `<p:e q="p:x"/>` against `fixed="t:x"` is reported -/
example : errors (semCat ctxP) envEmpty {}
    { decls := [{ name := ⟨"", "q"⟩, fixed := some "t:x", ty := CatTy.qname.toIdx }], any := none }
    [(⟨"", "q"⟩, "p:x")] = [.fixedMismatch ⟨"", "q"⟩] := by decide +kernel

end XsVerif.Props.C03Types
