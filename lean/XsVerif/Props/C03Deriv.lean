/-
  C03 — the attribute group a complex type is validated against is COMPUTED from the declarations of the
  type, the attribute groups it references and (for a derived type) the group of the base type
  (Model/AttrDeriv.lean, port of XsdAttributeGroup._parse).
-/
import XsVerif.Props.C03
import XsVerif.Model.AttrDeriv
import XsVerif.Lemmas.AttrRestriction
import XsVerif.Props.C16

namespace XsVerif.Props.C03Deriv
open XsVerif.Wildcard XsVerif.Attributes XsVerif.AttrRestr XsVerif.AttrDeriv XsVerif.Props.C03 XsVerif.Props.C16

/-! ## the complete wildcard of a declaration list -/

/-- the wildcards of the referenced groups, in document order -/
def groupAnys : List Child → List AnyAttr
  | [] => []
  | .attr _ :: cs => groupAnys cs
  | .group g :: cs => (match g.any with | some w => [w] | none => []) ++ groupAnys cs

def foldAny (w : Option AnyAttr) (ws : List AnyAttr) : Option AnyAttr :=
  ws.foldl (fun c x => meetGroupAny c (some x)) w

theorem walk_any (igd : Bool) : ∀ (cs : List Child) (ds : List Decl) (w : Option AnyAttr) (es : List BuildErr),
    (walk igd cs (ds, w) es).1.2 = foldAny w (groupAnys cs)
  | [], ds, w, es => rfl
  | .attr d :: cs, ds, w, es => by
    unfold walk
    split
    · exact walk_any igd cs _ _ _
    · split <;> exact walk_any igd cs _ _ _
  | .group g :: cs, ds, w, es => by
    unfold walk
    rw [walk_any igd cs, groupAnys]
    cases g.any with
    | none => cases w <;> rfl
    | some x => rfl

theorem anyMatches_inter (env : Env) (a b : AnyAttr) (pc : PC) {n : QN} (hx : n.ns ≠ xsiNs) :
    anyMatches env { wc := intersection a.wc b.wc, pc := pc } n = (anyMatches env a n && anyMatches env b n) :=
  intersection_spec a.wc b.wc _ _ n hx

theorem foldAny_some (env : Env) (n : QN) (hx : n.ns ≠ xsiNs) : ∀ (ws : List AnyAttr) (a : AnyAttr),
    ∃ r, foldAny (some a) ws = some r ∧ r.pc = a.pc ∧
      (anyMatches env r n = true ↔ anyMatches env a n = true ∧ ∀ w ∈ ws, anyMatches env w n = true)
  | [], a => ⟨a, rfl, rfl, by simp⟩
  | w :: ws, a => by
    obtain ⟨r, hr, hpc, hm⟩ := foldAny_some env n hx ws { wc := intersection a.wc w.wc, pc := a.pc }
    refine ⟨r, hr, hpc, ?_⟩
    rw [hm, anyMatches_inter env a w a.pc hx, Bool.and_eq_true, List.forall_mem_cons, and_assoc]

/-- **the complete wildcard** (current code, `oldPc = false`): a type has a wildcard iff it declares one or
    references a group that has one; it admits a (non-xsi) name iff ALL of them admit it; its processContents
    is that of the local `<anyAttribute>`, else that of the first referenced group with a wildcard. -/
theorem collect_wildcard_spec (c : Content) (env : Env) (n : QN) (hx : n.ns ≠ xsiNs) :
    ((collect false c).1.any = none ↔ c.any = none ∧ groupAnys c.children = []) ∧
    ∀ a, (collect false c).1.any = some a →
      (anyMatches env a n = true ↔
        (∀ l, c.any = some l → anyMatches env l n = true) ∧ ∀ w ∈ groupAnys c.children, anyMatches env w n = true) ∧
      (∀ l, c.any = some l → a.pc = l.pc) ∧
      (c.any = none → ∃ w rest, groupAnys c.children = w :: rest ∧ a.pc = w.pc) := by
  simp only [collect, walk_any]
  cases hws : groupAnys c.children with
  | nil =>
    simp only [foldAny, List.foldl_nil]
    cases hl : c.any with
    | none => simp [meetLocalAny]
    | some l => simp [meetLocalAny]
  | cons w ws =>
    have h0 : foldAny none (w :: ws) = foldAny (some w) ws := rfl
    obtain ⟨r, hr, hpc, hm⟩ := foldAny_some env n hx ws w
    rw [h0, hr]
    cases hl : c.any with
    | none =>
      simp only [meetLocalAny]
      refine ⟨by simp, ?_⟩
      intro a ha
      cases ha
      refine ⟨?_, by simp, fun _ => ⟨w, ws, rfl, hpc⟩⟩
      rw [hm]; simp
    | some l =>
      simp only [meetLocalAny, Bool.false_eq_true, if_false]
      refine ⟨by simp, ?_⟩
      intro a ha
      cases ha
      refine ⟨?_, by simp, by simp⟩
      rw [anyMatches_inter env l r l.pc hx, Bool.and_eq_true, hm]
      simp

/-! ### the step before fix 365354e (finding C03-F2 — fixed) -/

def qz : QN := ⟨"urn:u", "z"⟩
/-- `<attributeGroup ref="AG1"/>` (AG1: `##any`, skip) followed by `<anyAttribute namespace="urn:u"
    processContents="strict"/>` in a schema of target namespace urn:t -/
def cF2 : Content :=
  { children := [.group { decls := [], any := some { wc := { ns := .any, tns := "urn:t" }, pc := .skip } }],
    any := some { wc := { ns := .set ["urn:u"], tns := "urn:t" }, pc := .strict } }

/-- C03-F2 (fixed): the OLD step kept the processContents of the first referenced group, so `<e u:z="1"/>` —
    no schema for urn:u — was accepted under `skip`; the current step keeps the local `strict` and reports it. -/
theorem oldpc_counterexample :
    ((collect true cF2).1.any.map (·.pc)) = some .skip ∧
    ((collect false cF2).1.any.map (·.pc)) = some .strict ∧
    errors semStr envEmpty {} (collect true cF2).1 [(qz, "1")] = [] ∧
    errors semStr envEmpty {} (collect false cF2).1 [(qz, "1")] = [.unavailableNs qz] := by
  decide +kernel

/-! ## the ordered-dict update -/

theorem names_replace (d : Decl) (base : List Decl) :
    (base.map fun b => if b.name == d.name then d else b).map (·.name) = base.map (·.name) := by
  induction base with
  | nil => rfl
  | cons x t ih =>
    simp only [List.map_cons, ih, List.cons.injEq, and_true]
    by_cases h : x.name = d.name <;> simp [h]

theorem updateDecls_nodup (ds : List Decl) : ∀ (base : List Decl), (base.map (·.name)).Nodup →
    ((updateDecls base ds).map (·.name)).Nodup := by
  induction ds with
  | nil => intro base h; simpa [updateDecls] using h
  | cons d ds ih =>
    intro base h
    unfold updateDecls
    apply ih
    cases hl : lookup base d.name with
    | some b => simp only [Option.isSome_some, if_true]; rw [names_replace]; exact h
    | none =>
      simp only [Option.isSome_none, Bool.false_eq_true, if_false, List.map_append, List.map_cons, List.map_nil]
      have hn := lookup_none_iff.mp hl
      rw [List.nodup_append]
      refine ⟨h, by simp, ?_⟩
      intro a ha b hb
      simp only [List.mem_singleton] at hb
      subst hb
      obtain ⟨x, hx, rfl⟩ := List.mem_map.mp ha
      exact hn x hx

/-- S: the attribute uses in force for a type with declared group `D` derived from a type with group `B` -/
def EffUse (B D : Group) (d : Decl) : Prop :=
  d ∈ D.decls ∨ (d ∈ B.decls ∧ ∀ d' ∈ D.decls, d'.name ≠ d.name)

theorem mem_updateDecls_iff (B D : List Decl) (hB : (B.map (·.name)).Nodup) (hD : (D.map (·.name)).Nodup)
    (d : Decl) : d ∈ updateDecls B D ↔ (d ∈ D ∨ (d ∈ B ∧ ∀ d' ∈ D, d'.name ≠ d.name)) := by
  rw [mem_iff_lookup (updateDecls_nodup D B hB), lookup_updateDecls D B d.name hD, mem_iff_lookup hD,
    mem_iff_lookup hB, ← lookup_none_iff]
  cases lookup D d.name <;> simp

theorem derive_ok {v11 : Bool} {k : Deriv} {B D G : Group} (h : derive v11 k B D = .ok G) :
    derivedAny v11 k B.any D.any = .ok G.any ∧
      G.decls = if k = .none then D.decls else updateDecls B.decls D.decls := by
  unfold derive at h
  cases hw : derivedAny v11 k B.any D.any with
  | error e => rw [hw] at h; cases h
  | ok w => rw [hw] at h; cases h; exact ⟨rfl, rfl⟩

/-- **the computed group of a derived type contains exactly the effective uses** (extension adds,
    restriction overrides — a declared `use="prohibited"` replaces the base use and then counts as no use) -/
theorem derived_decl_iff (v11 : Bool) (k : Deriv) (hk : k ≠ .none) (B D G : Group)
    (hB : (B.decls.map (·.name)).Nodup) (hD : (D.decls.map (·.name)).Nodup)
    (h : derive v11 k B D = .ok G) (d : Decl) : d ∈ G.decls ↔ EffUse B D d := by
  rw [(derive_ok h).2, if_neg hk]
  exact mem_updateDecls_iff B.decls D.decls hB hD d

theorem derived_nodup (v11 : Bool) (k : Deriv) (B D G : Group)
    (hB : (B.decls.map (·.name)).Nodup) (hD : (D.decls.map (·.name)).Nodup)
    (h : derive v11 k B D = .ok G) : (G.decls.map (·.name)).Nodup := by
  rw [(derive_ok h).2]
  split
  · exact hD
  · exact updateDecls_nodup _ _ hB

/-- **extension**: the wildcard of the derived type is the UNION of the declared complete wildcard and the
    base wildcard: it admits every name either admits (`##defined` as an arbitrary predicate), exactly those
    on the namespace/notQName part, and it carries the processContents of the declared wildcard; a missing
    operand leaves the other one. -/
theorem derived_wildcard_extension (v11 : Bool) (B D G : Group) (h : derive v11 .extension B D = .ok G) :
    (∀ w bw, D.any = some w → B.any = some bw → ∃ g, G.any = some g ∧ g.pc = w.pc ∧
        (∀ (env : Env) (n : QN), n.ns ≠ xsiNs → (anyMatches env w n = true ∨ anyMatches env bw n = true) →
            anyMatches env g n = true) ∧
        (∀ n : QN, n.ns ≠ xsiNs → allowsQ g.wc n = (allowsQ w.wc n || allowsQ bw.wc n))) ∧
    (D.any = none → G.any = B.any) ∧ (B.any = none → G.any = D.any) := by
  have ha := (derive_ok h).1
  refine ⟨?_, ?_, ?_⟩
  · intro w bw hw hbw
    rw [hw, hbw] at ha
    simp only [derivedAny] at ha
    cases hu : union v11 w.wc bw.wc with
    | none => simp [hu] at ha
    | some u =>
      simp only [hu, Except.ok.injEq] at ha
      refine ⟨_, ha.symm, rfl, ?_, ?_⟩
      · intro env n hx hor
        exact union_complete v11 w.wc bw.wc u hu (isDefined env) (fun _ => false) n hx hor
      · intro n hx
        exact union_exact v11 w.wc bw.wc u hu n hx
  · intro hd
    rw [hd] at ha
    exact (Except.ok.inj ha).symm
  · intro hb
    rw [hb] at ha
    cases hd : D.any <;> rw [hd] at ha <;> exact (Except.ok.inj ha).symm

/-- **restriction**: the derived type has the declared wildcard; when it declares none it admits no
    (non-xsi) attribute through a wildcard, whatever the base admitted. -/
theorem derived_wildcard_restriction (v11 : Bool) (B D G : Group) (h : derive v11 .restriction B D = .ok G) :
    (∀ w, D.any = some w → G.any = some w) ∧
    (D.any = none → ∀ g, G.any = some g → ∀ (env : Env) (n : QN), n.ns ≠ xsiNs → anyMatches env g n = false) := by
  have ha := (derive_ok h).1
  constructor
  · intro w hw
    rw [hw] at ha
    exact (Except.ok.inj ha).symm
  · intro hd g hg env n hx
    rw [hd] at ha
    rw [← Except.ok.inj ha] at hg
    obtain ⟨bw, -, rfl⟩ := Option.map_eq_some_iff.mp hg
    exact emptied_not_matches env bw n hx

/-- S: validity of an attribute set per the EFFECTIVE uses of a derived type and its effective wildcard `w` -/
def OkDerived (s : Sem) (env : Env) (B D : Group) (w : Option AnyAttr) (A : List Attr) : Prop :=
  (∀ d, EffUse B D d → d.use = .required → ∃ v, (d.name, v) ∈ A) ∧
  ∀ a ∈ A,
    (∃ d, (EffUse B D d ∧ d.name = a.1 ∧ d.use ≠ .prohibited) ∧ DeclOk s d a.2) ∨
    ((¬ ∃ d, EffUse B D d ∧ d.name = a.1 ∧ d.use ≠ .prohibited) ∧
      ((XsiBuiltin env a.1 ∧ ∃ g ∈ env.globals, g.name = a.1 ∧ DeclOk s g a.2) ∨
       (¬ XsiBuiltin env a.1 ∧ ∃ x, w = some x ∧ anyMatches env x a.1 = true ∧ PcOk s env x.pc a.1 a.2)))

theorem ok_iff_okDerived (s : Sem) (env : Env) (B D G : Group) (A : List Attr)
    (hmem : ∀ d, d ∈ G.decls ↔ EffUse B D d) : Ok s env G A ↔ OkDerived s env B D G.any A := by
  unfold Ok OkDerived AttrOk Uses WildOk
  simp only [hmem]

/-- **C03 for derived types**: validating an attribute set against the group the library computes for a
    type derived by extension or restriction reports no error exactly when the set is valid per the effective
    declared uses (declared ones, and base ones not overridden) and the effective wildcard (characterised by
    `derived_wildcard_extension` / `derived_wildcard_restriction`). -/
theorem derived_valid_iff (v11 : Bool) (k : Deriv) (hk : k ≠ .none) (s : Sem) (env : Env) (o : Opts)
    (B D G : Group) (A : List Attr) (h : derive v11 k B D = .ok G)
    (hleg : o.legacy = false) (hrefl : ∀ t x, s.valueEq t x x = true)
    (hwfB : WF s B) (hwfD : WF s D)
    (hB : (B.decls.map (·.name)).Nodup) (hD : (D.decls.map (·.name)).Nodup)
    (hg : (env.globals.map (·.name)).Nodup)
    (hxB : ∀ d ∈ B.decls, d.name.ns ≠ xsiNs) (hxD : ∀ d ∈ D.decls, d.name.ns ≠ xsiNs) :
    errors s env o G A = [] ↔ OkDerived s env B D G.any A := by
  have hmem := derived_decl_iff v11 k hk B D G hB hD h
  have hof : ∀ {P : Decl → Prop}, (∀ d ∈ D.decls, P d) → (∀ d ∈ B.decls, P d) → ∀ d ∈ G.decls, P d :=
    fun hD hB d hd => ((hmem d).mp hd).elim (hD d) fun h => hB d h.1
  rw [attrs_valid_iff s env o G A hleg hrefl (hof hwfD hwfB) (derived_nodup v11 k B D G hB hD h) hg (hof hxD hxB)]
  exact ok_iff_okDerived s env B D G A hmem

/-! ## the order of the declarations is immaterial for validity -/

/-- validity depends on the SET of declarations only (names distinct): any reordering of the dict — e.g. the
    sorted iteration of `XsdAttributeGroup.__iter__` when entries are taken from another group — validates
    the same attribute sets. -/
theorem valid_perm (s : Sem) (env : Env) (o : Opts) (G G' : Group) (A : List Attr)
    (hp : G.decls.Perm G'.decls) (hany : G.any = G'.any)
    (hleg : o.legacy = false) (hrefl : ∀ t x, s.valueEq t x x = true) (hwf : WF s G)
    (hnd : (G.decls.map (·.name)).Nodup) (hg : (env.globals.map (·.name)).Nodup)
    (hxsi : ∀ d ∈ G.decls, d.name.ns ≠ xsiNs) :
    errors s env o G A = [] ↔ errors s env o G' A = [] := by
  have hmem : ∀ d, d ∈ G'.decls ↔ d ∈ G.decls := fun d => hp.symm.mem_iff
  have hwf' : WF s G' := fun d hd => hwf d ((hmem d).mp hd)
  have hnd' : (G'.decls.map (·.name)).Nodup := (hp.map _).nodup_iff.mp hnd
  have hx' : ∀ d ∈ G'.decls, d.name.ns ≠ xsiNs := fun d hd => hxsi d ((hmem d).mp hd)
  rw [attrs_valid_iff s env o G A hleg hrefl hwf hnd hg hxsi,
      attrs_valid_iff s env o G' A hleg hrefl hwf' hnd' hg hx']
  unfold Ok AttrOk Uses WildOk
  simp only [hmem, hany]

/-! ## XSD 1.0: one ID attribute; XSD 1.1: the default attribute group -/

/-- the build of an XSD 1.0 type reports "multiple ID attributes" exactly when more than one attribute of the
    group has an ID type; an XSD 1.1 type never does -/
theorem id_build_iff (v11 : Bool) (isId : Nat → Bool) (G : Group) :
    idErrs v11 isId G = [] ↔ (v11 = true ∨ (G.decls.filter fun d => isId d.ty).length ≤ 1) := by
  unfold idErrs
  cases v11 <;> simp [Nat.not_lt]

/-- XSD 1.1 `defaultAttributes`: when no clash is reported, the attributes of the type are its own and those of
    the default attribute group -/
theorem defaults_decl_iff (G da : Group) (hG : (G.decls.map (·.name)).Nodup)
    (hda : (da.decls.map (·.name)).Nodup) (hok : (applyDefaults G (some da)).2 = []) (d : Decl) :
    d ∈ (applyDefaults G (some da)).1.decls ↔ d ∈ G.decls ∨ d ∈ da.decls := by
  simp only [applyDefaults, List.append_eq_nil_iff, List.map_eq_nil_iff, List.filter_eq_nil_iff] at hok ⊢
  rw [mem_updateDecls_iff G.decls da.decls hG hda d, or_comm]
  -- no entry of the default group clashes with an own one
  refine or_congr_left (and_iff_left_of_imp fun h d' hd' hn => ?_)
  have := hok.1 d' hd'
  rw [hn, lookup_of_nodup hG h] at this
  simp at this

/-! ## Non-vacuity -/

namespace Demo
def qa' : QN := ⟨"", "a"⟩
def qb : QN := ⟨"", "b"⟩
def qc : QN := ⟨"", "c"⟩
def qf : QN := ⟨"urn:f", "z"⟩
/-- base: a optional, b optional fixed 3, wildcard urn:f lax -/
def B : Group :=
  { decls := [{ name := qa', ty := 0 }, { name := qb, fixed := some "3", ty := 0 }],
    any := some { wc := { ns := .set ["urn:f"], tns := "urn:t" }, pc := .lax } }
/-- restriction: a prohibited, b required (same fixed); no wildcard -/
def R : Group :=
  { decls := [{ name := qa', use := .prohibited, ty := 0 }, { name := qb, use := .required, fixed := some "3", ty := 0 }],
    any := none }
/-- extension: adds c, wildcard urn:u skip -/
def E : Group :=
  { decls := [{ name := qc, dflt := some "1", ty := 0 }],
    any := some { wc := { ns := .set ["urn:u"], tns := "urn:t" }, pc := .skip } }

def GR : Group := match derive false .restriction B R with | .ok g => g | .error _ => default
def GE : Group := match derive false .extension B E with | .ok g => g | .error _ => default

example : derive false .restriction B R = .ok GR := rfl
example : derive false .extension B E = .ok GE := rfl
example : GR.decls.map (·.use) = [.prohibited, .required] := by decide +kernel
example : GE.decls.map (·.name) = [qa', qb, qc] := by decide +kernel
/-- restriction: `b` now required, `a` prohibited, the base wildcard is gone -/
example : errors semStr envEmpty {} GR [] = [.missing qb] := by decide +kernel
example : errors semStr envEmpty {} GR [(qb, "3"), (qa', "1")] = [.prohibited qa'] := by decide +kernel
example : errors semStr envEmpty {} GR [(qb, "3"), (qf, "1")] = [.wildcardDenied qf] := by decide +kernel
example : errors semStr envEmpty {} GR [(qb, "3")] = [] := by decide +kernel
/-- extension: base uses kept, `c` added, both namespaces admitted under the declared `skip` -/
example : errors semStr envEmpty {} GE [(qa', "1"), (qf, "1"), (qz, "1"), (qc, "2")] = [] := by decide +kernel
example : errors semStr envEmpty {} GE [(⟨"urn:g", "z"⟩, "1")] = [.wildcardDenied ⟨"urn:g", "z"⟩] := by decide +kernel
example : decoded envEmpty {} GE [] = [(qb, .typed 0 "3"), (qc, .typed 0 "1")] := by decide +kernel
example : OkDerived semStr envEmpty B R GR.any [(qb, "3")] :=
  (derived_valid_iff false .restriction (by decide +kernel) semStr envEmpty {} B R GR _ rfl rfl
    (fun _ x => beq_self_eq_true x) (fun _ _ => ⟨fun _ _ => rfl, fun _ _ => rfl⟩)
    (fun _ _ => ⟨fun _ _ => rfl, fun _ _ => rfl⟩)
    (by decide +kernel) (by decide +kernel) (by decide +kernel) (by decide +kernel) (by decide +kernel)).mp (by decide +kernel)
/-- XSD 1.0 cannot express every union: the extension is refused -/
example : derive false .extension
    { decls := [], any := some { wc := { ns := .other, tns := "urn:t" }, pc := .lax } }
    { decls := [], any := some { wc := { ns := .set [""], tns := "urn:t" }, pc := .lax } } = .error .unionNotExpressible :=
  rfl
/-- a prohibited declaration inside an <attributeGroup> definition is dropped; in a complexType it is kept -/
example : (collect false { children := [.attr { name := qa', use := .prohibited, ty := 0 }], inGroupDef := true }).1.decls = [] := by
  decide +kernel
example : (collect false { children := [.attr { name := qa', use := .prohibited, ty := 0 }] }).1.decls.length = 1 := by
  decide +kernel
example : idErrs false (· == 9) { decls := [{ name := qa', ty := 9 }, { name := qb, ty := 9 }], any := none } = [.multipleIds] := by
  decide +kernel
example : idErrs true (· == 9) { decls := [{ name := qa', ty := 9 }, { name := qb, ty := 9 }], any := none } = [] := by
  decide +kernel
end Demo

end XsVerif.Props.C03Deriv
