/-
  C08 — identity constraints: ID/IDREF and unique/key/keyref are enforced exactly.
-/
import XsVerif.Model.Identity
import XsVerif.Lemmas.Identity

namespace XsVerif.Props.C08
open XsVerif.Identity

/-- the qualified tuples of a scope -/
abbrev Q (rows : List (List (FRes Val))) : List (List Val) := rows.filterMap complete?

/-- schema-level requirement: an identity constraint has at least one field -/
def HasFields (rows : List (List (FRes Val))) : Prop := ∀ r ∈ rows, r ≠ []

theorem offerAll_cons (kind : Kind) (r : List (FRes Val)) (rs : List (List (FRes Val)))
    (table : List Tuple) :
    offerAll kind (r :: rs) table =
      ((offerAll kind rs (offer kind table r).1).1,
       (offer kind table r).2.toList ++ (offerAll kind rs (offer kind table r).1).2) :=
  rfl

theorem offerAll_table (kind : Kind) (rows : List (List (FRes Val))) (table : List Tuple)
    (hr : kind ≠ .keyref → HasFields rows) :
    (offerAll kind rows table).1 = ((Q rows).map wrap).reverse ++ table := by
  induction rows generalizing table with
  | nil => rfl
  | cons r rs ih =>
    have hr' : kind ≠ .keyref → HasFields rs := fun hk x hx => hr hk x (List.mem_cons_of_mem _ hx)
    rw [offerAll_cons, ih _ hr']
    cases hc : complete? r with
    | some t =>
      rw [offer_complete kind table hc fun hk => hr hk r (List.mem_cons_self ..)]
      simp [hc]
    | none => rw [(offer_incomplete kind table hc).1]; simp [hc]

theorem counter_errs_nil_iff {kind : Kind} (hk : kind ≠ .keyref) (rows : List (List (FRes Val)))
    (table : List Tuple) (hn : table.Nodup) (hr : HasFields rows) :
    (offerAll kind rows table).2 = [] ↔
      NoMulti rows ∧ (kind = .key → AllComplete rows) ∧ (offerAll kind rows table).1.Nodup := by
  induction rows generalizing table with
  | nil => simp [offerAll, NoMulti, AllComplete, hn]
  | cons r rs ih =>
    have hr' : HasFields rs := fun x hx => hr x (List.mem_cons_of_mem _ hx)
    rw [offerAll_cons, List.append_eq_nil_iff, Option.toList_eq_nil_iff]
    simp only [NoMulti, AllComplete, List.forall_mem_cons]
    cases hc : complete? r with
    | some t =>
      rw [offer_complete kind table hc fun _ => hr r (List.mem_cons_self ..)]
      have hm := complete_some_no_multi hc
      by_cases hmem : wrap t ∈ table
      · refine iff_of_false (fun h => ?_) fun h => ?_
        · rw [if_pos ⟨hk, (count_one_iff hn).mpr hmem⟩] at h
          cases h.1
        · rw [offerAll_table kind rs _ fun _ => hr'] at h
          exact (List.nodup_cons.mp (List.nodup_append.mp h.2.2).2.1).1 hmem
      · rw [if_neg fun h => hmem ((count_one_iff hn).mp h.2), ih _ (List.nodup_cons.mpr ⟨hmem, hn⟩) hr']
        simp [NoMulti, AllComplete, hm]
    | none =>
      rw [(offer_incomplete kind table hc).1, (offer_incomplete kind table hc).2, ih table hn hr']
      simp only [NoMulti, AllComplete, Option.isSome_none, Bool.false_eq_true, false_and]
      constructor
      · rintro ⟨⟨hk', hm⟩, h1, -, h3⟩; exact ⟨⟨hm, h1⟩, hk', h3⟩
      · rintro ⟨⟨hm, h1⟩, hk', h3⟩; exact ⟨⟨hk', hm⟩, h1, fun h => absurd h hk', h3⟩

/-- **key**: a scope's key counter, started empty, raises no error exactly when every selected
    node has all its fields and no two selected nodes have equal tuples. -/
theorem key_scope_iff (rows : List (List (FRes Val))) (hr : HasFields rows) :
    (offerAll .key rows []).2 = [] ↔ KeyOk rows := by
  rw [counter_errs_nil_iff (by decide) rows [] List.nodup_nil hr, offerAll_table .key rows [] fun _ => hr,
    List.append_nil, nodup_wrap_reverse]
  simp [KeyOk, Distinct]

example : HasFields [[FRes.val (Val.num 1 0), .val (.bool true)], [.val (.num 1 0), .absent]] := by
  intro r hr; simp at hr; rcases hr with rfl | rfl <;> simp

/-- **unique** (XSD §3.11.4, cvc-identity-constraint 4.1), full statement: a scope's unique counter,
    started empty, raises no error exactly when no field selects several nodes and no two selected
    nodes *having all their fields* have equal tuples.  (Before the `fix:` commit cc593f3 this held
    only on the region without partially absent tuples.) -/
theorem unique_scope_iff (rows : List (List (FRes Val))) (hr : HasFields rows) :
    (offerAll .unique rows []).2 = [] ↔ UniqueOk rows := by
  rw [counter_errs_nil_iff (by decide) rows [] List.nodup_nil hr, offerAll_table .unique rows [] fun _ => hr,
    List.append_nil, nodup_wrap_reverse]
  simp [UniqueOk, Distinct]

example : HasFields [[FRes.val (Val.num 1 0), .val (.bool true)], [.val (.num 1 0), .absent],
    [.absent, .absent]] := by
  intro r hr; simp at hr; rcases hr with rfl | rfl | rfl <;> simp

/-- the witness of the former finding C08-F6 (replayed on the real code by the harness): two nodes
    `(1, ⊥)`; and the same partial node between two equal complete ones -/
def uniqueWitness : List (List (FRes Val)) := [[.val (.num 1 0), .absent], [.val (.num 1 0), .absent]]
def uniqueWitness2 : List (List (FRes Val)) :=
  [[.val (.num 1 0), .val (.num 2 0)], [.val (.num 1 0), .absent], [.val (.num 1 0), .val (.num 2 0)]]

/-- regression witnesses for cc593f3: partially absent tuples are neither compared with each other
    nor do they hide a duplicate among the complete ones -/
theorem unique_partial_witness :
    (UniqueOk uniqueWitness ∧ (offerAll .unique uniqueWitness []).2 = []) ∧
    (¬ UniqueOk uniqueWitness2 ∧ (offerAll .unique uniqueWitness2 []).2 = [.dup]) := by
  decide +kernel

/-- zero and the empty string are values like any other (the tuples are `Option`-valued: an absent
    field is `none`, never confused with a present falsy value).  Replayed on the real code by the
    harness (family `falsy_cases`). -/
def z0 : FRes Val := .val (.num 0 0)
def e0 : FRes Val := .val (.str "")
theorem unique_falsy_witness :
    (UniqueOk [[z0, .absent], [z0, .absent]] ∧ (offerAll .unique [[z0, .absent], [z0, .absent]] []).2 = []) ∧
    (UniqueOk [[e0, .absent], [e0, .absent]] ∧ (offerAll .unique [[e0, .absent], [e0, .absent]] []).2 = []) ∧
    (¬ UniqueOk [[z0, e0], [z0, e0]] ∧ (offerAll .unique [[z0, e0], [z0, e0]] []).2 = [.dup]) ∧
    (¬ KeyOk [[z0, .absent]] ∧ (offerAll .key [[z0, .absent]] []).2 = [.missing 1]) ∧
    KeyrefOk [[z0, e0], [z0, .absent]] (Q [[z0, e0]]) ∧
    parseInteger "-0".toList = parseDecimal "0.0".toList ∧ parseInteger "+00".toList = some (.num 0 0) := by
  decide +kernel

theorem keyref_errs_nil_iff (rows : List (List (FRes Val))) (table : List Tuple) :
    (offerAll .keyref rows table).2 = [] ↔ NoMulti rows := by
  induction rows generalizing table with
  | nil => simp [offerAll, NoMulti]
  | cons r rs ih =>
    rw [offerAll_cons, List.append_eq_nil_iff, Option.toList_eq_nil_iff, ih]
    simp only [NoMulti, List.forall_mem_cons]
    cases hc : complete? r with
    | some t =>
      rw [offer_complete .keyref table hc fun hk => absurd rfl hk]
      simp [complete_some_no_multi hc]
    | none => rw [(offer_incomplete .keyref table hc).2]; simp

/-- `KeyrefCounter.iter_errors` yields nothing exactly when every own tuple is in the table read -/
theorem keyrefErrs_nil_iff (c s : Nat) (own refer : List Tuple) :
    keyrefErrs c s own refer = [] ↔ ∀ v ∈ own, v ∈ refer := by
  simp [keyrefErrs, List.filter_eq_nil_iff, List.mem_eraseDups]

/-- the table a key counter leaves behind: exactly the qualified tuples -/
theorem key_table (rows : List (List (FRes Val))) (table : List Tuple) (hr : HasFields rows)
    (x : Tuple) :
    x ∈ (offerAll .key rows table).1 ↔ x ∈ table ∨ ∃ t ∈ Q rows, x = wrap t := by
  rw [offerAll_table .key rows table fun _ => hr]
  simp only [List.mem_append, List.mem_reverse, List.mem_map, or_comm, eq_comm]

theorem keyref_resolved_iff (rows : List (List (FRes Val))) (refer : List Tuple) :
    (∀ v ∈ (offerAll .keyref rows []).1, v ∈ refer) ↔ ∀ t ∈ Q rows, wrap t ∈ refer := by
  rw [offerAll_table .keyref rows [] fun hk => absurd rfl hk]
  simp only [List.append_nil, List.mem_reverse, List.mem_map, forall_exists_index, and_imp,
    forall_apply_eq_imp_iff₂]

/-- **keyref** (key and keyref collected in the same run, the key's counter being the one read at
    the end of the keyref's scope): no "multiple values"/"not found" error exactly when no field
    selects several nodes and every keyref node whose fields are all present has its tuple among the
    key's qualified tuples.  Nodes with an absent field are ignored (after the `fix:` commit 3a2eb1a). -/
theorem keyref_scope_iff (c s : Nat) (krows rrows : List (List (FRes Val))) (hk : HasFields krows) :
    ((offerAll .keyref rrows []).2 = [] ∧
      keyrefErrs c s (offerAll .keyref rrows []).1 (offerAll .key krows []).1 = []) ↔
    KeyrefOk rrows (Q krows) := by
  rw [keyref_errs_nil_iff, keyrefErrs_nil_iff, keyref_resolved_iff]
  simp only [key_table krows [] hk, List.not_mem_nil, false_or, wrap_inj, exists_eq_right']
  rfl

example : KeyrefOk [[FRes.val (Val.num 1 0)], [FRes.absent]] (Q [[FRes.val (Val.num 1 0)]]) := by
  decide +kernel

/-! ### O is S: the executable per-scope oracle reports no clause exactly when the rule holds -/

theorem rowsClauses_unique_nil {α : Type} [DecidableEq α] (rows : List (List (FRes α))) (tb) :
    rowsClauses .unique rows tb = [] ↔ UniqueOk rows := by
  simp [rowsClauses, UniqueOk]

theorem rowsClauses_key_nil {α : Type} [DecidableEq α] (rows : List (List (FRes α))) (tb) :
    rowsClauses .key rows tb = [] ↔ KeyOk rows := by
  simp [rowsClauses, KeyOk]

theorem rowsClauses_keyref_nil {α : Type} [DecidableEq α] (rows : List (List (FRes α)))
    (tb : List (List α)) : rowsClauses .keyref rows (some tb) = [] ↔ KeyrefOk rows tb := by
  simp [rowsClauses, KeyrefOk]

/-! ### the per-document machine: one scope of one constraint -/

/-- the rows a scope `s` of constraint `c` collects from the visited nodes `ns` -/
def scopeRows (env : Env) (c s : Nat) (ns : List Nat) : List (List (FRes Val)) :=
  (ns.filter (env.sel c s)).map (env.fields c)

theorem collect_block (env : Env) (c s : Nat) (ns : List Nat) (st : St) (tb : List Tuple)
    (hc : st.ctrs c = some ⟨s, true, tb⟩) :
    let fin := ns.foldl (fun st n => collectOne env n st c) st
    fin.ctrs c = some ⟨s, true, (offerAll (env.kind c) (scopeRows env c s ns) tb).1⟩ ∧
    (fin.errs = [] ↔ st.errs = [] ∧ (offerAll (env.kind c) (scopeRows env c s ns) tb).2 = []) := by
  induction ns generalizing st tb with
  | nil => simp [scopeRows, offerAll, hc]
  | cons n ns ih =>
    have h1 := collectOne_ctrs env n st c c
    have h2 := collectOne_errs env n st c
    rw [if_pos rfl, hc] at h1
    rw [hc] at h2
    simp only [List.foldl_cons]
    cases hs : env.sel c s n with
    | true =>
      have hrows : scopeRows env c s (n :: ns) = env.fields c n :: scopeRows env c s ns := by
        simp [scopeRows, hs]
      simp only [collectRes, hs, Bool.not_true, Bool.or_false, Bool.false_eq_true, if_false] at h1 h2
      obtain ⟨i1, i2⟩ := ih _ _ h1
      rw [hrows, offerAll_cons]
      refine ⟨i1, ?_⟩
      rw [i2, h2]
      cases (offer (env.kind c) tb (env.fields c n)).2 <;> simp
    | false =>
      have hrows : scopeRows env c s (n :: ns) = scopeRows env c s ns := by simp [scopeRows, hs]
      simp only [collectRes, hs, Bool.not_false, Bool.or_true, if_true] at h1 h2
      obtain ⟨i1, i2⟩ := ih _ _ h1
      rw [hrows]
      exact ⟨i1, by rw [i2, h2]; simp⟩

def runFrom (env : Env) (st : St) (evs : List Ev) : St := evs.foldl (step env) st

theorem run_eq_runFrom (env : Env) (evs : List Ev) : run env evs = runFrom env St.init evs := rfl

theorem collects_fold (env : Env) (c : Nat) (ns : List Nat) (st : St) :
    (ns.map fun n => Ev.collect n [c]).foldl (step env) st =
      ns.foldl (fun st n => collectOne env n st c) st := by
  induction ns generalizing st with
  | nil => rfl
  | cons n ns ih => exact ih _

theorem enter_state (env : Env) (c s : Nat) (st : St) (he : st.errs = []) :
    (step env st (.enter s [c])).ctrs c = some ⟨s, true, []⟩ ∧
    (step env st (.enter s [c])).errs = [] ∧
    ∀ r, r ≠ c → (step env st (.enter s [c])).ctrs r = st.ctrs r := by
  simp only [step, List.foldl_cons, List.foldl_nil, enterOne]
  cases st.ctrs c with
  | none => exact ⟨if_pos rfl, he, fun r hr => if_neg hr⟩
  | some k => simp only; split <;> exact ⟨if_pos rfl, he, fun r hr => if_neg hr⟩

theorem collectOne_frame (env : Env) (n c r : Nat) (st : St) (h : r ≠ c) :
    (collectOne env n st c).ctrs r = st.ctrs r := by
  rw [collectOne_ctrs, if_neg h]

theorem collects_frame (env : Env) (c r : Nat) (ns : List Nat) (st : St) (h : r ≠ c) :
    (ns.foldl (fun st n => collectOne env n st c) st).ctrs r = st.ctrs r := by
  induction ns generalizing st with
  | nil => rfl
  | cons n ns ih => rw [List.foldl_cons, ih, collectOne_frame env n c r st h]

theorem collected_state (env : Env) (c s : Nat) (ns : List Nat) (st : St) (he : st.errs = []) :
    let fin := (ns.map fun n => Ev.collect n [c]).foldl (step env) (step env st (.enter s [c]))
    fin.ctrs c = some ⟨s, true, (offerAll (env.kind c) (scopeRows env c s ns) []).1⟩ ∧
    (fin.errs = [] ↔ (offerAll (env.kind c) (scopeRows env c s ns) []).2 = []) ∧
    ∀ r, r ≠ c → fin.ctrs r = st.ctrs r := by
  obtain ⟨hc1, he1, hf1⟩ := enter_state env c s st he
  rw [collects_fold]
  obtain ⟨b1, b2⟩ := collect_block env c s ns _ [] hc1
  exact ⟨b1, b2.trans (and_iff_right he1), fun r hr => by rw [collects_frame env c r ns _ hr, hf1 r hr]⟩

/-- **one scope, unique / key, from any history**: entering a scope resets the counter, so whatever
    was validated before, the block `enter s; collect n₁ … n_k; leave s` adds no error exactly when the
    per-scope counter run on the selected rows adds none. -/
theorem scope_block_iff (env : Env) (c s : Nat) (ns : List Nat) (st : St)
    (hk : env.kind c ≠ .keyref) (he : st.errs = []) :
    (runFrom env st (.enter s [c] :: (ns.map fun n => Ev.collect n [c]) ++ [.leave s [c]])).errs = [] ↔
      (offerAll (env.kind c) (scopeRows env c s ns) []).2 = [] := by
  unfold runFrom
  rw [List.cons_append, List.foldl_cons, List.foldl_append]
  obtain ⟨b1, b2, -⟩ := collected_state env c s ns st he
  generalize List.foldl (step env) _ (ns.map _) = fin at b1 b2
  simp only [List.foldl_cons, List.foldl_nil, step, leaveOne, b1]
  rw [if_neg hk]
  exact b2

theorem referTableIn_congr {a b : St} {r : Nat} (h : a.ctrs r = b.ctrs r) :
    referTableIn a r = referTableIn b r := by
  unfold referTableIn; rw [h]

theorem referTableIn_ensureRefer (n r : Nat) (st : St) :
    referTableIn (ensureRefer n st r) r = referTableIn st r := by
  unfold ensureRefer referTableIn
  cases h : st.ctrs r with
  | none => simp [St.put]
  | some k => simp [h]

theorem ensureRefer_errs (n r : Nat) (st : St) : (ensureRefer n st r).errs = st.errs := by
  unfold ensureRefer
  cases st.ctrs r <;> rfl

/-- **one scope, keyref, from any history, the referenced constraint `r` having no scope instance
    inside the block**: the block adds no error exactly when the keyref counter run adds none and
    every collected tuple is in the table that `r`'s counter held *before* the block — the empty
    table when `r` has no counter at all (b32146f: no KeyError any more).  A table left behind by
    a scope instance of `r` *outside* this scope is read here: that is finding C08-F4. -/
theorem keyref_block_iff (env : Env) (c r s : Nat) (ns : List Nat) (st : St)
    (hk : env.kind c = .keyref) (hr : env.refer c = some r) (hne : r ≠ c) (he : st.errs = []) :
    (runFrom env st (.enter s [c] :: (ns.map fun n => Ev.collect n [c]) ++ [.leave s [c]])).errs = [] ↔
      ((offerAll .keyref (scopeRows env c s ns) []).2 = [] ∧
       keyrefErrs c s (offerAll .keyref (scopeRows env c s ns) []).1 (referTableIn st r) = []) := by
  unfold runFrom
  rw [List.cons_append, List.foldl_cons, List.foldl_append]
  obtain ⟨b1, b2, b3⟩ := collected_state env c s ns st he
  generalize List.foldl (step env) _ (ns.map _) = fin at b1 b2 b3
  rw [hk] at b1 b2
  simp only [List.foldl_cons, List.foldl_nil, step, leaveOne, b1, hk, if_true, hr]
  have htab : referTableIn (ensureRefer s (fin.put c ⟨s, false,
        (offerAll .keyref (scopeRows env c s ns) []).1⟩) r) r = referTableIn st r := by
    rw [referTableIn_ensureRefer]
    apply referTableIn_congr
    simp [St.put, hne, b3]
  rw [htab, ensureRefer_errs]
  simp only [St.put, List.append_eq_nil_iff, List.reverse_eq_nil_iff]
  rw [b2, and_comm]

/-- **keyref, the referenced key never occurred** (the region of the former finding C08-F7, now a
    verdict instead of a KeyError): the block adds no error exactly when the keyref rule holds
    against the EMPTY table, i.e. no selected node has all its fields. -/
theorem keyref_absent_refer_iff (env : Env) (c r s : Nat) (ns : List Nat) (st : St)
    (hk : env.kind c = .keyref) (hr : env.refer c = some r) (hne : r ≠ c) (he : st.errs = [])
    (hno : st.ctrs r = none) :
    (runFrom env st (.enter s [c] :: (ns.map fun n => Ev.collect n [c]) ++ [.leave s [c]])).errs = [] ↔
      KeyrefOk (scopeRows env c s ns) ([] : List (List Val)) := by
  rw [keyref_block_iff env c r s ns st hk hr hne he, keyref_errs_nil_iff, keyrefErrs_nil_iff,
    keyref_resolved_iff]
  simp [referTableIn, hno, KeyrefOk, Resolved]

/-! ### the loop of `collect_key_fields` over the open constraints (elements.py:954-992, 1e49c64) -/

/-- `context.identities` is a dict: in every reachable state `order` lists exactly the constraints
    that have a counter, each once (whatever the document and the schema) -/
theorem run_order_inv (env : Env) (evs : List Ev) : OrderInv (run env evs) := by
  unfold run
  exact OrderInv.foldl (fun st ev hs => hs.step env ev) evs OrderInv.init

/-- **every open constraint sees the node, each for itself** (`continue` semantics): after the loop
    over `context.identities`, the counter of every constraint is what the loop body alone makes of
    it — whichever other constraints select the same node, wherever they stand in the dict, and
    whether the node is outside their qualified node set — and the errors raised are the bodies'
    errors in dict order. -/
theorem collectOpen_spec (env : Env) (n : Nat) (st : St) (h : OrderInv st) :
    (∀ c, (step env st (.collectOpen n)).ctrs c = (collectRes env n c (st.ctrs c)).1) ∧
    (step env st (.collectOpen n)).errs =
      (st.order.filterMap fun c => (collectRes env n c (st.ctrs c)).2).reverse ++ st.errs := by
  obtain ⟨h1, h2⟩ := collect_fold_spec env n st.order h.nodup st
  refine ⟨fun c => ?_, h2⟩
  simp only [step]
  rw [h1 c]
  by_cases hc : c ∈ st.order
  · simp [hc]
  · have : st.ctrs c = none := by
      have := (not_congr (h.mem c)).mp hc
      simpa using this
    simp [hc, this, collectRes]

/-- on the counter of `c` the whole loop acts as the loop body for `c` alone -/
theorem collectOpen_proj (env : Env) (n : Nat) (st : St) (h : OrderInv st) (c : Nat) :
    (step env st (.collectOpen n)).ctrs c = (step env st (.collect n [c])).ctrs c := by
  rw [(collectOpen_spec env n st h).1 c]
  simp [step, collectOne_ctrs]

/-- the loop adds no error exactly when no open constraint's body does -/
theorem collectOpen_errs_nil_iff (env : Env) (n : Nat) (st : St) (h : OrderInv st) :
    (step env st (.collectOpen n)).errs = [] ↔
      st.errs = [] ∧ ∀ c ∈ st.order, (collectRes env n c (st.ctrs c)).2 = none := by
  rw [(collectOpen_spec env n st h).2]
  simp only [List.append_eq_nil_iff, List.reverse_eq_nil_iff, List.filterMap_eq_nil_iff]
  exact and_comm

/-- keyref 0 (field @parent, refer 1) declared BEFORE key 1 (field @id), both on scope 1 and both
    selecting the rows 2 and 3: `<tree><node id="1"/><node id="1"/></tree>` — no row has @parent -/
def ptrEnv : Env where
  kind c := if c == 0 then .keyref else .key
  refer c := if c == 0 then some 1 else none
  sel _ s n := s == 1 && (n == 2 || n == 3)
  fields c _ := if c == 0 then [.absent] else [.val (.num 1 0)]

example : OrderInv (step ptrEnv St.init (.enter 1 [0, 1])) := (OrderInv.init).step _ _

/- Why the `continue` of line 984 must not be a `break`: with `break` (`collectBreak`) a row outside
   the qualified node set of the keyref is never offered to the key that follows it in the dict, and
   the duplicate id goes unreported.  (Replayed on the real code by the harness: corpus
   seed3-*.json.) -/
theorem collect_break_counterexample :
    let st0 := step ptrEnv St.init (.enter 1 [0, 1])
    st0.order = [0, 1] ∧
    ¬ KeyOk (scopeRows ptrEnv 1 1 [2, 3]) ∧
    (run ptrEnv [.enter 1 [0, 1], .collectOpen 2, .collectOpen 3, .leave 1 [0, 1]]).errs = [.dup 1 3] ∧
    (let st2 := collectBreak ptrEnv 2 st0.order st0
     let st3 := collectBreak ptrEnv 3 st2.order st2
     (step ptrEnv st3 (.leave 1 [0, 1])).errs = []) := by
  decide +kernel

/-! ### where the per-document machine still deviates: witnesses (replayed on the real code) -/

def v1 : FRes Val := .val (.num 1 0)
def v2 : FRes Val := .val (.num 2 0)

/-- recursive section: scope 1 selects nodes 2 and 4, the nested scope 3 (same declaration) nothing -/
def nestedEnv : Env where
  kind _ := .unique
  refer _ := none
  sel _ s n := s == 1 && (n == 2 || n == 4)
  fields _ _ := [v1]
def nestedEvs : List Ev :=
  [.enter 1 [0], .collect 2 [0], .enter 3 [0], .leave 3 [0], .collect 4 [0], .leave 1 [0]]

/- Full statement: for every well-nested event stream, `(run env evs).errs = []` iff every scope
   instance satisfies its rule.  FALSE for the current algorithm when a scope of a constraint is nested
   in another scope of the same constraint (finding C08-F3): the inner `enter` resets the shared
   counter and the inner `leave` disables it. -/
theorem nested_counterexample :
    ¬ UniqueOk (scopeRows nestedEnv 0 1 [2, 4]) ∧ (run nestedEnv nestedEvs).errs = [] ∧
      (run nestedEnv nestedEvs).nested = [0] := by
  decide +kernel

/-- key 0 on `sec` (scopes 2 and 4), keyref 1 on the root (scope 1) referring to it -/
def spreadEnv : Env where
  kind c := if c == 0 then .key else .keyref
  refer c := if c == 1 then some 0 else none
  sel c s n := (c == 0 && ((s == 2 && n == 3) || (s == 4 && n == 5))) || (c == 1 && s == 1 && n == 6)
  fields _ n := if n == 5 then [v2] else [v1]
def spreadEvs : List Ev :=
  [.enter 1 [1], .enter 2 [0], .collect 3 [0], .leave 2 [0], .enter 4 [0], .collect 5 [0],
   .leave 4 [0], .collect 6 [1], .leave 1 [1]]

/-- finding C08-F4: the key value 1 exists in the first `sec`, the reference to it is reported as
    dangling because only the last scope instance's table is consulted -/
theorem spread_counterexample :
    KeyrefOk (scopeRows spreadEnv 1 1 [6])
      (Q (scopeRows spreadEnv 0 2 [3]) ++ Q (scopeRows spreadEnv 0 4 [5])) ∧
    (run spreadEnv spreadEvs).errs = [.notfound 1 1 1] := by
  decide +kernel

/-- regression witnesses for b32146f (the former finding C08-F7, replayed on the real code by the
    harness): the referenced key's element does not occur.  `<root/>` is valid, and
    `<root><ref f1="1"/></root>` reports the dangling reference — neither raises -/
theorem absent_refer_witness :
    (run spreadEnv [.enter 1 [1], .leave 1 [1]]).errs = [] ∧
    (run spreadEnv [.enter 1 [1], .collect 6 [1], .leave 1 [1]]).errs = [.notfound 1 1 1] ∧
    ¬ KeyrefOk (scopeRows spreadEnv 1 1 [6]) ([] : List (List Val)) := by
  decide +kernel

/-- the hypotheses of `keyref_block_iff` / `keyref_absent_refer_iff` are met by that witness -/
example : spreadEnv.kind 1 = .keyref ∧ spreadEnv.refer 1 = some 0 ∧ (0 : Nat) ≠ 1 ∧
    St.init.errs = [] ∧ St.init.ctrs 0 = none :=
  ⟨by decide, by decide, by decide, rfl, rfl⟩

/-! ### field values are compared in the value space of their declared types -/

/-- **decimal / integer**: the canonical forms the counters key on are equal exactly when the two
    decimals `m₁·10^-s₁` and `m₂·10^-s₂` are the same number (xs:integer values compare with
    xs:decimal values numerically). -/
theorem normDec_eq_iff (s1 s2 : Nat) (m1 m2 : Int) :
    normDec s1 m1 = normDec s2 m2 ↔ m1 * 10 ^ s2 = m2 * 10 ^ s1 := by
  obtain ⟨a1, t1, e1, v1, n1⟩ := normDec_spec s1 m1
  obtain ⟨a2, t2, e2, v2, n2⟩ := normDec_spec s2 m2
  rw [e1, e2]
  constructor
  · intro h
    injection h with ha ht
    subst ha; subst ht
    exact sameDec_trans v1 v2.symm
  · intro h
    obtain ⟨ha, ht⟩ := normal_unique a1 a2 t1 t2 n1 n2 (sameDec_trans (sameDec_trans v1.symm h) v2)
    rw [ha, ht]

example : normDec 2 100 = normDec 0 1 := by decide +kernel
example : parseDecimal "+01.00".toList = parseInteger " 1 ".toList := by decide +kernel
example : parseDecimal "2.50".toList ≠ parseInteger "2".toList := by decide +kernel

/- Full statement: two field values are keyed equal (`untagged`, what the code compares) exactly when
   they are equal in the XSD value space (`tagged`: primitive family × value).
   FALSE for the current code: an xs:string whose text is `{ns}local` equals an xs:QName expanding to
   the same string (`strq_counterexample`, finding C08-F5).  Proved on the region that excludes a
   string compared with a QName; the two values may be read under different namespace maps (two
   field nodes with different declarations in scope). -/
theorem value_space_partial (ns1 ns2 : NsMap) (t1 t2 : Ty) (l1 l2 : String) (a b : SVal)
    (h1 : tagged ns1 (some t1) l1 = some a) (h2 : tagged ns2 (some t2) l2 = some b)
    (hg : ¬ (t1.prim = .string ∧ t2.prim = .qname) ∧ ¬ (t1.prim = .qname ∧ t2.prim = .string)) :
    untagged ns1 (some t1) l1 = untagged ns2 (some t2) l2 ↔ a = b := by
  simp only [tagged, Option.map_eq_some_iff] at h1 h2
  obtain ⟨x, hx, rfl⟩ := h1
  obtain ⟨y, hy, rfl⟩ := h2
  simp only [untagged, hx, hy, Option.some.injEq, Prod.mk.injEq]
  refine ⟨fun h => ⟨?_, h⟩, fun h => h.2⟩
  subst h
  -- one value of both types: its constructor fixes the primitive family, up to string / QName
  have sx := valOf_shape ns1 t1 l1 x hx
  have sy := valOf_shape ns2 t2 l2 x hy
  cases x with
  | num m s => exact sx.trans sy.symm
  | bool b => exact sx.trans sy.symm
  | str s =>
    rcases sx with a | a <;> rcases sy with b | b
    · exact a.trans b.symm
    · exact absurd ⟨a, b⟩ hg.1
    · exact absurd ⟨a, b⟩ hg.2
    · exact a.trans b.symm

example : tagged [] (some .integer) "01" = some (.decimal, .num 1 0) := by decide +kernel

theorem strq_counterexample :
    untagged [("p", "urn:a")] (some .string) "{urn:a}x" = untagged [("p", "urn:a")] (some .qname) "p:x" ∧
    tagged [("p", "urn:a")] (some .string) "{urn:a}x" ≠ tagged [("p", "urn:a")] (some .qname) "p:x" := by
  decide +kernel

/-! ### QName fields are resolved with the declarations in scope of the node that carries them -/

/-- **stack discipline** (unbounded trees, any placement of xmlns declarations): along the walk of
    `raw_decode` — `set_xmlns_context` before every child (groups.py:1008), the purge after the
    content (elements.py:879), *then* `collect_key_fields` (902) — the map read at the collect of
    every element is exactly the declarations in scope of that element: nothing declared on a child,
    a descendant or a preceding sibling is visible any more.  (`sibOk`: siblings are distinct
    objects, the `context.obj is obj` test of the loop.) -/
theorem ns_collect_scope (ns0 : NsMap) (root : Node) (hs : root.sibOk = true) :
    nsCollects ns0 root = root.scopes ns0 := by
  unfold nsCollects
  rw [setCtx_root, nsWalk_spec root 0 ns0 [] hs (by simp)]

theorem nsAt_eq_scopeAt (ns0 : NsMap) (root : Node) (hs : root.sibOk = true) (i : Nat) :
    nsAt ns0 root i = scopeAt ns0 root i := by
  unfold nsAt scopeAt
  rw [ns_collect_scope ns0 root hs]

/-- a selected node `1` with an attribute `p:x` and a trailing child `2` that rebinds `p` -/
def trailingDecl : Node :=
  .mk 1 0 "item" [⟨"f1", "p:x", some .qname, 0⟩] none "" 0 []
    [.mk 2 1 "note" [] (some .string) "x" 0 [("p", "urn:b")] []]

example : trailingDecl.sibOk = true := by decide +kernel

/- Why the collect must come after the purge: right after the content of the element (the state
   `nsWalkList` leaves) the map still holds the declarations of its last child.  A tree that reads
   the field values at that point resolves `p:x` with the child's binding. -/
theorem collect_before_purge_counterexample :
    let st := (nsWalkList 1 trailingDecl.kids (setCtx 1 0 [] ⟨[("p", "urn:a")], []⟩)).2
    parseQName st.cur "p:x".toList = some (.str "{urn:b}x") ∧
    parseQName (nsAt [("p", "urn:a")] trailingDecl 1) "p:x".toList = some (.str "{urn:a}x") ∧
    scopeAt [("p", "urn:a")] trailingDecl 1 = [("p", "urn:a")] := by
  decide +kernel

/-- the primitive family the XSD value of a field item belongs to -/
def tagOf : Option Ty → Prim
  | none => .string
  | some t => t.prim

theorem tagged_eq (ns : NsMap) (t : Option Ty) (l : String) :
    tagged ns t l = (untagged ns t l).map fun v => (tagOf t, v) := by
  cases t <;> simp [tagged, untagged, tagOf]

theorem fieldResG_congr {α : Type} (c1 c2 : Nat → Option Ty → String → Option α) (f : List Path)
    (n : Node) (h : ∀ it ∈ f.flatMap (·.items n), c1 it.1 it.2.1 it.2.2 = c2 it.1 it.2.1 it.2.2) :
    fieldResG c1 f n = fieldResG c2 f n := by
  unfold fieldResG
  generalize f.flatMap (·.items n) = l at h
  match l, h with
  | [], _ => rfl
  | [(o, t, lex)], h => simp only; rw [h (o, t, lex) (by simp)]
  | _ :: _ :: _, _ => rfl

/- Full statement: the value a field of a selected node contributes to its tuple is its value in
   the XSD value space, a QName being resolved with the declarations in scope of the element that
   carries it.  FALSE for the tree before 05a1ca3 (`fscope = false`) when the field selects a child
   element that has xmlns declarations of its own rebinding the prefix used
   (`field_scope_counterexample`, the former finding C08-F8): the map of the *selected* node was
   used.  For that tree it holds on the region where the elements the field reaches have the same
   declarations in scope as the selected node … -/
theorem field_scope_partial (ns0 : NsMap) (root : Node) (f : List Path) (n : Node)
    (hs : root.sibOk = true)
    (hown : ∀ it ∈ f.flatMap (·.items n), scopeAt ns0 root it.1 = scopeAt ns0 root n.id) :
    fieldResG (specConv ns0 root) f n =
      fieldResG (fun o t l => (codeConv false ns0 root n.id o t l).map fun v => (tagOf t, v)) f n := by
  apply fieldResG_congr
  intro it hit
  simp only [specConv, codeConv, Bool.false_eq_true, if_false]
  rw [tagged_eq, hown it hit, nsAt_eq_scopeAt ns0 root hs]

/-- … which contains every field that is an attribute of the selected node (or the node itself):
    no guard is needed for `@name` / `.` fields, wherever xmlns declarations are placed -/
theorem field_scope_self (ns0 : NsMap) (root : Node) (f : List Path) (n : Node)
    (hs : root.sibOk = true) (hf : ∀ p ∈ f, p.desc = false ∧ p.steps = []) :
    fieldResG (specConv ns0 root) f n =
      fieldResG (fun o t l => (codeConv false ns0 root n.id o t l).map fun v => (tagOf t, v)) f n := by
  apply field_scope_partial ns0 root f n hs
  intro it hit
  obtain ⟨p, hp, hit⟩ := List.mem_flatMap.mp hit
  obtain ⟨hd, hst⟩ := hf p hp
  have he : p.elems n = [n] := by simp [Path.elems, hd, hst, evalSteps]
  unfold Path.items at hit
  rw [he] at hit
  cases ha : p.attr with
  | none => simp [ha] at hit; rw [hit]
  | some a =>
    simp only [ha, List.flatMap_cons, List.flatMap_nil, List.append_nil, List.mem_map] at hit
    obtain ⟨x, _, rfl⟩ := hit
    rfl

/-- the tree since 05a1ca3 (`fscope = true`): the full statement, no guard -/
theorem field_scope_repaired (ns0 : NsMap) (root : Node) (f : List Path) (n : Node) :
    fieldResG (specConv ns0 root) f n =
      fieldResG (fun o t l => (codeConv true ns0 root n.id o t l).map fun v => (tagOf t, v)) f n := by
  apply fieldResG_congr
  intro it _
  simp only [specConv, codeConv, if_true]
  rw [tagged_eq]

/-- the witness of the former finding C08-F8 (replayed on the real code by the harness):
    `<item><f1 xmlns:p="urn:b">p:x</f1></item>` under `xmlns:p="urn:a"` -/
def fieldDecl : Node :=
  .mk 1 0 "item" [] none "" 0 []
    [.mk 2 1 "f1" [] (some .qname) "p:x" 0 [("p", "urn:b")] []]

def f1Path : List Path := [⟨false, [.child "f1"], none⟩]

theorem field_scope_counterexample :
    fieldResG (specConv [("p", "urn:a")] fieldDecl) f1Path fieldDecl
      = some (.val (.qname, .str "{urn:b}x")) ∧
    fieldRes false [("p", "urn:a")] fieldDecl f1Path fieldDecl = some (.val (.str "{urn:a}x")) ∧
    fieldRes true [("p", "urn:a")] fieldDecl f1Path fieldDecl = some (.val (.str "{urn:b}x")) := by
  decide +kernel

example : fieldDecl.sibOk = true ∧
    ¬ (∀ it ∈ f1Path.flatMap (·.items fieldDecl),
        scopeAt [("p", "urn:a")] fieldDecl it.1 = scopeAt [("p", "urn:a")] fieldDecl fieldDecl.id) := by
  decide +kernel

/-- **ID / IDREF**: the validator (errors raised on the way plus `_validate_references` at the end
    of the document) reports nothing exactly when no ID value occurs twice and every IDREF value is
    the value of some ID — whatever the order of definitions and references. -/
theorem id_ok_iff (evs : List IdEv) :
    idRun evs = [] ↔ (idsOf evs).Nodup ∧ ∀ r ∈ refsOf evs, r ∈ idsOf evs := by
  unfold idRun
  simp only [List.append_eq_nil_iff, List.reverse_eq_nil_iff, List.map_eq_nil_iff,
    List.filter_eq_nil_iff, List.mem_reverse]
  have h1 := idFold_errs evs ⟨[], [], []⟩
  have h2 := idFold_refs evs ⟨[], [], []⟩
  simp only [List.not_mem_nil, not_false_eq_true, implies_true, and_true, true_and, false_or] at h1 h2
  rw [h1, ← h2]
  simp

example : idRun [.idref "a", .id "a", .id "b"] = [] := by decide +kernel
example : idRun [.id "a", .idref "z", .id "a"] = [.dup "a", .dangling "z"] := by decide +kernel

/-- **ID / IDREF with binders** (XSD 1.1: the attributes of an element and its simple-typed ID
    children share one `id_list`; XSD 1.0: every occurrence has its own binder): the validator
    reports nothing exactly when every ID value is bound to ONE element and every IDREF / IDREFS
    item is the value of some ID — for occurrences at any depth, in any order. -/
theorem id_bound_iff (evs : List BEv) :
    idRun (collapse evs) = [] ↔
      Consistent (bindsOf evs) ∧ ∀ r ∈ brefsOf evs, ∃ b, (r, b) ∈ bindsOf evs := by
  rw [id_ok_iff, collapse_nodup, refsOf_collapse]
  simp only [mem_idsOf_collapse]

/-- the element the validation starts from is a node like any other: unless its own CONTENT is an
    ID (the region of the former finding C08-F9) the occurrences the tree before 49d5aa9
    (`rootReg = false`) recorded are all of them — in particular the ID / IDREF / IDREFS attributes
    of the root are recorded -/
theorem idEvents_root (v11 : Bool) (root : Node) (h : root.ck ≠ 1 ∧ root.ck ≠ 4) :
    idEvents v11 false root = idEvents v11 true root := by
  cases root with
  | mk i d nm a t x ck xm kids =>
    simp only [Node.ck] at h
    simp [idEvents, Node.idEv, h.1, h.2]

/-- `<doc id="a"><item id="b" idr="a"/></doc>`: the ID on the root is found by the reference below
    it, and `<doc id="a"><item id="a"/></doc>` is a duplicate (both XSD versions) -/
def rootIdDoc (v : String) : Node :=
  .mk 0 0 "doc" [⟨"id", "a", none, 1⟩] none "" 0 []
    [.mk 1 1 "item" [⟨"id", v, none, 1⟩, ⟨"idr", "a", none, 2⟩, ⟨"idrs", " a  b ", none, 3⟩] none "" 0 [] []]

theorem root_id_witness :
    idRun (idEvents false false (rootIdDoc "b")) = [] ∧ idRun (idEvents true false (rootIdDoc "b")) = [] ∧
    idRun (idEvents false false (rootIdDoc "a")) = [.dup "a", .dangling "b"] ∧
    idRun (idEvents true false (rootIdDoc "a")) = [.dup "a", .dangling "b"] := by
  decide +kernel

/-- `<e idr="a">a</e>` validated on its own (e: xs:ID simple content + an IDREF attribute) -/
def rootContentDoc : Node := .mk 0 0 "e" [⟨"idr", "a", none, 2⟩] none "a" 4 [] []

/- Full statement: `idEvents v11 false root = idEvents v11 true root` for every root.  FALSE when
   the content of the root element itself is an ID: before 49d5aa9 simple content was decoded at
   level 0, where `elif context.level:` skips it (the former finding C08-F9). -/
theorem root_content_id_counterexample :
    idRun (idEvents false false rootContentDoc) = [.dangling "a"] ∧
    idRun (idEvents false true rootContentDoc) = [] ∧
    ¬ (rootContentDoc.ck ≠ 1 ∧ rootContentDoc.ck ≠ 4) := by
  decide +kernel

/-- XSD 1.1: `<s id="a"><eid>a</eid></s>` binds `a` to `s` twice — accepted; in XSD 1.0 it is a
    duplicate; an ID on a different element is a duplicate in both -/
def sharedListDoc : Node :=
  .mk 0 0 "s" [⟨"id", "a", none, 1⟩] none "" 0 []
    [.mk 1 1 "eid" [] none "a" 1 [] [], .mk 2 1 "eid" [] none " a " 1 [] []]

theorem id_list_witness :
    idRun (idEvents true false sharedListDoc) = [] ∧
    idRun (idEvents false false sharedListDoc) = [.dup "a", .dup "a"] := by
  decide +kernel

end XsVerif.Props.C08
