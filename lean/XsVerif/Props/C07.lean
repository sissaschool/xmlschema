/-
  C07 — dynamic typing, substitution and nil obey derivation, block and abstract rules.
  Scope of the theorems: hierarchies of complex types with complex content (`ComplexOnly`), numbered
  base-before-derived (`WellOrdered`), declared type other than xs:anyType.  Simple types and
  simple-content types are in the model and in the correspondence run; only the `simple_*` /
  `list_never_by_extension` theorems, `instType_spec` and the witnesses speak of them.
-/
import XsVerif.Model.Derivation
namespace XsVerif.Props.C07
open XsVerif.Derivation

/-- S: `Chain h t u ms` — following base-type links from `t` reaches `u`; `ms` lists the
    derivation methods of the steps (first step first). -/
inductive Chain (h : Hier) : Nat → Nat → List (Option Meth) → Prop
  | refl (t : Nat) : t < h.length → Chain h t t []
  | step {t b u : Nat} {ms : List (Option Meth)} {T : TDef} :
      h[t]? = some T → T.base = some b → Chain h b u ms → Chain h t u (T.deriv :: ms)

/-- every base type precedes the types derived from it (what the harness guarantees by numbering) -/
def WellOrdered (h : Hier) : Prop :=
  ∀ (i : Nat) (T : TDef), h[i]? = some T → ∀ b : Nat, T.base = some b → b < i

def ComplexOnly (h : Hier) : Prop := ∀ T ∈ h, T.complex = true ∧ T.simpleContent = false ∧ T.isUnion = false

theorem lt_of_getElem? {α : Type} {l : List α} {i : Nat} {a : α} (h : l[i]? = some a) : i < l.length :=
  (List.getElem?_eq_some_iff.mp h).1

theorem chain_le {h : Hier} (wo : WellOrdered h) {t u ms} (c : Chain h t u ms) : u ≤ t := by
  induction c with
  | refl t _ => exact Nat.le_refl _
  | step hT hb _ ih => have := wo _ _ hT _ hb; omega

theorem chain_self {h : Hier} (wo : WellOrdered h) {t ms} (c : Chain h t t ms) : ms = [] := by
  cases c with
  | refl _ _ => rfl
  | step hT hb c' =>
    have h1 := wo _ _ hT _ hb
    have h2 := chain_le wo c'
    omega

theorem chain_valid {h : Hier} {t u ms} (c : Chain h t u ms) : ∃ T, h[t]? = some T := by
  cases c with
  | refl _ hl => exact ⟨_, List.getElem?_eq_getElem hl⟩
  | step hT _ _ => exact ⟨_, hT⟩

/-- result of the complex `is_derived` in terms of the chain (for `t ≠ u`, `u` not xs:anyType) -/
def DerivedSpec (h : Hier) (t u : Nat) (d : Option Meth) : Prop :=
  ∃ ms, Chain h t u ms ∧ ∀ m, d = some m → some m ∈ ms

theorem derivedSpec_none {h : Hier} {t u : Nat} : DerivedSpec h t u none ↔ ∃ ms, Chain h t u ms := by
  simp only [DerivedSpec, reduceCtorEq, false_implies, implies_true, and_true]

theorem derivedSpec_some {h : Hier} {t u : Nat} {m : Meth} :
    DerivedSpec h t u (some m) ↔ ∃ ms, Chain h t u ms ∧ some m ∈ ms := by
  simp only [DerivedSpec, Option.some.injEq, forall_eq']

theorem clearC_spec (d x : Option Meth) (ms : List (Option Meth)) :
    (∀ m, clearC d x = some m → some m ∈ ms) ↔ ∀ m, d = some m → some m ∈ x :: ms := by
  cases d with
  | none => simp [clearC]
  | some m =>
    by_cases hm : some m = x
    · subst hm; simp [clearC]
    · simp [clearC, hm]

theorem derivedSpec_step {h : Hier} {t u : Nat} {T : TDef} (hT : h[t]? = some T) (hne : t ≠ u)
    (d : Option Meth) :
    DerivedSpec h t u d ↔ ∃ b, T.base = some b ∧ DerivedSpec h b u (clearC d T.deriv) := by
  constructor
  · rintro ⟨ms, c, hd⟩
    cases c with
    | refl _ _ => exact absurd rfl hne
    | step hT' hb c' =>
      rw [hT] at hT'; cases hT'
      exact ⟨_, hb, _, c', (clearC_spec ..).mpr hd⟩
  · rintro ⟨b, hb, ms, c, hd⟩
    exact ⟨_, .step hT hb c, (clearC_spec ..).mp hd⟩

theorem derivedSpec_self {h : Hier} (wo : WellOrdered h) {u : Nat} (hl : u < h.length)
    (d : Option Meth) : DerivedSpec h u u d ↔ d = none := by
  constructor
  · rintro ⟨ms, c, hd⟩
    cases chain_self wo c
    cases d with
    | none => rfl
    | some m => simpa using hd m rfl
  · rintro rfl
    exact ⟨[], .refl u hl, by simp⟩

theorem isDerived_step (q : Quirks) (fuel : Nat) {h : Hier} {t u : Nat} {T U : TDef}
    (hT : h[t]? = some T) (hU : h[u]? = some U) (hc : T.complex = true)
    (hs : T.simpleContent = false) (hUa : U.anyType = false) (hUu : U.isUnion = false) (hne : t ≠ u)
    (d : Option Meth) :
    isDerived q (fuel + 1) h t u d =
      match T.base with
      | none => some false
      | some b =>
        if b = u then some (clearC d T.deriv).isNone else isDerived q fuel h b u (clearC d T.deriv) := by
  have hne' : (t == u) = false := by simpa using hne
  cases hb : T.base <;> simp [isDerived, hT, hU, hc, hs, hne', hUa, hUu, hb]

theorem isDerived_complex (q : Quirks) (h : Hier) (wo : WellOrdered h) (co : ComplexOnly h) (u : Nat) (U : TDef)
    (hU : h[u]? = some U) (hUa : U.anyType = false) :
    ∀ (t fuel : Nat), t < fuel → ∀ (T : TDef), h[t]? = some T → t ≠ u →
      ∀ d, ∃ r, isDerived q fuel h t u d = some r ∧ (r = true ↔ DerivedSpec h t u d) := by
  have hUu : U.isUnion = false := (co U (List.mem_of_getElem? hU)).2.2
  intro t fuel
  induction fuel generalizing t with
  | zero => exact fun hf => absurd hf (Nat.not_lt_zero t)
  | succ fuel ih =>
    intro hf T hT hne d
    have hc := co T (List.mem_of_getElem? hT)
    rw [isDerived_step q fuel hT hU hc.1 hc.2.1 hUa hUu hne, derivedSpec_step hT hne]
    cases hb : T.base with
    | none => exact ⟨false, rfl, by simp⟩
    | some b =>
      have hbt : b < t := wo _ _ hT _ hb
      simp only [Option.some.injEq, exists_eq_left']
      by_cases hbu : b = u
      · subst hbu
        refine ⟨_, if_pos rfl, ?_⟩
        rw [derivedSpec_self wo (lt_of_getElem? hU)]
        simp
      · obtain ⟨B, hB⟩ : ∃ B, h[b]? = some B :=
          ⟨_, List.getElem?_eq_getElem (Nat.lt_trans hbt (lt_of_getElem? hT))⟩
        rw [if_neg hbu]
        exact ih b (by omega) B hB hbu _

/-- **C07, derivation (complex types).**  With every base type numbered before its derived types
    and enough fuel, `is_derived(other)` holds exactly when `other` is reachable through base-type
    links; `is_derived(other, m)` exactly when moreover a step of the chain has method `m`
    (or trivially when both types are the same object). -/
theorem isDerived_spec (q : Quirks) (h : Hier) (wo : WellOrdered h) (co : ComplexOnly h) (t u : Nat) (T U : TDef)
    (hT : h[t]? = some T) (hU : h[u]? = some U) (hUa : U.anyType = false) (fuel : Nat) (hf : t < fuel) :
    (isDerived q fuel h t u none = some true ↔ ∃ ms, Chain h t u ms) ∧
    (∀ m, isDerived q fuel h t u (some m) = some true ↔ (t = u ∨ ∃ ms, Chain h t u ms ∧ some m ∈ ms)) ∧
    (∀ d, ∃ r, isDerived q fuel h t u d = some r) := by
  by_cases htu : t = u
  · subst htu
    have e : ∀ d, isDerived q fuel h t t d = some true := by
      intro d
      cases fuel with
      | zero => exact absurd hf (Nat.not_lt_zero t)
      | succ fuel => simp only [isDerived, hT, (co T (List.mem_of_getElem? hT)).1, ↓reduceIte, BEq.rfl]
    refine ⟨?_, ?_, fun d => ⟨true, e d⟩⟩
    · simp only [e, true_iff]; exact ⟨[], Chain.refl t (lt_of_getElem? hT)⟩
    · intro m; simp [e]
  · have key := isDerived_complex q h wo co u U hU hUa t fuel hf T hT htu
    refine ⟨?_, fun m => ?_, fun d => ?_⟩
    · obtain ⟨r, h1, h2⟩ := key none
      rw [h1, Option.some.injEq, h2, derivedSpec_none]
    · obtain ⟨r, h1, h2⟩ := key (some m)
      rw [h1, Option.some.injEq, h2, derivedSpec_some, or_iff_right htu]
    · obtain ⟨r, h1, -⟩ := key d; exact ⟨r, h1⟩

/-- the verdict folds of `is_blocked` and `check_dynamic_context` over a block set `l` -/
theorem blockFold_spec (q : Quirks) {h : Hier} (wo : WellOrdered h) (co : ComplexOnly h) {t u : Nat} {T U : TDef}
    (hT : h[t]? = some T) (hU : h[u]? = some U) (hUa : U.anyType = false) {fuel : Nat} (hf : t < fuel)
    (hne : t ≠ u) {α : Type} (step : Meth → α → α) {hit : α}
    (h1 : ∀ m a, isDerived q fuel h t u (some m) = some true → step m a = hit)
    (h0 : ∀ m a, isDerived q fuel h t u (some m) = some false → step m a = a) (dflt : α) (l : List Meth) :
    (∃ m ∈ l, ∃ ms, Chain h t u ms ∧ some m ∈ ms) ∧ l.foldr step dflt = hit ∨
    (¬ ∃ m ∈ l, ∃ ms, Chain h t u ms ∧ some m ∈ ms) ∧ l.foldr step dflt = dflt := by
  induction l with
  | nil => exact .inr ⟨by simp, rfl⟩
  | cons x l ih =>
    obtain ⟨r, e, hx⟩ := isDerived_complex q h wo co u U hU hUa t fuel hf T hT hne (some x)
    rw [derivedSpec_some] at hx
    simp only [List.mem_cons, exists_eq_or_imp, ← hx, List.foldr_cons]
    cases r with
    | true => exact .inl ⟨.inl rfl, h1 x _ e⟩
    | false => simpa only [Bool.false_eq_true, false_or, h0 x _ e] using ih

/-- S: the derivation of `t` from the declared type `D` uses a blocked method. -/
def BlockedSpec (h : Hier) (t : Nat) (blk : List Meth) (declTy : Nat) : Prop :=
  t ≠ declTy ∧ ∃ m ∈ blk, ∃ ms, Chain h t declTy ms ∧ some m ∈ ms

/-- **C07, block.**  `is_blocked` holds exactly when the type differs from the declared type and some
    step of its derivation chain uses a method blocked by the element or by the declared type. -/
theorem isBlocked_spec (q : Quirks) (h : Hier) (wo : WellOrdered h) (co : ComplexOnly h) (t dt : Nat) (T D : TDef)
    (hT : h[t]? = some T) (hD : h[dt]? = some D) (hDa : D.anyType = false) (eb : List Meth)
    (fuel : Nat) (hf : t < fuel) :
    ∃ r, isBlocked q fuel h t eb dt = some r ∧ (r = true ↔ BlockedSpec h t (eb ++ D.block) dt) := by
  unfold isBlocked BlockedSpec
  by_cases htd : t = dt
  · subst htd
    exact ⟨false, by simp, by simp⟩
  · have hne : (t == dt) = false := by simpa using htd
    simp only [hne, Bool.false_eq_true, if_false, hD, hDa, Bool.false_and]
    obtain ⟨hx, e⟩ | ⟨hx, e⟩ := blockFold_spec q wo co hT hD hDa hf htd
      (fun m acc => match isDerived q fuel h t dt (some m), acc with
        | some true, _ => some true | some false, a => a | none, _ => none)
      (fun _ _ e => by rw [e]) (fun _ _ e => by rw [e]) (some false) (eb ++ D.block)
    · exact ⟨true, e, iff_of_true rfl ⟨htd, hx⟩⟩
    · exact ⟨false, e, iff_of_false (fun h => nomatch h) fun h => hx h.2⟩

/-! ## xsi:nil -/

/-- S: the xsi:nil attribute (if any) is acceptable. -/
def NilOk (e : EDecl) (i : Inst) : Prop :=
  ∀ v, i.nil = some v →
    e.nillable = true ∧ (v = "0" ∨ v = "1" ∨ v = "false" ∨ v = "true") ∧
    ((v = "1" ∨ v = "true") → e.fixed = false ∧ i.hasText = false ∧ i.hasChildren = false)

/-- S: the element is nilled. -/
def Nilled (i : Inst) : Prop := i.nil = some "1" ∨ i.nil = some "true"

theorem nilStep_tail (f t c : Bool) :
    let r := if f then ([Err.nilFixed], false) else if t || c then ([Err.nilNotEmpty], false) else ([], true)
    (r.1 = [] ↔ f = false ∧ t = false ∧ c = false) ∧ (r.2 = true ↔ f = false ∧ t = false ∧ c = false) := by
  cases f <;> cases t <;> cases c <;> decide

/-- **C07, nil.**  No nil error is reported exactly when xsi:nil is absent, or the element is
    nillable, the value is a boolean and — for a true value — the element has no fixed value and no
    content; the content is skipped exactly for an accepted true value. -/
theorem nil_checks_iff (e : EDecl) (i : Inst) :
    ((nilStep e i).1 = [] ↔ NilOk e i) ∧ ((nilStep e i).2 = true ↔ (NilOk e i ∧ Nilled i)) := by
  unfold nilStep NilOk Nilled
  cases hn : i.nil with
  | none => simp
  | some v =>
    simp only [Option.some.injEq, forall_eq']
    cases hnl : e.nillable
    · simp
    · have tl := nilStep_tail e.fixed i.hasText i.hasChildren
      generalize (if e.fixed = true then _ else _) = r at tl ⊢
      by_cases hv : v = "0" ∨ v = "1" ∨ v = "false" ∨ v = "true"
      · rcases hv with rfl | rfl | rfl | rfl <;> simp [tl]
      · simp only [not_or] at hv
        simp [hv]

/-! ## xsi:type and the governing type -/

/-- S: the xsi:type attribute is acceptable for element `e` and `g` is the governing type. -/
def Governs (h : Hier) (e : EDecl) (x : XsiAttr) (g : Nat) : Prop :=
  match x with
  | .absent => g = e.ty
  | .unknown => False
  | .named t => g = t ∧ (∃ ms, Chain h t e.ty ms) ∧
      ∀ D, h[e.ty]? = some D → ¬ BlockedSpec h t (e.block ++ D.block) e.ty

theorem instType_complex (q : Quirks) (h : Hier) (fuel t d : Nat) (D : TDef) (hD : h[d]? = some D)
    (hc : D.complex = true) : instType q fuel h t d = isDerived q fuel h t d none := by
  unfold instType
  cases hr : isDerived q fuel h t d none with
  | none => rfl
  | some r => cases r <;> simp [hD, hc]

theorem instType_true_iff (q : Quirks) (h : Hier) (wo : WellOrdered h) (co : ComplexOnly h) {d : Nat}
    {D : TDef} (hD : h[d]? = some D) (hDa : D.anyType = false) (fuel : Nat) (hf : h.length ≤ fuel)
    (t : Nat) : instType q fuel h t d = some true ↔ ∃ ms, Chain h t d ms := by
  rw [instType_complex q h fuel t d D hD (co D (List.mem_of_getElem? hD)).1]
  cases hT : h[t]? with
  | none =>
    have hnone : isDerived q fuel h t d none = none := by cases fuel <;> simp [isDerived, hT]
    rw [hnone]
    refine iff_of_false (fun hh => nomatch hh) fun ⟨ms, c⟩ => ?_
    obtain ⟨T, hT'⟩ := chain_valid c
    rw [hT] at hT'; cases hT'
  | some T =>
    exact (isDerived_spec q h wo co t d T D hT hD hDa fuel (Nat.lt_of_lt_of_le (lt_of_getElem? hT) hf)).1

theorem xsiStep_named_ok_iff (q : Quirks) (fuel : Nat) (h : Hier) (e : EDecl) (d t g : Nat) :
    xsiStep q fuel h e d (.named t) = ([], g) ↔
      g = t ∧ instType q fuel h t d = some true ∧ isBlocked q fuel h t e.block e.ty = some false := by
  simp only [xsiStep]
  cases instType q fuel h t d with
  | none => simp
  | some r =>
    cases r
    · simp
    · cases isBlocked q fuel h t e.block e.ty with
      | none => simp
      | some b => cases b <;> simp [eq_comm]

/-- **C07, xsi:type.**  The xsi:type step reports no error and hands type `g` to the rest of the
    validation exactly when `Governs` holds. -/
theorem xsi_checks_iff (q : Quirks) (h : Hier) (wo : WellOrdered h) (co : ComplexOnly h) (e : EDecl) (D : TDef)
    (hD : h[e.ty]? = some D) (hDa : D.anyType = false) (fuel : Nat) (hf : h.length ≤ fuel)
    (x : XsiAttr) (g : Nat) :
    xsiStep q fuel h e e.ty x = ([], g) ↔ Governs h e x g := by
  cases x with
  | absent => simp [xsiStep, Governs, eq_comm]
  | unknown => simp [xsiStep, Governs]
  | named t =>
    rw [xsiStep_named_ok_iff, instType_true_iff q h wo co hD hDa fuel hf]
    refine and_congr_right fun _ => and_congr_right fun ⟨ms, c⟩ => ?_
    obtain ⟨T, hT⟩ := chain_valid c
    obtain ⟨rb, hb1, hb2⟩ := isBlocked_spec q h wo co t e.ty T D hT hD hDa e.block fuel
      (Nat.lt_of_lt_of_le (lt_of_getElem? hT) hf)
    simp [hb1, hD, ← hb2]

/-- S: the element instance is valid as far as dynamic typing, nil and content are concerned. -/
def ElementOk (h : Hier) (cs : CSem) (e : EDecl) (i : Inst) : Prop :=
  ∃ g G, Governs h e i.xsi g ∧ h[g]? = some G ∧ G.abstract = false ∧ NilOk e i ∧
    (¬ Nilled i → cs.contentOk g i.variant = true ∧ (e.fixed = true → cs.fixedOk g i.variant = true))

theorem elementErrs_nil_iff (q : Quirks) (fuel : Nat) (h : Hier) (cs : CSem) (e : EDecl) (d : Nat)
    (i : Inst) :
    elementErrs q fuel h cs e d i = [] ↔
      ∃ g G, xsiStep q fuel h e d i.xsi = ([], g) ∧ h[g]? = some G ∧ G.abstract = false ∧
        (nilStep e i).1 = [] ∧
        ((nilStep e i).2 = false →
          cs.contentOk g i.variant = true ∧ (e.fixed = true → cs.fixedOk g i.variant = true)) := by
  unfold elementErrs
  rcases xsiStep q fuel h e d i.xsi with ⟨xe, gov⟩
  rcases nilStep e i with ⟨ne, nilled⟩
  simp only [Prod.mk.injEq, and_assoc, exists_and_left, exists_eq_left', List.append_eq_nil_iff]
  refine and_congr_right fun _ => ?_
  cases h[gov]? with
  | none => simp
  | some G =>
    simp only [Option.some.injEq, exists_eq_left']
    cases nilled <;> simp

/-- **C07, element level.**  The decision part of `raw_decode` reports no error exactly when the
    xsi:type attribute is acceptable, the governing type (the named type when xsi:type is present)
    is not abstract, xsi:nil is acceptable and — unless nilled — the content is valid for the
    *governing* type and agrees with the fixed value. -/
theorem element_valid_iff (q : Quirks) (h : Hier) (wo : WellOrdered h) (co : ComplexOnly h) (cs : CSem) (e : EDecl)
    (D : TDef) (hD : h[e.ty]? = some D) (hDa : D.anyType = false) (fuel : Nat) (hf : h.length ≤ fuel)
    (i : Inst) :
    elementErrs q fuel h cs e e.ty i = [] ↔ ElementOk h cs e i := by
  obtain ⟨hn1, hn2⟩ := nil_checks_iff e i
  rw [elementErrs_nil_iff]
  simp only [xsi_checks_iff q h wo co e D hD hDa fuel hf, hn1]
  refine exists_congr fun g => exists_congr fun G => and_congr_right fun _ => and_congr_right fun _ =>
    and_congr_right fun _ => and_congr_right fun hnil => ?_
  rw [← Bool.not_eq_true, hn2, and_iff_right hnil]

/-! ## union members (get_instance_type) -/

/-- **C07, xsi:type naming a member of a union.**  `get_instance_type` accepts the named type exactly
    when it is derived from the declared type, or the declared type is a simple union-like type without
    facets and the named type is a DIRECT member of that union (of the union that is the primitive type
    of a facet-less restriction). -/
theorem instType_spec (q : Quirks) (fuel : Nat) (h : Hier) (t d : Nat) (D : TDef) (hD : h[d]? = some D)
    (r : Bool) (hr : isDerived q fuel h t d none = some r) :
    instType q fuel h t d = some true ↔
      (r = true ∨ (D.complex = false ∧ D.unionLike = true ∧ D.facets = false ∧
        ((∃ p P, D.primUnion = some p ∧ h[p]? = some P ∧ t ∈ P.members) ∨
         (D.primUnion = none ∧ D.isUnion = true ∧ t ∈ D.members)))) := by
  unfold instType
  rw [hr]
  cases r with
  | true => simp only [exists_and_left, true_or]
  | false =>
    simp only [hD, Bool.false_eq_true, false_or]
    have hC : (!D.complex && D.unionLike && !D.facets) = true ↔
        D.complex = false ∧ D.unionLike = true ∧ D.facets = false := by
      simp only [Bool.and_eq_true, Bool.not_eq_eq_eq_not, Bool.not_true, and_assoc]
    by_cases hc : (!D.complex && D.unionLike && !D.facets) = true
    · obtain ⟨c1, c2, c3⟩ := hC.mp hc
      rw [if_pos hc]
      simp only [c1, c2, c3, true_and]
      cases hp : D.primUnion with
      | none => cases hi : D.isUnion <;> simp
      | some p => cases hP : h[p]? <;> simp [hP]
    · rw [if_neg hc]
      exact iff_of_false (fun hh => nomatch hh) fun ⟨c1, c2, c3, _⟩ => hc (hC.mpr ⟨c1, c2, c3⟩)

/-! ## substitution groups -/

/-- S: `m` is (transitively) in the substitution group of `head`: a path of `substitutionGroup`
    links, none of whose targets blocks substitution. -/
inductive Reach (es : List EDecl) : Nat → Nat → Prop
  | direct {m p : Nat} {M P : EDecl} : es[m]? = some M → M.subst = some p → es[p]? = some P →
      P.blockSubst = false → Reach es m p
  | trans {m p head : Nat} {M P : EDecl} : es[m]? = some M → M.subst = some p → es[p]? = some P →
      P.blockSubst = false → Reach es p head → Reach es m head

/-- heads are numbered before their members -/
def EWellOrdered (es : List EDecl) : Prop :=
  ∀ (i : Nat) (E : EDecl), es[i]? = some E → ∀ p : Nat, E.subst = some p → p < i

theorem reach_iff {es : List EDecl} {m head : Nat} {M : EDecl} (hM : es[m]? = some M) :
    Reach es m head ↔ ∃ p P, M.subst = some p ∧ es[p]? = some P ∧ P.blockSubst = false ∧
      (p = head ∨ Reach es p head) := by
  constructor
  · intro r
    cases r with
    | direct h1 h2 h3 h4 => rw [hM] at h1; cases h1; exact ⟨_, _, h2, h3, h4, .inl rfl⟩
    | trans h1 h2 h3 h4 r' => rw [hM] at h1; cases h1; exact ⟨_, _, h2, h3, h4, .inr r'⟩
  · rintro ⟨p, P, hs, hP, hb, rfl | r'⟩
    · exact .direct hM hs hP hb
    · exact .trans hM hs hP hb r'

theorem reaches_succ (fuel : Nat) {es : List EDecl} {m p : Nat} {M P : EDecl} (hM : es[m]? = some M)
    (hs : M.subst = some p) (hP : es[p]? = some P) (head : Nat) :
    reaches (fuel + 1) es m head =
      if P.blockSubst then some false else if p == head then some true else reaches fuel es p head := by
  simp only [reaches, hM, hs, hP]

theorem reaches_spec (es : List EDecl) (wo : EWellOrdered es) (head : Nat) :
    ∀ (m fuel : Nat), m < fuel → ∀ M, es[m]? = some M →
      ∃ r, reaches fuel es m head = some r ∧ (r = true ↔ Reach es m head) := by
  intro m fuel
  induction fuel generalizing m with
  | zero => exact fun hf => absurd hf (Nat.not_lt_zero m)
  | succ fuel ih =>
    intro hf M hM
    rw [reach_iff hM]
    cases hs : M.subst with
    | none => exact ⟨false, by simp only [reaches, hM, hs], by simp⟩
    | some p =>
      have hpm : p < m := wo _ _ hM _ hs
      obtain ⟨P, hP⟩ : ∃ P, es[p]? = some P :=
        ⟨_, List.getElem?_eq_getElem (Nat.lt_trans hpm (lt_of_getElem? hM))⟩
      obtain ⟨r, h1, h2⟩ := ih p (by omega) P hP
      rw [reaches_succ fuel hM hs hP]
      simp only [hP, Option.some.injEq, exists_and_left, exists_eq_left']
      cases hb : P.blockSubst with
      | true => exact ⟨false, rfl, by simp⟩
      | false =>
        by_cases hph : p = head
        · exact ⟨true, by simp [hph], by simp [hph]⟩
        · exact ⟨r, by simp [hph, h1], by simp [hph, h2]⟩

/-- S: element `m` may stand in place of `head`. -/
def SubstOk (h : Hier) (es : List EDecl) (head m : Nat) : Prop :=
  ∃ H M D, es[head]? = some H ∧ es[m]? = some M ∧ h[H.ty]? = some D ∧
    Reach es m head ∧ M.abstract = false ∧ H.blockSubst = false ∧
    ¬ BlockedSpec h M.ty (H.block ++ D.block) H.ty

theorem substOk_iff {h : Hier} {es : List EDecl} {head m : Nat} {H M : EDecl} {D : TDef}
    (hH : es[head]? = some H) (hM : es[m]? = some M) (hD : h[H.ty]? = some D) :
    SubstOk h es head m ↔ Reach es m head ∧ M.abstract = false ∧ H.blockSubst = false ∧
      ¬ BlockedSpec h M.ty (H.block ++ D.block) H.ty := by
  simp only [SubstOk, hH, hM, Option.some.injEq, exists_and_left, exists_eq_left', hD]

theorem substVerdict_accepted_iff (q : Quirks) (fuel : Nat) (h : Hier) {es : List EDecl} {head m : Nat}
    {H M : EDecl} (hH : es[head]? = some H) (hM : es[m]? = some M) :
    substVerdict q fuel h es head m = .accepted ↔
      reaches fuel es m head = some true ∧ M.abstract = false ∧ H.blockSubst = false ∧
        isBlocked q fuel h M.ty H.block H.ty = some false := by
  simp only [substVerdict, hH, hM]
  cases reaches fuel es m head with
  | none => simp
  | some r =>
    cases r
    · simp
    · cases M.abstract
      · cases H.blockSubst
        · cases isBlocked q fuel h M.ty H.block H.ty with
          | none => simp
          | some b => cases b <;> simp
        · simp
      · simp

/-- **C07, substitution.**  A member is accepted in place of its head exactly when it is
    (transitively) in the head's substitution group through links that do not block substitution,
    it is not abstract, the head does not block substitution and the derivation of the member's
    type from the head's type uses no method blocked by the head or the head's type. -/
theorem subst_accept_iff (q : Quirks) (h : Hier) (wo : WellOrdered h) (co : ComplexOnly h) (es : List EDecl)
    (ewo : EWellOrdered es) (head m : Nat) (H M : EDecl) (hH : es[head]? = some H)
    (hM : es[m]? = some M) (TM D : TDef) (hTM : h[M.ty]? = some TM) (hD : h[H.ty]? = some D)
    (hDa : D.anyType = false) (fuel : Nat) (hf1 : h.length ≤ fuel) (hf2 : es.length ≤ fuel) :
    substVerdict q fuel h es head m = .accepted ↔ SubstOk h es head m := by
  obtain ⟨r, hr1, hr2⟩ := reaches_spec es ewo head m fuel (Nat.lt_of_lt_of_le (lt_of_getElem? hM) hf2) M hM
  obtain ⟨rb, hb1, hb2⟩ := isBlocked_spec q h wo co M.ty H.ty TM D hTM hD hDa H.block fuel
    (Nat.lt_of_lt_of_le (lt_of_getElem? hTM) hf1)
  rw [substVerdict_accepted_iff q fuel h hH hM, substOk_iff hH hM hD, hr1, hb1, ← hr2, ← hb2]
  simp

/-- **C07, substitution, block declared on the head's TYPE only.**  Even when the head element's own
    block is EMPTY (no method and no 'substitution': absent with an empty blockDefault, or `block=""`
    overriding blockDefault), a member whose type's derivation from the head's type uses a method
    listed in the block of the head's TYPE is not accepted: the blocking set is the union of the two. -/
theorem subst_type_block_alone (q : Quirks) (h : Hier) (wo : WellOrdered h) (co : ComplexOnly h) (es : List EDecl)
    (ewo : EWellOrdered es) (head m : Nat) (H M : EDecl) (hH : es[head]? = some H)
    (hM : es[m]? = some M) (TM D : TDef) (hTM : h[M.ty]? = some TM) (hD : h[H.ty]? = some D)
    (hDa : D.anyType = false) (fuel : Nat) (hf1 : h.length ≤ fuel) (hf2 : es.length ≤ fuel)
    (_hbe : H.block = []) (_hbs : H.blockSubst = false)
    (mth : Meth) (hm : mth ∈ D.block) (ms : List (Option Meth)) (hc : Chain h M.ty H.ty ms)
    (hin : some mth ∈ ms) (hne : M.ty ≠ H.ty) :
    substVerdict q fuel h es head m ≠ .accepted := by
  rw [Ne, subst_accept_iff q h wo co es ewo head m H M hH hM TM D hTM hD hDa fuel hf1 hf2,
    substOk_iff hH hM hD]
  exact fun ⟨_, _, _, hnb⟩ => hnb ⟨hne, mth, List.mem_append.mpr (Or.inr hm), ms, hc, hin⟩

/-- With an empty head block the verdict is decided by the block of the head's type alone. -/
theorem subst_accept_empty_head_block (q : Quirks) (h : Hier) (wo : WellOrdered h) (co : ComplexOnly h)
    (es : List EDecl) (ewo : EWellOrdered es) (head m : Nat) (H M : EDecl) (hH : es[head]? = some H)
    (hM : es[m]? = some M) (TM D : TDef) (hTM : h[M.ty]? = some TM) (hD : h[H.ty]? = some D)
    (hDa : D.anyType = false) (fuel : Nat) (hf1 : h.length ≤ fuel) (hf2 : es.length ≤ fuel)
    (hbe : H.block = []) (hbs : H.blockSubst = false) :
    substVerdict q fuel h es head m = .accepted ↔
      (Reach es m head ∧ M.abstract = false ∧ ¬ BlockedSpec h M.ty D.block H.ty) := by
  rw [subst_accept_iff q h wo co es ewo head m H M hH hM TM D hTM hD hDa fuel hf1 hf2,
    substOk_iff hH hM hD, hbe, List.nil_append]
  simp [hbs]

/-! ## substitution combined with xsi:type -/

/-- S: what the head element's own block says about the xsi:type of a substitute. -/
def HeadAllows (h : Hier) (H : EDecl) (x : XsiAttr) : Prop :=
  match x with
  | .named t => t = H.ty ∨ ∀ m ∈ H.block, ¬ ∃ ms, Chain h t H.ty ms ∧ some m ∈ ms
  | _ => True

/-- S: the xsi:type of a substitute names an existing type derived from the MEMBER's declared type. -/
def XsiDerives (h : Hier) (M : EDecl) (x : XsiAttr) : Prop :=
  match x with
  | .absent => True
  | .unknown => False
  | .named t => ∃ ms, Chain h t M.ty ms

/-- **C07, substitution combined with xsi:type (dynamic context).**  `check_dynamic_context` raises
    nothing exactly when the head does not block substitution, no step from the member's declared type
    to the head's type is blocked by the head or the head's type, the xsi:type (if any) is derived from
    the MEMBER's declared type, and no step from the xsi type to the head's type uses a method in the
    HEAD ELEMENT's block (the block of the head's type and of intermediate types is not consulted). -/
theorem dynContext_ok_iff (q : Quirks) (h : Hier) (wo : WellOrdered h) (co : ComplexOnly h) (H M : EDecl)
    (TM D : TDef) (hTM : h[M.ty]? = some TM) (hD : h[H.ty]? = some D) (hDa : D.anyType = false)
    (hMa : TM.anyType = false) (fuel : Nat) (hf : h.length ≤ fuel) (x : XsiAttr) :
    dynContextErrs q fuel h H M x = [] ↔
      (H.blockSubst = false ∧ ¬ BlockedSpec h M.ty (H.block ++ D.block) H.ty ∧ XsiDerives h M x ∧
       HeadAllows h H x) := by
  obtain ⟨rb, hb1, hb2⟩ := isBlocked_spec q h wo co M.ty H.ty TM D hTM hD hDa H.block fuel
    (Nat.lt_of_lt_of_le (lt_of_getElem? hTM) hf)
  unfold dynContextErrs
  rw [hb1, ← hb2]
  cases H.blockSubst with
  | true => simp
  | false =>
    cases rb with
    | true => simp
    | false =>
      simp only [Bool.false_eq_true, if_false, not_false_eq_true, true_and]
      cases x with
      | absent => simp [XsiDerives, HeadAllows]
      | unknown => simp [XsiDerives]
      | named t =>
        simp only [XsiDerives, HeadAllows, ← instType_true_iff q h wo co hTM hMa fuel hf]
        cases hi : instType q fuel h t M.ty with
        | none => exact iff_of_false (fun h => nomatch h) fun h => nomatch h.1
        | some r =>
          cases r
          · exact iff_of_false (fun h => nomatch h) fun h => nomatch h.1
          · by_cases hth : t = H.ty
            · exact iff_of_true (if_pos (beq_iff_eq.mpr hth)) ⟨rfl, Or.inl hth⟩
            · obtain ⟨ms, c⟩ := (instType_true_iff q h wo co hTM hMa fuel hf t).mp hi
              obtain ⟨T, hT⟩ := chain_valid c
              rw [if_neg (by simpa using hth)]
              obtain ⟨hx, e⟩ | ⟨hx, e⟩ := blockFold_spec q wo co hT hD hDa
                (Nat.lt_of_lt_of_le (lt_of_getElem? hT) hf) hth
                (fun m acc => match isDerived q fuel h t H.ty (some m), acc with
                  | some true, _ => [Err.headBlocked] | some false, a => a | none, _ => [Err.fuel])
                (fun _ _ e => by rw [e]) (fun _ _ e => by rw [e]) [] H.block
              · obtain ⟨m, hm, c⟩ := hx
                exact iff_of_false (fun h' => nomatch e.symm.trans h') fun h' => h'.2.elim hth fun hn => hn m hm c
              · exact iff_of_true e ⟨rfl, .inr fun m hm c => hx ⟨m, hm, c⟩⟩

/-- The verdict of the dynamic context does not depend on the `block` of any type other than the
    head's type, nor on the extension/restriction block of the member element: in particular the
    blocks of INTERMEDIATE types of the derivation chain are ignored by the code. -/
theorem dynContext_ignores_member_block (q : Quirks) (fuel : Nat) (h : Hier) (H M : EDecl) (x : XsiAttr)
    (b : List Meth) :
    dynContextErrs q fuel h H { M with block := b } x = dynContextErrs q fuel h H M x := rfl

/-- **C07, a substitute that carries xsi:type.**  The child is accepted exactly when the member is
    (transitively) in the head's substitution group through non-blocking links and not abstract, the
    head blocks neither substitution nor a step from the member's type to the head's type, the xsi:type
    is derived from the member's type and uses no method of the head element's block on its way to the
    head's type, and the element is valid for the MEMBER's declaration. -/
theorem substXsi_accept_iff (q : Quirks) (h : Hier) (wo : WellOrdered h) (co : ComplexOnly h) (cs : CSem)
    (es : List EDecl) (ewo : EWellOrdered es) (head m : Nat) (H M : EDecl) (hH : es[head]? = some H)
    (hM : es[m]? = some M) (TM D : TDef) (hTM : h[M.ty]? = some TM) (hD : h[H.ty]? = some D)
    (hDa : D.anyType = false) (hMa : TM.anyType = false) (fuel : Nat) (hf1 : h.length ≤ fuel)
    (hf2 : es.length ≤ fuel) (i : Inst) :
    substXsiErrs q fuel h cs es head m i = some [] ↔
      (Reach es m head ∧ M.abstract = false ∧ H.blockSubst = false ∧
       ¬ BlockedSpec h M.ty (H.block ++ D.block) H.ty ∧ XsiDerives h M i.xsi ∧ HeadAllows h H i.xsi ∧
       ElementOk h cs M i) := by
  obtain ⟨r, hr1, hr2⟩ := reaches_spec es ewo head m fuel (Nat.lt_of_lt_of_le (lt_of_getElem? hM) hf2) M hM
  have hdyn := dynContext_ok_iff q h wo co H M TM D hTM hD hDa hMa fuel hf1 i.xsi
  have hel := element_valid_iff q h wo co cs M TM hTM hMa fuel hf1 i
  unfold substXsiErrs
  simp only [hH, hM, hr1]
  rw [← hr2]
  cases r with
  | false => simp
  | true =>
    cases ha : M.abstract with
    | true => simp
    | false =>
      simp only [Bool.false_eq_true, if_false, Option.some.injEq, List.append_eq_nil_iff, hdyn, hel,
        true_and, and_assoc]

/-! ## type alternatives -/

theorem selectAlt_cons (a : Bool × Bool × Nat) (rest : List (Bool × Bool × Nat)) (dflt : Nat) :
    selectAlt (a :: rest) dflt = if !a.1 || a.2.1 then a.2.2 else selectAlt rest dflt := by
  obtain ⟨ht, r, ty⟩ := a; rfl

/-- **C07, XSD 1.1 type alternatives.**  The selected type is the type of the first alternative
    whose test holds (an alternative without test always holds), else the declared type. -/
theorem alternatives_first_match (alts : List (Bool × Bool × Nat)) (dflt : Nat) :
    (∀ (k ty : Nat), (∀ j, j < k → ∀ a : Bool × Bool × Nat, alts[j]? = some a → (a.1 = true ∧ a.2.1 = false)) →
        (∃ a : Bool × Bool × Nat, alts[k]? = some a ∧ (a.1 = false ∨ a.2.1 = true) ∧ a.2.2 = ty) →
        selectAlt alts dflt = ty) ∧
    ((∀ a ∈ alts, a.1 = true ∧ a.2.1 = false) → selectAlt alts dflt = dflt) := by
  have miss : ∀ {a : Bool × Bool × Nat}, a.1 = true ∧ a.2.1 = false → ¬ (!a.1 || a.2.1) = true :=
    fun h => by simp [h.1, h.2]
  induction alts with
  | nil =>
    refine ⟨?_, fun _ => rfl⟩
    rintro k ty - ⟨a, ha, -⟩; simp at ha
  | cons x rest ih =>
    rw [selectAlt_cons]
    constructor
    · intro k ty hprev ⟨a, ha, hok, hty⟩
      cases k with
      | zero =>
        cases ha
        rw [if_pos (by rcases hok with h | h <;> simp [h]), hty]
      | succ k =>
        rw [if_neg (miss (hprev 0 (by omega) x rfl))]
        exact ih.1 k ty (fun j hj a' ha' => hprev (j + 1) (by omega) a' ha') ⟨a, ha, hok, hty⟩
    · intro hall
      rw [if_neg (miss (hall x (List.mem_cons_self ..)))]
      exact ih.2 fun a ha => hall a (List.mem_cons_of_mem _ ha)

/-! ## XSD 1.1 type alternatives with evaluated tests -/

/-- **C07, type alternatives end to end.**  With the tests evaluated over the element's attributes,
    the governing type is the type of the FIRST alternative that has no test or whose test holds;
    the declared type when there is none. -/
theorem selectAltT_first_match (attrs : List (String × String)) (alts : List (Option Test × Nat))
    (dflt : Nat) :
    selectAltT attrs alts dflt = ((alts.find? (altHolds attrs)).map (·.2)).getD dflt := by
  induction alts with
  | nil => rfl
  | cons a rest ih =>
    unfold selectAltT
    cases hh : altHolds attrs a <;> simp [List.find?, hh, ih]

/-- Position form: the alternatives before the selected one all have a test that is false. -/
theorem selectAltT_position (attrs : List (String × String)) (pre : List (Option Test × Nat))
    (a : Option Test × Nat) (post : List (Option Test × Nat)) (dflt : Nat)
    (hpre : ∀ b ∈ pre, altHolds attrs b = false) (ha : altHolds attrs a = true) :
    selectAltT attrs (pre ++ a :: post) dflt = a.2 := by
  rw [selectAltT_first_match,
    List.find?_eq_some_iff_append.mpr ⟨ha, pre, post, rfl, fun b hb => by rw [hpre b hb]; rfl⟩]
  rfl

theorem selectAltT_default (attrs : List (String × String)) (alts : List (Option Test × Nat)) (dflt : Nat)
    (hall : ∀ b ∈ alts, altHolds attrs b = false) : selectAltT attrs alts dflt = dflt := by
  rw [selectAltT_first_match, List.find?_eq_none.mpr fun b hb => by rw [hall b hb]; exact Bool.false_ne_true]
  rfl

/-- **C07, type alternatives with inherited attributes.**  First match again, where an alternative
    applies when its test holds on the own attributes or on the inherited attributes overridden by the
    own ones. -/
theorem selectAltI_first_match (own inh : List (String × String)) (alts : List (Option Test × Nat))
    (dflt : Nat) :
    selectAltI own inh alts dflt = ((alts.find? (altHoldsI own inh)).map (·.2)).getD dflt := by
  induction alts with
  | nil => rfl
  | cons a rest ih =>
    unfold selectAltI
    cases hh : altHoldsI own inh a <;> simp [List.find?, hh, ih]

/-- An alternative naming ANY type (the declared type included) shadows every later alternative. -/
theorem selectAltI_position (own inh : List (String × String)) (pre : List (Option Test × Nat))
    (a : Option Test × Nat) (post : List (Option Test × Nat)) (dflt : Nat)
    (hpre : ∀ b ∈ pre, altHoldsI own inh b = false) (ha : altHoldsI own inh a = true) :
    selectAltI own inh (pre ++ a :: post) dflt = a.2 := by
  rw [selectAltI_first_match,
    List.find?_eq_some_iff_append.mpr ⟨ha, pre, post, rfl, fun b hb => by rw [hpre b hb]; rfl⟩]
  rfl

/-- Without inherited attributes the two selections coincide. -/
theorem selectAltI_no_inherited (own : List (String × String)) (alts : List (Option Test × Nat))
    (dflt : Nat) : selectAltI own [] alts dflt = selectAltT own alts dflt := by
  induction alts with
  | nil => rfl
  | cons a rest ih => simp [selectAltI, selectAltT, altHoldsI, ih]

/-- An own attribute overrides an inherited one of the same name. -/
theorem attrVal_own_overrides (own inh : List (String × String)) (a w : String)
    (ho : attrVal own a = some w) : attrVal (own ++ inh) a = some w := by
  induction own with
  | nil => simp [attrVal] at ho
  | cons p rest ih =>
    obtain ⟨k, v⟩ := p
    simp only [List.cons_append, attrVal] at ho ⊢
    by_cases hk : (k == a) = true
    · simp [hk] at ho ⊢; exact ho
    · simp [hk] at ho ⊢; exact ih ho

/-- A missing attribute makes `=` AND `!=` false (general comparison with the empty sequence), so
    `not(@a = 'v')` holds while `@a != 'v'` does not. -/
theorem evalTest_missing (attrs : List (String × String)) (a v : String) (hm : attrVal attrs a = none) :
    evalTest attrs (.eq a v) = false ∧ evalTest attrs (.ne a v) = false ∧
    evalTest attrs (.has a) = false ∧ evalTest attrs (.not (.eq a v)) = true := by
  simp [evalTest, hm]

/-- For a present attribute `!=` is the negation of `=`. -/
theorem evalTest_present (attrs : List (String × String)) (a v w : String) (hp : attrVal attrs a = some w) :
    evalTest attrs (.ne a v) = !evalTest attrs (.eq a v) ∧ evalTest attrs (.has a) = true ∧
    (evalTest attrs (.eq a v) = true ↔ w = v) := by
  simp [evalTest, hp, bne]

/-! ## simple types -/

/-- the simple variant reads the requested mode only through `clearS` (simple_types.py:420-424) -/
theorem isDerived_simple (q : Quirks) (fuel : Nat) {h : Hier} {t u : Nat} {T U : TDef} (hT : h[t]? = some T)
    (hU : h[u]? = some U) (hs : T.complex = false) (hl : T.isList = false) :
    ∃ k : Option Meth → Option Bool, ∀ d,
      isDerived q (fuel + 1) h t u d = (clearS q d T.deriv).elim (some false) k := by
  constructor
  intro d
  simp only [isDerived, hT, hU, hs, hl, Bool.false_eq_true, if_false]
  cases clearS q d T.deriv with
  | none => rfl
  | some d' => exact rfl

/-- A simple type defined by restriction is never derived "by extension" from another type: the
    simple variant answers `False` at the first step whose method differs from the requested one,
    so `block="extension"` can never block a simple type. -/
theorem simple_not_derived_by_extension (q : Quirks) (h : Hier) (t u : Nat) (T U : TDef) (hT : h[t]? = some T)
    (hU : h[u]? = some U) (hs : T.complex = false) (hl : T.isList = false) (hd : T.deriv = some .restr) (fuel : Nat) :
    isDerived q (fuel + 1) h t u (some .ext) = some false := by
  obtain ⟨k, hk⟩ := isDerived_simple q fuel hT hU hs hl
  rw [hk, hd]; rfl

/-- For a simple restriction, asking for `restriction` is the same as asking for plain derivation. -/
theorem simple_restr_eq_plain (q : Quirks) (h : Hier) (t u : Nat) (T U : TDef) (hT : h[t]? = some T)
    (hU : h[u]? = some U) (hs : T.complex = false) (hl : T.isList = false) (hd : T.deriv = some .restr) (fuel : Nat) :
    isDerived q (fuel + 1) h t u (some .restr) = isDerived q (fuel + 1) h t u none := by
  obtain ⟨k, hk⟩ := isDerived_simple q fuel hT hU hs hl
  rw [hk, hk, hd]; rfl

/-- A simple (non-list) type is never derived by extension: with the repair of C07-F4 this holds for
    builtin types, unions and their restrictions too (whatever `derivation` they carry). -/
theorem simple_never_by_extension (h : Hier) (t u : Nat) (T U : TDef) (hT : h[t]? = some T)
    (hU : h[u]? = some U) (hs : T.complex = false) (hl : T.isList = false) (hd : T.deriv ≠ some .ext)
    (fuel : Nat) : isDerived .repaired (fuel + 1) h t u (some .ext) = some false := by
  obtain ⟨k, hk⟩ := isDerived_simple .repaired fuel hT hU hs hl
  rw [hk]
  cases hx : T.deriv with
  | none => rfl
  | some m =>
    cases m with
    | ext => exact absurd hx hd
    | restr => rfl

theorem list_never_by_extension (h : Hier) (t u : Nat) (T U : TDef) (hT : h[t]? = some T)
    (hU : h[u]? = some U) (hs : T.complex = false) (hl : T.isList = true) (hd : T.deriv = none)
    (fuel : Nat) : isDerived .repaired (fuel + 1) h t u (some .ext) = some false := by
  simp [isDerived, hT, hU, hs, hl, hd, clearC, Quirks.repaired]

theorem foldr_fixed {α β : Type} (step : α → β → β) (b : β) (l : List α) (h : ∀ a ∈ l, step a b = b) :
    l.foldr step b = b := by
  induction l with
  | nil => rfl
  | cons a l ih => rw [List.foldr_cons, ih fun x hx => h x (List.mem_cons_of_mem _ hx), h a List.mem_cons_self]

/-- Hence `block="extension"` alone never blocks a simple type (repaired behaviour). -/
theorem simple_not_blocked_by_extension (h : Hier) (t dt : Nat) (T D : TDef) (hT : h[t]? = some T)
    (hD : h[dt]? = some D) (hs : T.complex = false) (hl : T.isList = false) (hd : T.deriv ≠ some .ext)
    (hDb : ∀ m ∈ D.block, m = .ext) (eb : List Meth) (heb : ∀ m ∈ eb, m = .ext) (fuel : Nat) :
    isBlocked .repaired (fuel + 1) h t eb dt = some false := by
  unfold isBlocked
  simp only [hD]
  -- every step of the verdict fold leaves `some false` as it is
  rw [foldr_fixed]
  · simp only [ite_self]
  · intro m hm
    cases (List.mem_append.mp hm).elim (heb m) (hDb m)
    rw [simple_never_by_extension h t dt T D hT hD hs hl hd fuel]

/-! ## the behaviours recorded as findings: `Quirks.pinned` vs `Quirks.repaired`, on the witnesses that the harness
    replays on the real code (kinds family: SC1/S0, L0/S0, U2/U0, xs:int/xs:integer, C2/xs:anyType).
    Of the pinned behaviours /repo has only `listItem` (C07-F2, witness f2) since a4559eb. -/
namespace Witness
/-- 0 = S0 (simple restriction), 1 = SC0 = extension of S0, 2 = SC1 = extension of SC0 -/
def f1 : Hier :=
  [ { complex := false, deriv := some .restr },
    { base := some 0, deriv := some .ext, simpleContent := true, content := some 0 },
    { base := some 1, deriv := some .ext, simpleContent := true, content := some 0 } ]
/-- C07-F1: full statement "SC1 is derived from S0 by restriction ⇔ a restriction step is on the chain"
    is false for the pinned code (before a4559eb; only extension steps), true for the repaired one. -/
theorem f1_pinned_counterexample : isDerived .pinned 4 f1 2 0 (some .restr) = some true := by decide +kernel
theorem f1_repaired : isDerived .repaired 4 f1 2 0 (some .restr) = some false ∧
    isDerived .repaired 4 f1 2 0 (some .ext) = some true ∧ isDerived .repaired 4 f1 2 0 none = some true := by decide +kernel
/-- 0 = S0, 1 = L0 = list of S0 -/
def f2 : Hier := [ { complex := false, deriv := some .restr }, { complex := false, isList := true, item := some 0 } ]
theorem f2_pinned_counterexample : instType .pinned 3 f2 1 0 = some true := by decide +kernel
theorem f2_repaired : instType .repaired 3 f2 1 0 = some false := by decide +kernel
/-- 0 = S0, 1 = U0 = union(S0), 2 = U1 = restriction of U0, 3 = U2 = restriction of U1 -/
def f3 : Hier :=
  [ { complex := false, deriv := some .restr }, { complex := false, isUnion := true, members := [0], unionLike := true },
    { complex := false, base := some 1, deriv := some .restr, unionLike := true, facets := true, primUnion := some 1 },
    { complex := false, base := some 2, deriv := some .restr, unionLike := true, facets := true, primUnion := some 1 } ]
theorem f3_pinned_counterexample : instType .pinned 6 f3 3 1 = some false := by decide +kernel
theorem f3_repaired : instType .repaired 6 f3 3 1 = some true ∧ instType .repaired 6 f3 0 1 = some true := by decide +kernel
/-- 0 = xs:integer, 1 = xs:int (builtin types: `derivation` is None) -/
def f4 : Hier := [ { complex := false, atomicCls := true }, { complex := false, atomicCls := true, base := some 0 } ]
theorem f4_pinned_counterexample : isBlocked .pinned 3 f4 1 [.ext] 0 = some true := by decide +kernel
theorem f4_repaired : isBlocked .repaired 3 f4 1 [.ext] 0 = some false ∧
    isBlocked .repaired 3 f4 1 [.restr] 0 = some true := by decide +kernel
/-- 0 = xs:anyType, 1 = C0 (root), 2 = C1 = extension of C0, 3 = C2 = restriction of C1 -/
def f5 : Hier :=
  [ { anyType := true }, {}, { base := some 1, deriv := some .ext }, { base := some 2, deriv := some .restr } ]
theorem f5_pinned_counterexample : isBlocked .pinned 5 f5 3 [.ext] 0 = some false := by decide +kernel
theorem f5_repaired : isBlocked .repaired 5 f5 3 [.ext] 0 = some true ∧
    isBlocked .repaired 5 f5 1 [.ext] 0 = some false ∧ isBlocked .repaired 5 f5 1 [.restr] 0 = some true := by decide +kernel
/-- block on the head's type only: 0 = Base (block extension), 1 = Ext, 2 = Res; head e0 : Base with an
    EMPTY block, members 1 : Ext (blocked), 2 : Res (accepted), 3 : Base (accepted) -/
def tb : Hier := [ { block := [.ext] }, { base := some 0, deriv := some .ext }, { base := some 0, deriv := some .restr } ]
def tbE : List EDecl := [ { ty := 0 }, { ty := 1, subst := some 0 }, { ty := 2, subst := some 0 }, { ty := 0, subst := some 0 } ]
theorem type_block_alone_witness :
    substVerdict .repaired 4 tb tbE 0 1 = .blocked ∧ substVerdict .repaired 4 tb tbE 0 2 = .accepted ∧
    substVerdict .repaired 4 tb tbE 0 3 = .accepted := by decide +kernel
end Witness

/-! ## Non-vacuity -/
namespace Demo
/-- 0 = B, 1 = E (extension of B), 2 = R (restriction of E, abstract), 3 = X (unrelated) -/
def hier : Hier :=
  [ {}, { base := some 0, deriv := some .ext }, { base := some 1, deriv := some .restr, abstract := true },
    {} ]
theorem wo : WellOrdered hier := by
  intro i T hT b hb
  have hi : i < 4 := lt_of_getElem? hT
  match i, hi with
  | 0, _ | 3, _ => cases hT; cases hb
  | 1, _ | 2, _ => cases hT; cases hb; decide
theorem co : ComplexOnly hier := by
  intro T hT
  simp only [hier, List.mem_cons, List.not_mem_nil, or_false] at hT
  rcases hT with rfl | rfl | rfl | rfl <;> simp
def eB : EDecl := { ty := 0, block := [.restr], nillable := true }
def cs : CSem := { contentOk := fun g v => g == v, fixedOk := fun _ _ => true }

example : Chain hier 2 0 [some .restr, some .ext] :=
  .step (T := hier[2]!) rfl rfl (.step (T := hier[1]!) rfl rfl (.refl 0 (by decide)))
example : isDerived .pinned 4 hier 2 0 none = some true := by decide +kernel
example : isDerived .pinned 4 hier 2 0 (some .ext) = some true := by decide +kernel
example : isDerived .pinned 4 hier 3 0 none = some false := by decide +kernel
/-- xsi:type = E accepted (extension not blocked), content then validated against E -/
example : elementErrs .pinned 4 hier cs eB 0 { xsi := .named 1, variant := 1 } = [] := by decide +kernel
example : elementErrs .pinned 4 hier cs eB 0 { xsi := .named 1, variant := 0 } = [.content] := by decide +kernel
/-- xsi:type = R: blocked (restriction step) and abstract -/
example : elementErrs .pinned 4 hier cs eB 0 { xsi := .named 2, variant := 2 } = [.blocked, .abstractType] := by decide +kernel
example : elementErrs .pinned 4 hier cs eB 0 { xsi := .named 3, variant := 3 } = [.notDerived, .content] := by decide +kernel
example : ElementOk hier cs eB { xsi := .named 1, variant := 1 } :=
  (element_valid_iff .pinned hier wo co cs eB hier[0]! rfl rfl 4 (by decide) _).mp (by decide +kernel)
example : elementErrs .pinned 4 hier cs eB 0 { nil := some "true", hasText := true } = [.nilNotEmpty] := by decide +kernel
example : elementErrs .pinned 4 hier cs eB 0 { nil := some "true", variant := 9 } = [] := by decide +kernel
def els : List EDecl := [ { ty := 0, block := [.restr] }, { ty := 1, subst := some 0 }, { ty := 2, subst := some 1 },
                          { ty := 1, subst := some 0, abstract := true } ]
example : substVerdict .pinned 4 hier els 0 1 = .accepted := by decide +kernel
example : substVerdict .pinned 4 hier els 0 2 = .blocked := by decide +kernel
example : substVerdict .pinned 4 hier els 0 3 = .notSubstitute := by decide +kernel
example : selectAlt [(true, false, 5), (true, true, 6), (false, false, 7)] 0 = 6 := by decide +kernel
example : selectAltT [("k", "b")] [(some (.eq "k" "a"), 5), (some (.or (.ne "k" "a") (.has "j")), 6), (none, 7)] 0 = 6 := by decide +kernel
example : selectAltT [] [(some (.ne "k" "a"), 5), (some (.not (.eq "k" "a")), 6)] 0 = 6 := by decide +kernel
example : attrVal [("j", "1")] "k" = none ∧ attrVal [("j", "1"), ("k", "a")] "k" = some "a" := by decide +kernel
example : instType .repaired 6 Witness.f3 0 1 = some true := by decide +kernel
/-- a substitute (type E) carrying xsi:type: E itself is accepted; R (restriction of E) is refused by the
    head's block="restriction" although the member declaration blocks nothing -/
example : substXsiErrs .pinned 4 hier cs els 0 1 { xsi := .named 1, variant := 1 } = some [] := by decide +kernel
example : substXsiErrs .pinned 4 hier cs els 0 1 { xsi := .named 2, variant := 2 } = some [.headBlocked, .abstractType] := by decide +kernel
example : substXsiErrs .pinned 4 hier cs els 0 1 { xsi := .named 3, variant := 3 } = some [.notDerived, .notDerived, .content] := by decide +kernel
example : dynContextErrs .pinned 4 hier els[0] els[1] (.named 1) = [] := by decide +kernel
/-- the declared type (0) named by the first alternative shadows the later one; an inherited k is seen -/
example : selectAltI [("k", "a")] [("j", "1")] [(some (.eq "k" "a"), 0), (some (.has "k"), 6)] 0 = 0 := by decide +kernel
example : selectAltI [] [("k", "a")] [(some (.eq "k" "b"), 5), (some (.has "k"), 6)] 0 = 6 := by decide +kernel
end Demo

end XsVerif.Props.C07
