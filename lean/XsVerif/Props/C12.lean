/-
  C12 — resource access control confines every fetch to the allowed class of locations: what each
  mode permits, the sandbox test on components, the constructor's decision for any spelling of a
  location, and the induction over nested loads.
-/
import XsVerif.Model.Access
import XsVerif.Model.AccessTrace
import XsVerif.Lemmas.Access
import XsVerif.Lemmas.AccessCoding
import XsVerif.Lemmas.AccessTrace
import XsVerif.Lemmas.AccessRemote
import XsVerif.Generated.C12

namespace XsVerif.Props.C12
open XsVerif.Access

def allowName : Allow → String
  | .all => "all" | .remote => "remote" | .loc => "local" | .sandbox => "sandbox" | .none => "none"

def allModes : List Allow := [.all, .remote, .loc, .sandbox, .none]

/-- `SECURITY_MODES` of xmlschema/arguments.py (regenerated on every run) and the constructors of
    `Allow`, over which the theorems below do their case analysis, are the same set. -/
theorem modes_exact :
    (allModes.map allowName).all (XsVerif.Generated.C12.securityModes.contains ·) = true ∧
    XsVerif.Generated.C12.securityModes.all ((allModes.map allowName).contains ·) = true ∧
    ∀ a : Allow, a ∈ allModes := by
  refine ⟨by decide, by decide, fun a => by cases a <;> decide⟩

/-- S (string level): the URL `u` lies under the base URL `b` on a '/' boundary. -/
def UnderUrl (b u : Bytes) : Prop := u = b ∨ ∃ r, u = rstripSlash b ++ 47 :: r

/-- S: the class of locations a mode permits (xml_resource.py:318-333 read as a specification):
    'local' and 'sandbox' admit only what is positively a local URL (after fix 600200c a string that
    is neither local nor remote — it contains a line feed or starts with '<' — is refused).
    `b` is the normalised sandbox base URL when one is set. -/
def Permitted (a : Allow) (b : Option Bytes) (u : Bytes) : Prop :=
  match a with
  | .all => True
  | .none => False
  | .remote => classify u ≠ .loc
  | .loc => classify u = .loc
  | .sandbox => classify u = .loc ∧ ∀ b', b = some b' → UnderUrl b' u

theorem sandboxOk_iff (b u : Bytes) : sandboxOk b u = true ↔ UnderUrl b u := by
  simp only [sandboxOk, UnderUrl, Bool.or_eq_true, beq_iff_eq, startsWith_iff, List.append_assoc,
    List.singleton_append]

/-- `access_control` lets a URL through exactly when the mode permits its class. -/
theorem access_iff_permitted (a : Allow) (b : Option Bytes) (u : Bytes) :
    accessControl a b (some u) = .ok ↔ Permitted a b u := by
  cases a with
  | all | none => simp [accessControl, Permitted]
  | remote | loc => by_cases hc : classify u = .loc <;> simp [accessControl, Permitted, isLocalUrl, hc]
  | sandbox =>
    by_cases hc : classify u = .loc
    · cases b <;> simp [accessControl, Permitted, isLocalUrl, hc, ← sandboxOk_iff]
    · simp [accessControl, Permitted, isLocalUrl, hc]

example : accessControl .sandbox (some [47, 98]) (some [47, 98, 47, 99]) = .ok := by decide

/-- With `allow='none'` every URL is refused. -/
theorem none_blocks_everything (b : Option Bytes) (u : Bytes) :
    accessControl .none b (some u) = .blockedNone := rfl

/-- With `allow='local'` or `'sandbox'` every URL that is not classified as local — remote, or
    neither local nor remote — is refused as remote. -/
theorem local_modes_block_remote (a : Allow) (h : a = .loc ∨ a = .sandbox) (b : Option Bytes)
    (u : Bytes) (hu : classify u ≠ .loc) : accessControl a b (some u) = .blockedRemote := by
  rcases h with rfl | rfl <;> simp [accessControl, isLocalUrl, hu]

/-- With `allow='remote'` every URL classified as local is refused as local. -/
theorem remote_blocks_local (b : Option Bytes) (u : Bytes) (hu : classify u = .loc) :
    accessControl .remote b (some u) = .blockedLocal := by
  simp [accessControl, isLocalUrl, hu]

/-- String level: a URL that passes the sandbox test has all the (non-empty) '/'-separated components
    of the base as its first components.  False for the string-prefix test (`/base/sand` vs
    `/base/sand_evil`). -/
theorem sandboxOk_components (b u : Bytes) (h : sandboxOk b u = true) : comps b <+: comps u := by
  rcases (sandboxOk_iff b u).mp h with rfl | ⟨r, rfl⟩
  · exact List.prefix_refl _
  · rw [comps_append_sep, comps_rstripSlash]
    exact List.prefix_append _ _

/-- the string-prefix witness is refused: base `/b/sand`, url `/b/sand_evil/i` -/
example : sandboxOk [47, 98, 47, 115, 97, 110, 100]
    [47, 98, 47, 115, 97, 110, 100, 95, 101, 118, 105, 108, 47, 105] = false := by decide

/-- S (path level): the decoded path `p` is inside the directory `d`, component-wise. -/
def Under (d p : Bytes) : Prop := comps d <+: comps p

/-- Decoded level: if the rendered `file://` URL of path `p` passes the sandbox test against the
    rendered URL of directory `d`, then `p` is component-wise inside `d`. -/
theorem sandbox_confines (d p : Bytes)
    (h : accessControl .sandbox (some (filePre ++ quote d)) (some (filePre ++ quote p)) = .ok) :
    Under d p := by
  have h2 := sandboxOk_components _ _
    ((sandboxOk_iff _ _).mpr (((access_iff_permitted .sandbox _ _).mp h).2 _ rfl))
  -- the components of a rendered URL: `file:`, then the encoded components of the path
  have e : ∀ x : Bytes, comps (filePre ++ quote x) = fileRel :: (comps x).map quote := by
    intro x
    have : filePre ++ quote x = fileRel ++ 47 :: (47 :: quote x) := rfl
    rw [this, comps_append_sep, comps_cons_sep, comps_quote, comps_noSep (by decide) (by decide)]
    rfl
  rw [e, e, List.cons_prefix_cons] at h2
  exact map_quote_prefix h2.2

example : Under [47, 98] [47, 98, 47, 99] := by unfold Under; decide

theorem resolveWith_norm (a : Allow) (cwd : Bytes) (b : Option Bytes) (loc : Bytes) :
    (resolveWith a cwd b loc).norm = normalizeUrl cwd b loc := by
  unfold resolveWith
  cases normalizeUrl cwd b loc with
  | file p u =>
    cases b.map (normalizeUrl cwd none) with
    | none => rfl
    | some bn => cases bn <;> rfl
  | _ => rfl

theorem resolve_eq_resolveWith (a : Allow) (cwd : Bytes) (b : Option Bytes) (loc : Bytes)
    (h : a ≠ .sandbox ∨ b ≠ none) : resolve a cwd b loc = resolveWith a cwd b loc := by
  have : ¬(a = .sandbox ∧ b = none) := fun ⟨ha, hb⟩ => h.elim (· ha) (· hb)
  simp [resolve, effectiveBase, this]

theorem resolveWith_ok {a : Allow} {cwd : Bytes} {b : Option Bytes} {loc : Bytes}
    (h : (resolveWith a cwd b loc).decision = some .ok) :
    (∃ p u bn, normalizeUrl cwd b loc = .file p u ∧ accessControl a bn (some u) = .ok ∧
      (a = .sandbox → ∀ b', b = some b' → ∃ d du, normalizeUrl cwd none b' = .file d du ∧ bn = some du)) ∨
    (∃ s n j, normalizeUrl cwd b loc = .remote s n j ∧ (a = .all ∨ a = .remote)) := by
  unfold resolveWith at h
  cases hn : normalizeUrl cwd b loc with
  | file p u =>
    rw [hn] at h
    refine .inl ⟨p, u, ?_⟩
    cases b with
    | none => exact ⟨none, rfl, Option.some.inj h, fun _ _ hb => nomatch hb⟩
    | some b' =>
      cases hb : normalizeUrl cwd none b' with
      | file d du =>
        rw [Option.map, hb] at h
        exact ⟨some du, rfl, Option.some.inj h, fun _ _ e => by cases e; exact ⟨d, du, hb, rfl⟩⟩
      -- a base that is not a local file: sandbox mode refuses, the other modes check without base
      | remote s n j =>
        rw [Option.map, hb] at h
        cases a <;> first | exact ⟨none, rfl, Option.some.inj h, nofun⟩ | cases h
      | outOfScope | error =>
        rw [Option.map, hb] at h
        rcases ite_eq_cases h with ⟨-, h⟩ | ⟨ha, h⟩
        · cases h
        · exact ⟨none, rfl, Option.some.inj h, fun e => absurd e ha⟩
  | remote s n j =>
    rw [hn] at h
    refine .inr ⟨s, n, j, rfl, ?_⟩
    cases a <;> first | exact .inl rfl | exact .inr rfl | cases h
  | outOfScope | error => rw [hn] at h; cases h

theorem resolveWith_none_never_ok (cwd : Bytes) (b : Option Bytes) (loc : Bytes) :
    (resolveWith .none cwd b loc).decision ≠ some .ok := by
  intro h
  rcases resolveWith_ok h with ⟨_, _, _, -, hac, -⟩ | ⟨_, _, _, -, ha | ha⟩
  · cases hac
  · cases ha
  · cases ha

theorem resolveWith_remote_only_remote (cwd : Bytes) (b : Option Bytes) (loc : Bytes)
    (h : (resolveWith .remote cwd b loc).decision = some .ok) :
    ∃ s n j, normalizeUrl cwd b loc = .remote s n j ∧ isLocalScheme s = false := by
  rcases resolveWith_ok h with ⟨p, u, bn, hn, hac, -⟩ | ⟨s, n, j, hn, -⟩
  · rw [remote_blocks_local bn _ (normalizeUrl_file_local hn)] at hac
    cases hac
  · exact ⟨s, n, j, hn, (normalizeUrl_remote_src hn).1⟩

theorem resolveWith_local_only_files (a : Allow) (ha : a = .loc ∨ a = .sandbox) (cwd : Bytes)
    (b : Option Bytes) (loc : Bytes) (h : (resolveWith a cwd b loc).decision = some .ok) :
    ∃ p u, normalizeUrl cwd b loc = .file p u := by
  rcases resolveWith_ok h with ⟨p, u, _, hn, -, -⟩ | ⟨_, _, _, -, h'⟩
  · exact ⟨p, u, hn⟩
  · rcases ha with rfl | rfl <;> rcases h' with h' | h' <;> cases h'

theorem resolveWith_sandbox_confined (cwd b loc : Bytes) (hcwd : isAbsPath cwd = true)
    (h : (resolveWith .sandbox cwd (some b) loc).decision = some .ok) :
    ∃ j d du, isAbsPath j = true ∧
      normalizeUrl cwd (some b) loc = .file (normpath j) (filePre ++ quote (normpath j)) ∧
      normalizeUrl cwd none b = .file d du ∧ Under d (normpath j) := by
  rcases resolveWith_ok h with ⟨p, u, bn, hn, hac, hb⟩ | ⟨_, _, _, -, h' | h'⟩
  · obtain ⟨d, du, hd, rfl⟩ := hb rfl b rfl
    obtain ⟨j, hj, rfl, rfl⟩ := normalizeUrl_file_shape cwd (some b) loc p u hcwd hn
    obtain ⟨j', -, rfl, rfl⟩ := normalizeUrl_file_shape cwd none b d du hcwd hd
    exact ⟨j, _, _, hj, hn, hd, sandbox_confines _ _ hac⟩
  · cases h'
  · cases h'

/-- However a location is spelled: if the resource constructor in sandbox mode with base `b` lets it
    through, the location was normalised to a local file whose decoded path `p` consists of real
    names only (no `.`/`..`/empty components, so the lexical containment is a containment in a
    symlink-free tree) and lies component-wise inside the normalised base directory `d`. -/
theorem resolve_sandbox_confined (cwd b loc : Bytes) (hcwd : isAbsPath cwd = true)
    (h : (resolve .sandbox cwd (some b) loc).decision = some .ok) :
    ∃ p u d du, (resolve .sandbox cwd (some b) loc).norm = .file p u ∧
      normalizeUrl cwd none b = .file d du ∧ Under d p ∧ ∀ c ∈ comps p, CleanComp c := by
  rw [resolve_eq_resolveWith .sandbox cwd (some b) loc (.inr nofun)] at h ⊢
  obtain ⟨j, d, du, hj, hn, hd, hu⟩ := resolveWith_sandbox_confined cwd b loc hcwd h
  exact ⟨_, _, d, du, by rw [resolveWith_norm, hn], hd, hu, normpath_abs_clean j hj⟩

/-- With `allow='none'` no spelling of any location is ever let through. -/
theorem resolve_none_never_ok (cwd : Bytes) (base : Option Bytes) (loc : Bytes) :
    (resolve .none cwd base loc).decision ≠ some .ok := by
  rw [resolve_eq_resolveWith .none cwd base loc (.inl nofun)]
  exact resolveWith_none_never_ok cwd base loc

/-- With `allow='remote'` whatever is let through was normalised to a URL with a non-local scheme. -/
theorem resolve_remote_only_remote (cwd : Bytes) (base : Option Bytes) (loc : Bytes)
    (h : (resolve .remote cwd base loc).decision = some .ok) :
    ∃ s n j, (resolve .remote cwd base loc).norm = .remote s n j ∧ isLocalScheme s = false := by
  rw [resolve_eq_resolveWith .remote cwd base loc (.inl nofun)] at h ⊢
  rw [resolveWith_norm]
  exact resolveWith_remote_only_remote cwd base loc h

/-- With `allow='local'` or `'sandbox'` whatever is let through was normalised to a local file. -/
theorem resolve_local_only_files (a : Allow) (ha : a = .loc ∨ a = .sandbox) (cwd : Bytes)
    (base : Option Bytes) (loc : Bytes) (h : (resolve a cwd base loc).decision = some .ok) :
    ∃ p u, (resolve a cwd base loc).norm = .file p u := by
  unfold resolve at h ⊢
  cases he : effectiveBase a cwd base loc with
  | none => simp [he] at h
  | some b =>
    simp only [he] at h ⊢
    rw [resolveWith_norm]
    exact resolveWith_local_only_files a ha cwd b loc h

/-- `unquote_to_bytes(quote_from_bytes(p)) == p`: the decoded path that `from_uri` recovers from a
    rendered URL is the path that was rendered. -/
theorem unquote_quote (p : Bytes) : unquote (quote p) = p := XsVerif.Access.unquote_quote p

example : quote [47, 97, 32, 37, 255] = [47, 97, 37, 50, 48, 37, 50, 53, 37, 70, 70] ∧
    unquote [47, 97, 37, 50, 48, 37, 50, 53, 37, 70, 70] = [47, 97, 32, 37, 255] := by decide

/-- `posixpath.normpath` is idempotent. -/
theorem normpath_idempotent (p : Bytes) : normpath (normpath p) = normpath p :=
  XsVerif.Access.normpath_idempotent p

/-- `posixpath.normpath` leaves no `.` and no empty segment, and `..` only as the leading block of a
    relative path. -/
theorem normpath_no_dot_segments (p : Bytes) :
    normpath p = dot ∨ ∃ k cl, comps (normpath p) = List.replicate k dotdot ++ cl ∧
      (∀ c ∈ cl, CleanComp c) ∧ (isAbsPath p = true → k = 0) :=
  XsVerif.Access.normpath_no_dot_segments p

example : normpath [47, 97, 47, 46, 46, 47, 46, 47, 47, 98] = [47, 98] ∧
    normpath [46, 46, 47, 97, 47, 46, 46, 47, 46, 46] = [46, 46, 47, 46, 46] := by decide

/-- `normalize_url` is idempotent on its local results, whatever base the second call is given
    (locations= and location hints are normalised when collected and again when loaded; a
    resource URL is re-normalised by `match_location` and by the sandbox self-derivation):
    the second call returns the same URL and decoded path, or the form is outside the model
    (a path starting with two slashes, which `ntpath.splitdrive` takes for a UNC drive). -/
theorem normalizeUrl_idempotent (cwd : Bytes) (b b' : Option Bytes) (loc p u : Bytes)
    (hcwd : isAbsPath cwd = true) (h : normalizeUrl cwd b loc = .file p u) :
    normalizeUrl cwd b' u = .file p u ∨ normalizeUrl cwd b' u = .outOfScope := by
  obtain ⟨j, hj, rfl, rfl⟩ := normalizeUrl_file_shape cwd b loc p u hcwd h
  have hpa := normpath_isAbs j hj
  rw [normalizeUrl_fileUrl cwd b' _ hpa]
  split
  · exact .inr rfl
  · exact .inl (by rw [mkFile_abs hpa, XsVerif.Access.normpath_idempotent])

/-! ## nested loads (Model/AccessTrace.lean) -/

/-- What the access check of one resource construction has to guarantee for a property `Q` of the
    fetched resources to hold throughout a nested load, and throughout a history of `parse()` calls
    (Props/C12Reparse.lean): under a base satisfying `Inv`, a location that is let through has `Q`,
    and if its document is read, the base its references are resolved against satisfies `Inv`. -/
def StepOK (a : Allow) (cwd : Bytes) (m : Mapper) (readable : Norm → Bool)
    (Q : Option Bytes → Bytes → Norm → Prop) (Inv : Option Bytes → Prop) : Prop :=
  ∀ b loc, Inv b →
    let l := applyMapper m (strip loc)
    (resolveWith a cwd b l).decision = some .ok →
      Q b loc (normalizeUrl cwd b l) ∧
        (readable (normalizeUrl cwd b l) = true →
          ∀ cb, childBase cwd b l (normalizeUrl cwd b l) = some cb → Inv (some cb))

theorem load_opened {a : Allow} {cwd : Bytes} {m : Mapper} {readable : Norm → Bool}
    {Q : Option Bytes → Bytes → Norm → Prop} {Inv : Option Bytes → Prop}
    (hstep : StepOK a cwd m readable Q Inv) (t : LoadTree) :
    ∀ b, Inv b → ∀ e ∈ (loadNode a cwd m readable b t).1,
      ∀ b' loc n, e = .opened b' loc n → Q b' loc n := by
  refine LoadTree.rec
    (motive_1 := fun t => ∀ b, Inv b → ∀ e ∈ (loadNode a cwd m readable b t).1,
      ∀ b' loc n, e = .opened b' loc n → Q b' loc n)
    (motive_2 := fun ts => ∀ b, Inv b → ∀ e ∈ (loadList a cwd m readable b ts).1,
      ∀ b' loc n, e = .opened b' loc n → Q b' loc n)
    ?_ ?_ ?_ t
  · intro loc strict refs ih b hb e he b' l n hen
    subst hen
    have hs := hstep b (sourceOf cwd b strict loc) hb
    unfold loadNode at he
    simp only [resolveWith_norm] at he hs
    split at he
    · rename_i hdec
      obtain ⟨hQ, hch⟩ := hs hdec
      split at he
      · rename_i hr
        split at he
        · rename_i cb hcb
          rcases List.mem_cons.mp he with he | he
          · cases he; exact hQ
          · exact ih (some cb) (hch hr cb hcb) _ he _ _ _ rfl
        · simp only [List.mem_cons, List.not_mem_nil, or_false, reduceCtorEq] at he
          cases he; exact hQ
      · cases List.mem_singleton.mp he; exact hQ
    · cases List.mem_singleton.mp he
    · cases List.mem_singleton.mp he
  · intro b _ e he
    simp [loadList] at he
  · intro t ts iht ihts b hb e he
    unfold loadList at he
    simp only at he
    split at he
    · exact iht b hb e he
    · rcases List.mem_append.mp he with he | he
      · exact iht b hb e he
      · exact ihts b hb e he

/-- the access check of one constructed resource, as recorded in a trace event -/
def Checked (a : Allow) (cwd : Bytes) (m : Mapper) : Event → Prop
  | .opened b loc n =>
    (resolveWith a cwd b (applyMapper m (strip loc))).decision = some .ok ∧
      n = normalizeUrl cwd b (applyMapper m (strip loc))
  | _ => True

theorem checked_of_opened {a : Allow} {cwd : Bytes} {m : Mapper} {evs : List Event}
    (h : ∀ e ∈ evs, ∀ b loc n, e = .opened b loc n → Checked a cwd m (.opened b loc n)) :
    ∀ e ∈ evs, Checked a cwd m e := by
  intro e he
  cases e with
  | opened b loc n => exact h _ he b loc n rfl
  | _ => trivial

theorem not_opened_of {evs : List Event} (h : ∀ e ∈ evs, ∀ b loc n, e = .opened b loc n → False) :
    ∀ e ∈ evs, e.isOpened = false := by
  intro e he
  cases e with
  | opened b loc n => exact (h _ he b loc n rfl).elim
  | _ => rfl

theorem step_checked (a : Allow) (cwd : Bytes) (m : Mapper) (readable : Norm → Bool) :
    StepOK a cwd m readable (fun b loc n => Checked a cwd m (.opened b loc n)) (fun _ => True) :=
  fun _ _ _ h => ⟨⟨h, rfl⟩, fun _ _ _ => trivial⟩

theorem step_none (cwd : Bytes) (m : Mapper) (readable : Norm → Bool) :
    StepOK .none cwd m readable (fun _ _ _ => False) (fun _ => True) :=
  fun _ _ _ h => absurd h (resolveWith_none_never_ok _ _ _)

theorem step_remote (cwd : Bytes) (m : Mapper) (readable : Norm → Bool) :
    StepOK .remote cwd m readable
      (fun _ _ n => ∃ s nl j, n = .remote s nl j ∧ isLocalScheme s = false) (fun _ => True) :=
  fun _ _ _ h => ⟨resolveWith_remote_only_remote _ _ _ h, fun _ _ _ => trivial⟩

theorem step_local (a : Allow) (ha : a = .loc ∨ a = .sandbox) (cwd : Bytes) (m : Mapper)
    (readable : Norm → Bool) :
    StepOK a cwd m readable (fun _ _ n => ∃ p u, n = .file p u) (fun _ => True) :=
  fun _ _ _ h => ⟨resolveWith_local_only_files a ha _ _ _ h, fun _ _ _ => trivial⟩

/-- the base handed down in a sandboxed load normalises to a directory inside the root directory `d0` -/
def BaseUnder (cwd d0 : Bytes) (b : Option Bytes) : Prop :=
  ∃ b', b = some b' ∧ ∀ d du, normalizeUrl cwd none b' = .file d du → Under d0 d

theorem BaseUnder.root {cwd b0 d0 du0 : Bytes} (hb0 : normalizeUrl cwd none b0 = .file d0 du0) :
    BaseUnder cwd d0 (some b0) :=
  ⟨b0, rfl, fun d du h => by rw [hb0] at h; cases h; exact List.prefix_refl _⟩

/-- The sandbox narrows at every hop and never leaves the root directory `d0` (`hdir`: `d0` itself
    is a directory, not a document). -/
theorem step_sandbox (cwd : Bytes) (hcwd : isAbsPath cwd = true) (m : Mapper) (readable : Norm → Bool)
    (d0 : Bytes) (hdir : ∀ p u, comps p = comps d0 → readable (.file p u) = false) :
    StepOK .sandbox cwd m readable
      (fun _ _ n => ∃ p u, n = .file p u ∧ Under d0 p ∧ ∀ c ∈ comps p, CleanComp c)
      (BaseUnder cwd d0) := by
  rintro _ loc ⟨b', rfl, hinv⟩ l h
  obtain ⟨j, d, du, hj, hn, hd, hund⟩ := resolveWith_sandbox_confined cwd b' l hcwd h
  have hd0p : comps d0 <+: comps (normpath j) := (hinv d du hd).trans hund
  rw [hn]
  refine ⟨⟨_, _, rfl, hd0p, normpath_abs_clean j hj⟩, fun hr cb hcb => ?_⟩
  obtain rfl : dirname _ = cb := Option.some.inj hcb
  refine ⟨_, rfl, fun d' du' hd' => childBase_confined cwd j hj (comps d0) hd0p ?_ d' du' hd'⟩
  intro e
  rw [hdir _ _ e.symm] at hr
  cases hr

/-- EVERY FETCH IS CHECKED: each resource that is fetched anywhere in the nested load was
    constructed for the location normalised against its parent's directory and passed
    `access_control` under the ROOT's `allow` mode (the mode is handed down unchanged). -/
theorem every_fetch_checked (a : Allow) (cwd : Bytes) (m : Mapper) (readable : Norm → Bool)
    (b : Option Bytes) (t : LoadTree) : ∀ e ∈ (loadNode a cwd m readable b t).1, Checked a cwd m e :=
  checked_of_opened (load_opened (step_checked a cwd m readable) t b trivial)

/-- allow='none': no resource is fetched anywhere in a nested load. -/
theorem trace_none_opens_nothing (cwd : Bytes) (m : Mapper) (readable : Norm → Bool)
    (b : Option Bytes) (t : LoadTree) :
    ∀ e ∈ (loadNode .none cwd m readable b t).1, e.isOpened = false :=
  not_opened_of (load_opened (step_none cwd m readable) t b trivial)

/-- allow='remote': everything fetched in a nested load is a URL with a non-local scheme. -/
theorem trace_remote_only_remote (cwd : Bytes) (hcwd : isAbsPath cwd = true) (m : Mapper)
    (readable : Norm → Bool) (b : Option Bytes) (t : LoadTree) :
    ∀ e ∈ (loadNode .remote cwd m readable b t).1, ∀ b' loc n, e = .opened b' loc n →
      ∃ s nl j, n = .remote s nl j ∧ isLocalScheme s = false :=
  load_opened (step_remote cwd m readable) t b trivial

/-- allow='local' / 'sandbox': everything fetched in a nested load is a local file. -/
theorem trace_local_only_files (a : Allow) (ha : a = .loc ∨ a = .sandbox) (cwd : Bytes) (m : Mapper)
    (readable : Norm → Bool) (b : Option Bytes) (t : LoadTree) :
    ∀ e ∈ (loadNode a cwd m readable b t).1, ∀ b' loc n, e = .opened b' loc n → ∃ p u, n = .file p u :=
  load_opened (step_local a ha cwd m readable) t b trivial

/-- SANDBOX, NESTED LOADS OF ANY DEPTH.  Root base `b0` normalises to `d0`, a directory and not a
    document (`hdir`).  Then every resource fetched anywhere in the load tree — children get
    `os.path.dirname(parent url)` as their base, so the sandbox changes at every hop — is a local
    file whose decoded path has only real names as components and lies inside the ROOT directory `d0`. -/
theorem trace_sandbox_confined (cwd : Bytes) (hcwd : isAbsPath cwd = true) (m : Mapper)
    (readable : Norm → Bool) (b0 d0 du0 : Bytes) (hb0 : normalizeUrl cwd none b0 = .file d0 du0)
    (hdir : ∀ p u, comps p = comps d0 → readable (.file p u) = false) (t : LoadTree) :
    ∀ e ∈ (loadNode .sandbox cwd m readable (some b0) t).1, ∀ b loc n, e = .opened b loc n →
      ∃ p u, n = .file p u ∧ Under d0 p ∧ ∀ c ∈ comps p, CleanComp c :=
  load_opened (step_sandbox cwd hcwd m readable d0 hdir) t (some b0) (.root hb0)

/-- The same for the ROOT resource, whose sandbox is the given `base_url` or, without one, the
    directory of the main source itself (`effectiveBase`). -/
theorem root_sandbox_confined (cwd : Bytes) (hcwd : isAbsPath cwd = true) (m : Mapper)
    (readable : Norm → Bool) (base : Option Bytes) (loc : Bytes) (strict : Bool) (refs : List LoadTree)
    (b0 d0 du0 : Bytes) (he : effectiveBase .sandbox cwd base loc = some (some b0))
    (hb0 : normalizeUrl cwd none b0 = .file d0 du0)
    (hdir : ∀ p u, comps p = comps d0 → readable (.file p u) = false) :
    ∀ e ∈ (loadRoot .sandbox cwd m readable base (.node loc strict refs)).1, ∀ b l n, e = .opened b l n →
      ∃ p u, n = .file p u ∧ Under d0 p ∧ ∀ c ∈ comps p, CleanComp c := by
  simp only [loadRoot, he]
  exact trace_sandbox_confined cwd hcwd m readable b0 d0 du0 hb0 hdir _

/-- A denied location's content never influences the result: the trace of a reference that is not
    admitted is the same whatever the document at that location refers to. -/
theorem denied_content_unreached (a : Allow) (cwd : Bytes) (m : Mapper) (readable : Norm → Bool)
    (b : Option Bytes) (loc : Bytes) (strict : Bool) (refs refs' : List LoadTree)
    (h : (resolveWith a cwd b (applyMapper m (strip (sourceOf cwd b strict loc)))).decision ≠ some .ok) :
    loadNode a cwd m readable b (.node loc strict refs) = loadNode a cwd m readable b (.node loc strict refs') := by
  unfold loadNode
  simp only
  split
  · rename_i hd; exact absurd hd h
  · rfl
  · rfl

/-! non-vacuity: a three-level load in the sandbox `/r/s` -/

def bs (s : String) : Bytes := s.toList.map Char.toNat

/-- example world: `/r/s/m`, `/r/s/sub/a`, `/r/s/b`, `/r/o/x` are documents -/
def exDocs : List Bytes := [bs "file:///r/s/m", bs "file:///r/s/sub/a", bs "file:///r/s/b", bs "file:///r/o/x"]
def exReadable (n : Norm) : Bool := match n.url? with | some u => exDocs.contains u | none => false
/-- `m` includes `sub/a`, which imports `../../o/x` (outside) and includes `../b` -/
def exTree : LoadTree :=
  .node (bs "m") true [.node (bs "sub/a") true [.node (bs "../../o/x") false [], .node (bs "../b") true []]]

/-- the hypotheses of `trace_sandbox_confined` are met and the trace is not trivial: two fetches,
    the outside import is skipped, then `../b` is refused because the sandbox of the children
    of `sub/a` is `/r/s/sub`, which aborts the load -/
example : normalizeUrl (bs "/r/s") none (bs "/r/s") = .file (bs "/r/s") (bs "file:///r/s") ∧
    (∀ u, exReadable (.file (bs "/r/s") u) = false ∨ u ≠ bs "file:///r/s") ∧
    (loadNode .sandbox (bs "/r/s") [] exReadable (some (bs "/r/s")) exTree).1.map Event.isOpened
      = [true, true, false, false] ∧
    (loadNode .sandbox (bs "/r/s") [] exReadable (some (bs "/r/s")) exTree).2 = true ∧
    (loadNode .loc (bs "/r/s") [] exReadable (some (bs "/r/s")) exTree).1.map Event.isOpened
      = [true, true, true, true] ∧
    (loadNode .none (bs "/r/s") [] exReadable (some (bs "/r/s")) exTree).1.map Event.isOpened = [false] := by
  -- one evaluation for all the closed conjuncts: the kernel then meets the same loads again
  suffices h : _ ∧ exReadable (.file (bs "/r/s") (bs "file:///r/s")) = false ∧ _ by
    refine ⟨h.1, fun u => ?_, h.2.2⟩
    by_cases hu : u = bs "file:///r/s"
    · rw [hu]; exact .inl h.2.1
    · exact .inr hu
  decide +kernel

/-- A string that starts with a syntactically valid non-local scheme and ':' — the shape of every
    URL that `get_uri` / `urlunsplit` render for a non-local scheme — is NEVER classified as a local
    URL by `is_local_url`; and it IS classified remote unless it contains a line feed. -/
theorem scheme_prefixed_class (s rest : Bytes) (hs : SchemeOK s) (hloc : isLocalScheme (s.map lower) = false) :
    classify (s ++ 58 :: rest) ≠ .loc ∧
      ((s ++ 58 :: rest).contains 10 = false → classify (s ++ 58 :: rest) = .remote) := by
  rw [classify_scheme s rest hs, hloc]
  constructor
  · split <;> simp
  · intro h10; rw [h10]; simp

example : SchemeOK (bs "http") ∧ isLocalScheme ((bs "http").map lower) = false := by
  refine ⟨⟨⟨104, bs "ttp", by decide, by decide⟩, by decide⟩, by decide⟩

/-- Every URL that `normalize_url` renders for a location that is not a local file has the shape
    `scheme ':' rest` with a syntactically valid scheme that is not a local one — through `get_uri`,
    `is_safe_url`, `is_encoded_url`, `decode_url`, `encode_url` and `urlunsplit`. -/
theorem remote_render_shape (cwd : Bytes) (base : Option Bytes) (loc r : Bytes)
    (h : remoteUrl cwd base loc = some r) :
    ∃ s rest, r = s ++ 58 :: rest ∧ SchemeOK s ∧ isLocalScheme (s.map lower) = false := by
  unfold remoteUrl at h
  split at h
  · rename_i s n hn
    obtain ⟨hloc, -, hsrc⟩ := normalizeUrl_remote_src hn
    obtain rfl := hsrc rfl
    exact render_shape _ _ _ _ _ r hloc h
  · rename_i s n j hn
    obtain ⟨hloc, ⟨x, rfl⟩, -⟩ := normalizeUrl_remote_src hn
    exact render_shape x _ _ _ _ r hloc h
  · cases h

/-- A REMOTE URL IS NEVER TAKEN FOR A LOCAL FILE (false before fix 600200c, see
    `remote_render_newline_witness`).  The URL `r` that `normalize_url` renders for a non-local result
      * is refused as remote by `access_control` in 'local' and in 'sandbox' mode, whatever the
        sandbox base (also below a REMOTE base);
      * is admitted in 'remote' mode;
      * has a non-local scheme for `urlsplit`, so `urlopen` never hands it to the file handler. -/
theorem remote_render_refused (a : Allow) (ha : a = .loc ∨ a = .sandbox) (b : Option Bytes) (cwd : Bytes)
    (base : Option Bytes) (loc r : Bytes) (h : remoteUrl cwd base loc = some r) :
    accessControl a b (some r) = .blockedRemote ∧ accessControl .remote b (some r) = .ok ∧
      isLocalScheme (urlsplit r).scheme = false := by
  obtain ⟨s, rest, rfl, hs, hloc⟩ := remote_render_shape cwd base loc r h
  have hc := (scheme_prefixed_class s rest hs hloc).1
  refine ⟨local_modes_block_remote a ha b _ hc, ?_, ?_⟩
  · simp [accessControl, isLocalUrl, hc]
  · rw [urlsplit_scheme s rest hs]; exact hloc

/-- The decision that the resource constructor model `resolveWith` takes for a non-local result
    (a table on the mode) IS `access_control` applied to the rendered URL. -/
theorem resolveWith_remote_is_access_control (a : Allow) (cwd : Bytes) (b bn : Option Bytes) (loc r s n : Bytes)
    (j : Option Bytes) (hn : normalizeUrl cwd b loc = .remote s n j) (h : remoteUrl cwd b loc = some r) :
    (resolveWith a cwd b loc).decision = some (accessControl a bn (some r)) := by
  have h1 := remote_render_refused .loc (Or.inl rfl) bn cwd b loc r h
  have h2 := remote_render_refused .sandbox (Or.inr rfl) bn cwd b loc r h
  unfold resolveWith
  rw [hn]
  cases a
  · rfl
  · exact congrArg some h1.2.1.symm
  · exact congrArg some h1.1.symm
  · exact congrArg some h2.1.symm
  · rfl

/-- Regression witness of finding C12-F4 (fixed by 600200c): the relative location `a%0Ab` joined to
    the remote base `http://h/d/` is rendered with a RAW line feed and is classified neither local
    nor remote — the old test `elif is_remote_url(url)` let it through; the current check refuses it
    in 'local' and 'sandbox' mode.  Replayed on the real code by the `newline-remote-base` family. -/
theorem remote_render_newline_witness :
    remoteUrl (bs "/r") (some (bs "http://h/d/")) (bs "a%0Ab") = some (bs "http://h/d/a\nb") ∧
    classify (bs "http://h/d/a\nb") = .neither ∧
    accessControl .loc none (some (bs "http://h/d/a\nb")) = .blockedRemote ∧
    accessControl .sandbox (some (bs "http://h/d/")) (some (bs "http://h/d/a\nb")) = .blockedRemote ∧
    (resolveWith .loc (bs "/r") (some (bs "http://h/d/")) (bs "a%0Ab")).decision = some .blockedRemote := by
  decide +kernel

example : remoteUrl (bs "/r") none (bs "HTTP://h/a b") = some (bs "http://h/a%20b") := by decide +kernel

/-- `normalize_url('')` is the working directory -/
theorem normalizeUrl_empty (cwd : Bytes) : normalizeUrl cwd none [] = mkFile (joinPath cwd []) := by
  unfold normalizeUrl
  simp [lstrip, urlsplit, splitScheme, breakAt, isLocalScheme, startsWith, fromUri, strip, windowsForm,
    unquote, isAbsPath, urn]

/-- `base_url=''` IS a sandbox base (`some [] ≠ none`): the constructor derives nothing from the
    source (xml_resource.py:166 tests `base_url is None`) and `access_control` enforces the sandbox
    (xml_resource.py:331 tests `self._base_url is not None`), which is then the working directory. -/
theorem sandbox_empty_base_confined (cwd loc : Bytes) (hcwd : isAbsPath cwd = true) :
    effectiveBase .sandbox cwd (some []) loc = some (some []) ∧
    ((resolve .sandbox cwd (some []) loc).decision = some .ok →
      ∃ p u, (resolve .sandbox cwd (some []) loc).norm = .file p u ∧
        Under (normpath (joinPath cwd [])) p ∧ ∀ c ∈ comps p, CleanComp c) := by
  refine ⟨by simp [effectiveBase], fun h => ?_⟩
  obtain ⟨p, u, d, du, hn, hd, hu, hc⟩ := resolve_sandbox_confined cwd [] loc hcwd h
  rw [normalizeUrl_empty] at hd
  simp only [mkFile, Norm.file.injEq] at hd
  exact ⟨p, u, hn, by rw [hd.1]; exact hu, hc⟩

example : (resolve .sandbox (bs "/r/s") (some []) (bs "../o/x")).decision = some .blockedSandbox ∧
    (resolve .sandbox (bs "/r/s") (some []) (bs "sub/x")).decision = some .ok ∧
    (resolve .sandbox (bs "/r/s") none (bs "../o/x")).decision = some .ok := by decide +kernel

/-- Findings C12-F2 / C12-F3: a resource constructed in sandbox mode WITHOUT a base URL takes the
    directory of its own location as sandbox, so an arbitrary local path passes: cwd `/r/sand`,
    location `/r/other/i`.  Wrong for a resource constructed for a location found inside another
    resource (fetch_schema_locations, load_namespace): since 16c0d57 these two call sites pass the
    sandbox base of the including resource, the second conjunct.  The harness replays the witness. -/
theorem selfbase_counterexample :
    (resolve .sandbox [47, 114, 47, 115, 97, 110, 100] none [47, 114, 47, 111, 116, 104, 101, 114, 47, 105]).decision
      = some .ok ∧
    (resolve .sandbox [47, 114, 47, 115, 97, 110, 100] (some [47, 114, 47, 115, 97, 110, 100])
      [47, 114, 47, 111, 116, 104, 101, 114, 47, 105]).decision = some .blockedSandbox := by
  decide +kernel

example : (resolve .sandbox [47, 114] (some [47, 114, 47, 115]) [47, 114, 47, 115, 47, 105]).decision = some .ok := by
  decide +kernel
example : (resolve .remote [47, 114] none [104, 116, 116, 112, 58, 47, 47, 104, 47, 105]).decision = some .ok := by
  decide +kernel
example : (resolve .loc [47, 114] none [105]).decision = some .ok := by decide +kernel

end XsVerif.Props.C12
