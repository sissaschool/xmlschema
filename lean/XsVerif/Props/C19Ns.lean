/-
  C19 — errors point at the offending node: the path AS A USER READS IT (continuation of Props/C19.lean).

  `error.path` is computed on the tree of expanded names, written with a namespace map `m` and read back by the
  user with the map `m'` the error carries (Model/PathsNs.lean).  Proved: the user's evaluation selects exactly the
  element whenever every name on the path reads back to the expanded name it was written for; with `m' = m` that
  is `render_resolves_partial` of Props/C19.lean (exception: finding C19-F1).
-/
import XsVerif.Model.PathsNs
import XsVerif.Props.C19

namespace XsVerif.Props.C19
open XsVerif.NsMapper XsVerif.Paths XsVerif.PathsNs

namespace Ns

theorem idxOf_split {l : List QT} {i : Nat} {c : QT} (k : Nat) (h : l[i]? = some c) :
    PathsNs.idxOf c.q l k
      = PathsNs.idxOf c.q (l.take i) k ++ (k + i) :: PathsNs.idxOf c.q (l.drop (i + 1)) (k + i + 1) := by
  induction l generalizing i k with
  | nil => cases h
  | cons d cs ih =>
    cases i with
    | zero => cases h; rw [PathsNs.idxOf, if_pos rfl]; rfl
    | succ i =>
      rw [PathsNs.idxOf, List.take_succ_cons, List.drop_succ_cons, PathsNs.idxOf, ih (k + 1) h,
        Nat.add_right_comm k 1 i]
      split <;> rfl

theorem selectStep_stepFor (l : List QT) (i : Nat) (s : QStep) (h : PathsNs.stepFor l i = some s) :
    PathsNs.selectStep l s = [i] := by
  unfold PathsNs.stepFor at h
  split at h
  · cases h
  · rename_i c hc
    have hs := idxOf_split 0 hc
    rw [Nat.zero_add] at hs
    cases h
    split
    · rename_i h1
      rw [hs] at h1
      show PathsNs.idxOf c.q l 0 = [i]
      rw [hs, (eq_nil_of_length_eq_one h1).1, (eq_nil_of_length_eq_one h1).2]
      rfl
    · show (match (PathsNs.idxOf c.q l 0)[_ + 1 - 1]? with | some j => [j] | none => []) = [i]
      rw [hs, Nat.add_sub_cancel, List.getElem?_append_right (Nat.le_refl _), Nat.sub_self]
      rfl

end Ns

/-- On the tree of expanded names, the path computed for a position selects exactly that position
    (`path_selects_unique` with the name test on expanded names, as `etree_getpath` compares tags). -/
theorem qpath_selects_unique (t : QT) (pos : List Nat) (p : QN × List QStep)
    (h : PathsNs.getPath t pos = some p) : PathsNs.selectAbs t p = [pos] := by
  obtain ⟨steps, hs, rfl⟩ := Option.map_eq_some_iff.mp h
  rw [PathsNs.selectAbs, if_pos rfl]
  clear h
  induction pos generalizing t steps with
  | nil => cases t; cases hs; rfl
  | cons i is ih =>
    obtain ⟨tag, ch⟩ := t
    rw [PathsNs.getSteps] at hs
    split at hs
    · rename_i s c h1 h2
      obtain ⟨rest, h3, rfl⟩ := Option.map_eq_some_iff.mp hs
      rw [PathsNs.select, Ns.selectStep_stepFor ch i s h1, List.flatMap_singleton, h2]
      show (PathsNs.select c rest).map (i :: ·) = _
      rw [ih c rest h3]
      rfl
    · cases hs

/-- same local name in different namespaces among the siblings: the position counts the siblings with the same
    EXPANDED name (`{urn:t}e`, `{urn:x}e`, `e`, `{urn:t}e`: the last one is `{urn:t}e[2]`, not `[3]` or `[4]`) -/
example : let t := QT.node ⟨"urn:t", "r"⟩ [.node ⟨"urn:t", "e"⟩ [], .node ⟨"urn:x", "e"⟩ [], .node ⟨"", "e"⟩ [],
      .node ⟨"urn:t", "e"⟩ []]
    PathsNs.getPath t [3] = some (⟨"urn:t", "r"⟩, [⟨⟨"urn:t", "e"⟩, some 2⟩]) ∧
    PathsNs.getPath t [1] = some (⟨"urn:t", "r"⟩, [⟨⟨"urn:x", "e"⟩, none⟩]) ∧
    errorPathSelects [("t", "urn:t"), ("x", "urn:x")] [("t", "urn:t"), ("x", "urn:x")] t [3] = some [[3]] := by
  decide +kernel

theorem readName_eq (m : Map) (n : PName) : readName m n = resolveName m n := by
  cases n <;> rfl

/-- every name of the path, written with `m`, reads back with `m'` to the name it was written for -/
def RoundTrips (m m' : Map) (p : QN × List QStep) : Prop :=
  readName m' (renderName m p.1) = some p.1 ∧ ∀ s ∈ p.2, readName m' (renderName m s.name) = some s.name

theorem readSteps_render (m m' : Map) (steps : List QStep)
    (h : ∀ s ∈ steps, readName m' (renderName m s.name) = some s.name) :
    readSteps m' (steps.map fun s => (⟨renderName m s.name, s.pos⟩ : RStep)) = some steps := by
  induction steps with
  | nil => rfl
  | cons s rest ih =>
    have h1 := h s List.mem_cons_self
    have h2 := ih fun x hx => h x (List.mem_cons_of_mem _ hx)
    simp only [List.map_cons, readSteps, h1, h2]

/-- **The path as a user reads it selects exactly the element the error is about**, whenever the names on the
    path survive the round trip "written with `m`, read with `m'`" — any document, position and maps. -/
theorem scoped_path_selects (m m' : Map) (t : QT) (pos : List Nat) (p : QN × List QStep)
    (h : PathsNs.getPath t pos = some p) (hr : RoundTrips m m' p) :
    errorPathSelects m m' t pos = some [pos] := by
  obtain ⟨r, steps⟩ := p
  simp only [errorPathSelects, h, userSelect, readPath, renderPath, hr.1,
    readSteps_render m m' steps hr.2, Option.map_some, qpath_selects_unique t pos _ h]

/-- the guard of `render_resolves_partial` for every name of a path: a name in no namespace only if the map does
    not bind the empty prefix to a namespace (the exception is finding C19-F1) -/
def NoBareUnderDefault (m : Map) (p : QN × List QStep) : Prop :=
  (p.1.ns = "" → m.get "" = none ∨ m.get "" = some "") ∧
  ∀ s ∈ p.2, s.name.ns = "" → m.get "" = none ∨ m.get "" = some ""

/-- The code as it is: `error.path` is written with the map the error carries at the moment it is read, and the
    user reads it with that same map.  Then the path selects exactly the element (outside C19-F1). -/
theorem same_map_path_selects (m : Map) (hn : m.Nodup) (t : QT) (pos : List Nat) (p : QN × List QStep)
    (h : PathsNs.getPath t pos = some p) (hg : NoBareUnderDefault m p) :
    errorPathSelects m m t pos = some [pos] := by
  apply scoped_path_selects m m t pos p h
  refine ⟨?_, fun s hs => ?_⟩
  · rw [readName_eq]; exact render_resolves_partial m p.1 hn hg.1
  · rw [readName_eq]; exact render_resolves_partial m s.name hn (hg.2 s hs)

/-- If a name on the path cannot be read with the user's map, the user gets nothing at all. -/
theorem unreadable_step (m m' : Map) (t : QT) (pos : List Nat) (p : QN × List QStep)
    (h : PathsNs.getPath t pos = some p) (hu : readName m' (renderName m p.1) = none) :
    errorPathSelects m m' t pos = none := by
  simp only [errorPathSelects, h, userSelect, readPath, renderPath, hu, Option.map_none]

/-- the document of the witnesses: `<order xmlns="urn:a"><id/><p:parcel xmlns:p="urn:b"/><parcel xmlns="urn:b"/></order>` -/
def orderDoc : QT :=
  .node ⟨"urn:a", "order"⟩ [.node ⟨"urn:a", "id"⟩ [], .node ⟨"urn:b", "parcel"⟩ [.node ⟨"urn:b", "weight"⟩ []],
    .node ⟨"urn:b", "parcel"⟩ [.node ⟨"urn:b", "weight"⟩ []]]

/-- written and read with one map (here the root-level map: `{urn:b}` names stay braced): selects the element -/
example : errorPathSelects [("", "urn:a")] [("", "urn:a")] orderDoc [2, 0] = some [[2, 0]] := by decide +kernel

example : PathsNs.getPath orderDoc [1] = some (⟨"urn:a", "order"⟩, [⟨⟨"urn:b", "parcel"⟩, some 1⟩]) ∧
    RoundTrips [("", "urn:a"), ("p", "urn:b")] [("", "urn:a"), ("p", "urn:b")]
      (⟨"urn:a", "order"⟩, [⟨⟨"urn:b", "parcel"⟩, some 1⟩]) := by
  refine ⟨by decide +kernel, by decide +kernel, ?_⟩
  intro s hs
  simp only [List.mem_singleton] at hs
  subst hs
  decide +kernel

/-- **A path written with another map than the one the error carries** (the map in scope at a nested element when
    the error was collected vs the root-level map `error.namespaces` shows afterwards):
    (1) `/order/p:parcel[1]` cannot be read with `{'': 'urn:a'}` (prefix `p` is not declared);
    (2) `/{urn:a}order/parcel[2]`, written under the new default namespace `urn:b`, selects nothing with
        `{'': 'urn:a'}`;
    (3) written after the prefixes were swapped (`t`↔`x`), `/x:root` read with the unswapped map selects nothing. -/
theorem stale_map_counterexample :
    errorPathSelects [("", "urn:a"), ("p", "urn:b")] [("", "urn:a")] orderDoc [1] = none ∧
    errorPathSelects [("", "urn:b")] [("", "urn:a")] orderDoc [2] = some [] ∧
    errorPathSelects [("t", "urn:x"), ("x", "urn:t")] [("t", "urn:t"), ("x", "urn:x")]
      (.node ⟨"urn:t", "root"⟩ [.node ⟨"urn:t", "item"⟩ []]) [0] = some [] := by decide +kernel

end XsVerif.Props.C19
