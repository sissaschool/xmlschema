/-
  C05 — decoded data re-encodes to an equivalent document (converter part).

  Property text: "For every valid document, decoding with a lossless converter (JsonML, data elements, and
  the default/BadgerFish/GData conventions on content models whose same-named children are contiguous) and
  encoding the result yields XML that is ... equal to the original in element structure, attribute sets and
  typed values, and that decodes to the same data again."

  Formal reading: the validators hand every element to the converter as an `ElementData` tuple and build the
  XML tree back from the `ElementData` tuples returned by `element_encode` (elements.py:816-834, 937-1082,
  groups.py:1096-1214).  `decTree`/`encTree` are that recursion; the theorems say that the tree of
  ElementData tuples that comes back is the original one up to the documented normalisations
  (`normTree`: cdata parts renumbered from 1, the text of a mixed element moved to the first cdata part,
  xmlns kept only when the converter processes namespaces).  Element structure, attribute sets and typed
  values are fields of these tuples.
-/
import XsVerif.Lemmas.JsonML
import XsVerif.Lemmas.Tree
import XsVerif.Lemmas.ContentOrder
import XsVerif.Lemmas.DataElement
import XsVerif.Lemmas.DefaultConv
import XsVerif.Lemmas.JsonMLScoped

namespace XsVerif.Props.C05
open XsVerif.Conv

/-- **JsonML, one level** (jsonml.py:64-132): for every admissible `ElementData` whose converted children are
    JsonML lists, `element_encode (element_decode data)` returns the data again (attributes, typed text,
    content order, names), up to `norm1`. -/
theorem jsonml_level_roundtrip (m : Mapper) (useNs : Bool) (f : Facts) (hd : Hd) (its : List (Item J))
    (w : JsonML.WF1 m useNs f hd its) (hk : JsonML.Kids m its) :
    JsonML.enc m useNs f hd.tag (JsonML.dec m useNs f hd its) = .ok (JsonML.norm1 useNs f hd its) :=
  JsonML.level_roundtrip w hk

/-- **JsonML, whole documents**: for every typed tree of ElementData tuples (any depth, any width) whose
    levels are admissible, encoding the decoded data gives back the tree up to the documented normalisations
    provided the fuel (a bound on the nesting depth that the encoder may explore) is at least the depth of the tree. -/
theorem jsonml_roundtrip (m : Mapper) (useNs : Bool) (sch : Nat → Option Facts) (n : Node)
    (hw : TreeWF (fun f hd sh => JsonML.WF1 m useNs f hd sh) sch n) (fuel : Nat) (hfuel : n.depth ≤ fuel) :
    encTree (JsonML.conv m useNs) sch fuel n.f n.hd.tag (decTree (JsonML.conv m useNs) n)
      = .ok (normTree (fun {_} f hd its => JsonML.norm1 useNs f hd its) n) :=
  (tree_rt (JsonML.conv m useNs) (JsonML.jsonml_levelOK m useNs) sch n hw fuel hfuel).1

/-- identity mapper (a document without namespaces) -/
def idMapper : Mapper := { mp := id, um := id, umA := id }

def exFacts : Facts :=
  { hasGroup := true, simple := false, mixed := true, emptyContent := false, complex := true,
    singleGroup := false, isList := false, anyType := false, attrs := ["id"],
    children := [{ name := "a", ty := 1, single := false }] }

def exHd : Hd := { tag := "root", text := none, attrs := [("id", .atom "i" "7")], xmlns := [("t", "urn:t")] }

def exItems : List (Item J) :=
  [.cdata 1 (.atom "s" "hello"), .child "a" false (.list [.atom "s" "a", .atom "i" "1"]),
   .cdata 2 (.atom "s" "mid"), .child "a" false (.list [.atom "s" "a", .atom "i" "2"])]

/-- non-vacuity of `jsonml_level_roundtrip` -/
example : JsonML.WF1 idMapper true exFacts exHd exItems ∧ JsonML.Kids idMapper exItems := by
  have hc : ∀ i v, Item.cdata i v ∈ exItems → v.isSeq = false ∧ v.isMap = false := by
    intro i v h
    simp only [exItems, List.mem_cons, Item.cdata.injEq, List.mem_nil_iff, or_false] at h
    rcases h with ⟨_, rfl⟩ | h | ⟨_, rfl⟩ | h
    · exact ⟨rfl, rfl⟩
    · cases h
    · exact ⟨rfl, rfl⟩
    · cases h
  have hk : JsonML.Kids idMapper exItems := by
    intro nm s v h
    simp only [exItems, List.mem_cons, Item.child.injEq, List.mem_nil_iff, or_false] at h
    rcases h with h | ⟨rfl, _, rfl⟩ | h | ⟨rfl, _, rfl⟩
    · cases h
    · exact ⟨_, rfl⟩
    · cases h
    · exact ⟨_, rfl⟩
  have hx : isXmlnsKey "id" = false := by decide +kernel
  exact ⟨{ tag := rfl, attrsUm := fun _ _ => rfl, attrsNodup := by decide +kernel,
           attrsNodup' := by decide +kernel, attrsNotXmlns := by simp [exHd, idMapper, hx],
           xmlnsNodup := by decide +kernel, textOk := by simp [exHd], textStr := by simp [exHd],
           textAlone := by simp [exHd], groupIff := rfl, simpleNoItems := by simp [exFacts],
           emptyNoItems := by simp [exFacts], cdataStr := hc, kidsUm := fun _ _ _ _ => rfl }, hk⟩

example : JsonML.dec idMapper true exFacts exHd exItems =
    .list [.atom "s" "root", .dict [("id", .atom "i" "7"), ("xmlns:t", .atom "s" "urn:t")],
           .atom "s" "hello", .list [.atom "s" "a", .atom "i" "1"], .atom "s" "mid",
           .list [.atom "s" "a", .atom "i" "2"]] := rfl


/-- **DataElement, one level** (dataobjects.py:535-578): for every admissible `ElementData` whose converted
    children are DataElements, `element_encode (element_decode data)` returns the same tag, text, attributes and
    xmlns, and the same content sequence (names, order, cdata parts renumbered from 1) in which every child
    value is the decoded child, possibly carrying the tail that `element_decode` attached to it. -/
theorem dataelement_level_roundtrip (m : Mapper) (f : Facts) (hd : Hd) (its : List (Item J))
    (w : DE.WF1 m f hd its) (hk : DE.Kids its) :
    ∃ its', DE.enc m f hd.tag (DE.dec m f hd its) = .ok (hd, its') ∧ ItemsRel DE.R (renum 1 its) its' :=
  DE.level_roundtrip w hk

/-- **DataElement, whole documents**: for every typed tree of ElementData tuples (any depth, any width) whose
    levels are admissible, encoding the decoded DataElement tree gives back the tree of ElementData tuples with
    the cdata parts renumbered from 1
    provided the fuel is at least the depth of the tree. -/
theorem dataelement_roundtrip (m : Mapper) (sch : Nat → Option Facts) (n : Node)
    (hw : TreeWF (fun f hd sh => DE.WF1 m f hd sh) sch n) (fuel : Nat) (hfuel : n.depth ≤ fuel) :
    encTree (DE.conv m) sch fuel n.f n.hd.tag (decTree (DE.conv m) n)
      = .ok (normTree (fun {_} f hd its => DE.norm1 f hd its) n) :=
  (tree_rt (DE.conv m) (DE.dataelement_levelOK m) sch n hw fuel hfuel).1

def deItems : List (Item J) :=
  [.cdata 1 (.atom "s" "hello"), .child "a" false (.elem "a" (.atom "i" "1") [] [] .null []),
   .cdata 2 (.atom "s" "mid"), .child "a" false (.elem "a" (.atom "i" "2") [] [] .null [])]

def deHd : Hd := { exHd with text := none }

/-- non-vacuity of `dataelement_level_roundtrip` -/
example : DE.WF1 idMapper exFacts deHd deItems ∧ DE.Kids deItems := by
  have hk : DE.Kids deItems := by
    intro nm s v h
    simp only [deItems, List.mem_cons, Item.child.injEq, List.mem_nil_iff, or_false] at h
    rcases h with h | ⟨rfl, _, rfl⟩ | h | ⟨rfl, _, rfl⟩
    · cases h
    · exact ⟨_, _, _, _, rfl⟩
    · cases h
    · exact ⟨_, _, _, _, rfl⟩
  have hd : DE.isDigits "a" = false := by decide +kernel
  refine ⟨{ attrsUm := fun _ _ => rfl, attrsNodup := by decide +kernel, attrsNodup' := by decide +kernel,
            textOk := by simp [deHd], textAlone := by simp [deHd], noGroup := by simp [exFacts],
            notAlone := .inr rfl, alt := rfl, kidsName := ?_ }, hk⟩
  intro nm s v h
  simp only [deItems, List.mem_cons, Item.child.injEq, List.mem_nil_iff, or_false] at h
  rcases h with h | ⟨rfl, _, _⟩ | h | ⟨rfl, _, _⟩
  · cases h
  · exact hd
  · cases h
  · exact hd

example : DE.dec idMapper exFacts deHd deItems =
    .elem "root" (.atom "s" "hello") [("id", .atom "i" "7")]
      [.elem "a" (.atom "i" "1") [] [] (.atom "s" "mid") [], .elem "a" (.atom "i" "2") [] [] .null []]
      .null [("t", "urn:t")] := rfl

/-- the guard "two character data parts are never adjacent" of `DE.WF1.alt` is necessary: `element_decode`
    keeps only the last of two adjacent parts (`data_element[-1].tail = value` twice), so the content that
    comes back is shorter.  (Full statement without the guard: false.)  Replayed on the real
    `DataElementConverter.element_decode/element_encode` by the harness. -/
theorem dataelement_roundtrip_counterexample :
    DE.enc idMapper exFacts "root"
      (DE.dec idMapper exFacts { tag := "root", text := none, attrs := [], xmlns := [] }
        [.child "a" false (.elem "a" (.atom "i" "1") [] [] .null []), .cdata 1 (.atom "s" "x"),
         .cdata 2 (.atom "s" "y")])
    = .ok ({ tag := "root", text := none, attrs := [], xmlns := [] },
           [.child "a" false (.elem "a" (.atom "i" "1") [] [] (.atom "s" "y") []), .cdata 1 (.atom "s" "y")]) := rfl

/-! ### the default convention, XMLSchemaConverter (converters/base.py:350-508)

  Full statement (FALSE for the code): "for every admissible ElementData, `element_encode (element_decode d)`
  is `d` up to `norm1`".  The default convention collapses same-named children into one dictionary entry,
  drops character data parts without a `cdata_prefix`, and puts attributes, text, declarations and children in
  one key space.  Proved: the statement under the decidable guards of `Dflt.WF1` (same-named children
  contiguous, no character data between children, no key collisions, no list-typed children, attributes/text
  not dropped by the options); the three `_counterexample`s below show what happens outside the guards and
  are replayed on the real converter by the harness.

  `element_encode` resolves the key of EACH child item with the declarations that the item itself carries
  (base.py:488-494, `Dflt.putValue`/`Dflt.kidsX`, `Mapper.umX`; the runs of a key whose items disagree are
  emitted item by item under the names the items denote).  The one-level theorems are stated for one mapper per
  level, so `Dflt.KidOK.umX` asks that the declarations carried by a child do not change what the child's key
  denotes. -/

/-- **default convention, one level, under guards** (base.py:350-508, `preserve_root=False`): for every
    options record, every name mapper and every `ElementData` that meets the guards `Dflt.WF1`, whose converted
    children are not sequences, `element_encode (element_decode data)` returns the tag, the text, the attribute
    dict (same keys, same typed values, same order), the namespace declarations and the children (same names,
    same values, same order) again, up to `Dflt.norm1`. -/
theorem default_level_roundtrip_partial (o : Dflt.Opts) (m : Mapper) (f : Facts) (hd : Hd) (its : List (Item J))
    (w : Dflt.WF1 o m f hd its) (hk : Dflt.Kids its) :
    Dflt.enc o m f hd.tag (Dflt.dec o m f hd its) = .ok (Dflt.norm1 o f hd its) :=
  Dflt.level_roundtrip w hk

/-- **default convention, whole documents, under guards**: for every typed tree of ElementData tuples (any
    depth, any width) all of whose levels meet the guards, encoding the decoded dictionaries gives the tree back
    up to the documented normalisations — provided the fuel is at least the depth of the tree. -/
theorem default_roundtrip_partial (o : Dflt.Opts) (m : Mapper) (sch : Nat → Option Facts) (n : Node)
    (hw : TreeWF (fun f hd sh => Dflt.WF1 o m f hd sh) sch n) (fuel : Nat) (hfuel : n.depth ≤ fuel) :
    encTree (Dflt.conv o m) sch fuel n.f n.hd.tag (decTree (Dflt.conv o m) n)
      = .ok (normTree (fun {_} f hd its => Dflt.norm1 o f hd its) n) :=
  (tree_rt (Dflt.conv o m) (Dflt.default_levelOK o m) sch n hw fuel hfuel).1

/-- keys of the content that comes back (`#` for a character data part) -/
def contentKeys : Except Err (Hd × List (Item J)) → List String
  | .ok (_, its) => its.map fun | .cdata _ _ => "#" | .child nm _ _ => nm
  | .error _ => ["!"]

def abFacts : Facts :=
  { hasGroup := true, simple := false, mixed := true, emptyContent := false, complex := true,
    singleGroup := false, isList := false, anyType := false, attrs := ["a"],
    children := [{ name := "a", ty := 1, single := false }, { name := "b", ty := 1, single := false }] }

def abHd : Hd := { tag := "root", text := none, attrs := [], xmlns := [] }

/-- outside the guard "same-named children are contiguous": `a b a` comes back as `a a b` -/
theorem default_roundtrip_counterexample_noncontiguous :
    contentKeys (Dflt.enc {} idMapper abFacts "root" (Dflt.dec {} idMapper abFacts abHd
      [.child "a" false (.atom "i" "1"), .child "b" false (.atom "i" "2"), .child "a" false (.atom "i" "3")]))
    = ["a", "a", "b"] := by decide +kernel

/-- outside the guard "no mixed text between children" (no `cdata_prefix`): the character data part is lost -/
theorem default_roundtrip_counterexample_mixed_text :
    contentKeys (Dflt.enc {} idMapper abFacts "root" (Dflt.dec {} idMapper abFacts abHd
      [.cdata 1 (.atom "s" "txt"), .child "a" false (.atom "i" "1")]))
    = ["a"] := by decide +kernel

/-- outside the guard "no attribute/child key collisions" (`attr_prefix=''`): the attribute `a` and the child
    `a` share one dictionary entry; two children `a` and no attribute come back -/
theorem default_roundtrip_counterexample_key_collision :
    contentKeys (Dflt.enc { attrPrefix := some "" } idMapper abFacts "root"
      (Dflt.dec { attrPrefix := some "" } idMapper abFacts { abHd with attrs := [("a", .atom "s" "x")] }
        [.child "a" false (.atom "i" "1")]))
    = ["a", "a"] := by decide +kernel

def dfItems : List (Item J) :=
  [.child "a" false (.dict [("@k", .atom "s" "v"), ("$", .atom "i" "1")]), .child "a" false (.atom "i" "2"),
   .child "b" false .null]

/-- non-vacuity of `default_level_roundtrip_partial` -/
example : Dflt.WF1 {} idMapper abFacts exHd dfItems ∧ Dflt.Kids dfItems := by
  have hk : Dflt.Kids dfItems := by
    intro nm s v h
    simp only [dfItems, List.mem_cons, Item.child.injEq, List.mem_nil_iff, or_false] at h
    rcases h with ⟨_, _, rfl⟩ | ⟨_, _, rfl⟩ | ⟨_, _, rfl⟩ <;> rfl
  have ka : Dflt.KidOK {} idMapper abFacts "a" :=
    { cls := by decide +kernel, um := rfl, umX := fun _ => rfl,
      decl := ⟨{ name := "a", ty := 1, single := false }, rfl, rfl⟩ }
  have kb : Dflt.KidOK {} idMapper abFacts "b" :=
    { cls := by decide +kernel, um := rfl, umX := fun _ => rfl,
      decl := ⟨{ name := "b", ty := 1, single := false }, rfl, rfl⟩ }
  refine ⟨{ attrsUm := fun _ _ => rfl, attrsNodup' := by decide +kernel, attrPre := fun _ => rfl,
            attrClass := ?_, attrsNodup := by decide +kernel, xmlnsNodup := by decide +kernel,
            xmlnsClass := ?_, xmlnsBack := by decide +kernel, textNotXmlns := ?_,
            textOk := by simp [exHd], textKeyOk := by simp [exHd], textPlace := by simp [exHd],
            textAlone := by simp [exHd], noGroup := by simp [abFacts], noCd := rfl, contiguous := by decide +kernel,
            kids := ?_ }, hk⟩
  · intro p hp kv hkv
    have : p = "@" := by cases hp; rfl
    subst this
    simp only [exHd, List.mem_singleton] at hkv
    subst hkv
    decide +kernel
  · intro kv hkv
    simp only [exHd, xmlnsEntries, List.map_cons, List.map_nil, List.mem_singleton] at hkv
    subst hkv
    decide +kernel
  · intro k hk'
    have : k = "$" := by cases hk'; rfl
    subst this
    decide +kernel
  · intro nm s v h
    simp only [dfItems, List.mem_cons, Item.child.injEq, List.mem_nil_iff, or_false] at h
    rcases h with ⟨rfl, _, _⟩ | ⟨rfl, _, _⟩ | ⟨rfl, _, _⟩
    · exact ka
    · exact ka
    · exact kb

example : contentKeys (Dflt.enc {} idMapper abFacts "root" (Dflt.dec {} idMapper abFacts exHd dfItems))
    = ["a", "a", "b"] := by decide +kernel

/-! ### documents whose elements (re)declare namespaces below the root

  With namespace declarations on nested elements the converter's name mapping is not one function per
  document: `set_xmlns_context` (namespaces.py:192-251) pushes an element's declarations when the element is
  entered and restores the saved map when it is left (one context at a time on decode, possibly several at once
  on encode).  `decTreeS`/`encTreeS` (Model/Converters.lean) are the recursion of the validators with the
  discipline this implements — the mapping seen by an element is a function of the declarations written on its
  ancestors-or-self, whatever its earlier siblings and their descendants declared — and the theorems below lift
  the one-level round trips to whole documents under that discipline, for every family of mappers indexed by
  the declarations in scope.  The harness checks on the real converters that the mapping of every
  `element_decode`/`element_encode` call IS a function of that lexical scope and replays the document through `decTreeS`/`encTreeS`. -/

/-- **JsonML, whole documents with nested namespace declarations** (namespaces processed): for every family of
    name mappers indexed by the declarations in scope and every typed tree of ElementData tuples (any depth, any
    width, any placement of declarations) whose levels are admissible in their own scope, encoding the decoded data
    gives the tree back up to the documented normalisations.  An element's own name and attribute names are
    un-mapped in the element's scope, a child's name in the scope extended with the child's declarations
    (jsonml.py:126-131) — so a child may be written with a prefix that only the child declares. -/
theorem jsonml_roundtrip_scoped (m : NsScope → Mapper) (sch : Nat → Option Facts) (sc : NsScope) (n : Node)
    (hw : TreeWFS (fun sc f hd sh => JsonML.WF1K (m sc) f hd sh) sch sc n) (fuel : Nat) (hfuel : n.depth ≤ fuel) :
    encTreeS (JsonML.sconv m) sch fuel sc n.f n.hd.tag (decTreeS (JsonML.sconv m) sc n)
      = .ok (normTree (fun {_} f hd its => JsonML.norm1 true f hd its) n) :=
  (tree_rt_scoped (JsonML.sconv m) (JsonML.jsonml_scopedOK m) sch n sc hw fuel hfuel).1

/-- a name mapping given by a table `[(extended, prefixed)…]` (names not listed map to themselves) -/
def tblMapper (t : List (String × String)) : Mapper :=
  let mp := fun k => match t.find? (·.1 == k) with | some p => p.2 | none => k
  let um := fun k => match t.find? (·.2 == k) with | some p => p.1 | none => k
  { mp, um, umA := um }

def sRoot : NsScope := [("", "urn:t")]
def sA : NsScope := [("p", "urn:t"), ("", "")] ++ sRoot
def sB : NsScope := [("q", "urn:q")] ++ sA

/-- under the root's declarations names of `urn:t` are written without prefix; inside `a` (which re-binds the
    default namespace and declares `p`) with the prefix `p` -/
def exM : NsScope → Mapper := fun sc =>
  if sc = sRoot then tblMapper [("{urn:t}root", "root"), ("{urn:t}a", "a"), ("{urn:t}b", "b"), ("{urn:t}c", "c")]
  else tblMapper [("{urn:t}a", "p:a"), ("{urn:t}b", "p:b"), ("{urn:t}c", "p:c")]

def leafF : Facts :=
  { hasGroup := false, simple := true, mixed := false, emptyContent := false, complex := false,
    singleGroup := false, isList := false, anyType := false, attrs := [], children := [] }
def aF : Facts :=
  { hasGroup := true, simple := false, mixed := false, emptyContent := false, complex := true,
    singleGroup := true, isList := false, anyType := false, attrs := [],
    children := [{ name := "{urn:t}b", ty := 0, single := true }] }
def rootF : Facts :=
  { hasGroup := true, simple := false, mixed := false, emptyContent := false, complex := true,
    singleGroup := true, isList := false, anyType := false, attrs := [],
    children := [{ name := "{urn:t}a", ty := 1, single := true }, { name := "{urn:t}c", ty := 0, single := true }] }
def exSch : Nat → Option Facts
  | 0 => some leafF
  | 1 => some aF
  | _ => none

def nB : Node := .mk leafF { tag := "{urn:t}b", text := some (.atom "i" "10"), attrs := [], xmlns := [("q", "urn:q")] } .nil
def nA : Node := .mk aF { tag := "{urn:t}a", text := none, attrs := [], xmlns := [("p", "urn:t"), ("", "")] }
  (.child "{urn:t}b" true nB .nil)
def nC : Node := .mk leafF { tag := "{urn:t}c", text := some (.atom "i" "20"), attrs := [], xmlns := [] } .nil
def exDoc : Node := .mk rootF { tag := "{urn:t}root", text := none, attrs := [], xmlns := [("", "urn:t")] }
  (.child "{urn:t}a" true nA (.child "{urn:t}c" true nC .nil))

example : decTreeS (JsonML.sconv exM) [] exDoc =
    .list [.atom "s" "root", .dict [("xmlns", .atom "s" "urn:t")],
      .list [.atom "s" "p:a", .dict [("xmlns:p", .atom "s" "urn:t"), ("xmlns", .atom "s" "")],
        .list [.atom "s" "p:b", .dict [("xmlns:q", .atom "s" "urn:q")], .atom "i" "10"]],
      .list [.atom "s" "c", .atom "i" "20"]] := rfl

theorem wf1K_noAttrs {α : Type} (m : Mapper) (f : Facts) (tag : String) (text : Option J)
    (x : List (String × String)) (its : List (Item α))
    (htag : m.um (m.mp tag) = tag)
    (hx : ((xmlnsEntries "" x).map (·.1)).Nodup)
    (htext : ∀ t, text = some t → t.isMap = false ∧ t.isNull = false ∧ t.isSeq = false)
    (halone : text.isSome = true → its = [])
    (hg : f.hasGroup = !f.simple) (hs : f.simple = true → its = []) (he : f.emptyContent = true → its = [])
    (hc : ∀ i v, Item.cdata i v ∈ its → v.isSeq = false ∧ v.isMap = false) :
    JsonML.WF1K m f { tag, text, attrs := [], xmlns := x } its :=
  { tag := htag, attrsUm := by simp, attrsNodup := by simp [JsonML.attrPairs], attrsNodup' := by simp,
    attrsNotXmlns := by simp, xmlnsNodup := hx,
    textOk := fun t h => ⟨(htext t h).1, (htext t h).2.1⟩, textStr := fun t h _ => (htext t h).2.2,
    textAlone := halone, groupIff := hg, simpleNoItems := hs, emptyNoItems := he, cdataStr := hc }

/-- non-vacuity of `jsonml_roundtrip_scoped`: the document
    `<root xmlns="urn:t"><p:a xmlns:p="urn:t" xmlns=""><p:b xmlns:q="urn:q">10</p:b></p:a><c>20</c></root>`
    (declarations nested two deep, the outer one re-binding the default namespace, followed by a later sibling
    that relies on the root's default namespace) meets the hypotheses -/
example : TreeWFS (fun sc f hd sh => JsonML.WF1K (exM sc) f hd sh) exSch [] exDoc := by
  have hb : JsonML.WF1K (exM sB) leafF { tag := "{urn:t}b", text := some (.atom "i" "10"), attrs := [], xmlns := [("q", "urn:q")] }
      ([] : List (Item Unit)) :=
    wf1K_noAttrs _ _ _ _ _ _ (by decide +kernel) (by decide +kernel) (by intro t h; cases h; exact ⟨rfl, rfl, rfl⟩)
      (fun _ => rfl) rfl (fun _ => rfl) (fun _ => rfl) (by intro i v h; simp at h)
  have hc : JsonML.WF1K (exM sRoot) leafF { tag := "{urn:t}c", text := some (.atom "i" "20"), attrs := [], xmlns := [] }
      ([] : List (Item Unit)) :=
    wf1K_noAttrs _ _ _ _ _ _ (by decide +kernel) (by decide +kernel) (by intro t h; cases h; exact ⟨rfl, rfl, rfl⟩)
      (fun _ => rfl) rfl (fun _ => rfl) (fun _ => rfl) (by intro i v h; simp at h)
  have ha : JsonML.WF1K (exM sA) aF { tag := "{urn:t}a", text := none, attrs := [], xmlns := [("p", "urn:t"), ("", "")] }
      [Item.child "{urn:t}b" true ()] :=
    wf1K_noAttrs _ _ _ _ _ _ (by decide +kernel) (by decide +kernel) (by intro t h; cases h)
      (by simp) rfl (by simp [aF]) (by simp [aF]) (by intro i v h; simp at h)
  have hr : JsonML.WF1K (exM sRoot) rootF { tag := "{urn:t}root", text := none, attrs := [], xmlns := [("", "urn:t")] }
      [Item.child "{urn:t}a" true (), Item.child "{urn:t}c" true ()] :=
    wf1K_noAttrs _ _ _ _ _ _ (by decide +kernel) (by decide +kernel) (by intro t h; cases h)
      (by simp) rfl (by simp [rootF]) (by simp [rootF]) (by intro i v h; simp at h)
  refine ⟨hr, ⟨rfl, ⟨{ name := "{urn:t}a", ty := 1, single := true }, rfl, rfl⟩,
    ⟨ha, ⟨rfl, ⟨{ name := "{urn:t}b", ty := 0, single := true }, rfl, rfl⟩, ⟨hb, trivial⟩, trivial⟩⟩,
    ⟨rfl, ⟨{ name := "{urn:t}c", ty := 0, single := true }, rfl, rfl⟩, ⟨hc, trivial⟩, trivial⟩⟩⟩


/-- **DataElement, whole documents with nested namespace declarations**: the same lifting for the
    DataElementConverter (tags are extended names, attribute names are mapped in the element's scope, the
    declarations are the element's `xmlns` attribute). -/
theorem dataelement_roundtrip_scoped (m : NsScope → Mapper) (sch : Nat → Option Facts) (sc : NsScope) (n : Node)
    (hw : TreeWFS (fun sc f hd sh => DE.WF1 (m sc) f hd sh) sch sc n) (fuel : Nat) (hfuel : n.depth ≤ fuel) :
    encTreeS (DE.sconv m) sch fuel sc n.f n.hd.tag (decTreeS (DE.sconv m) sc n)
      = .ok (normTree (fun {_} f hd its => DE.norm1 f hd its) n) :=
  (tree_rt_scoped (DE.sconv m) (DE.dataelement_scopedOK m) sch n sc hw fuel hfuel).1

/-- non-vacuity of `dataelement_roundtrip_scoped`: the decoded DataElements of `exDoc` carry the declarations of
    each level, and the tree comes back -/
example : decTreeS (DE.sconv exM) [] exDoc =
    .elem "{urn:t}root" .null [] [
      .elem "{urn:t}a" .null [] [.elem "{urn:t}b" (.atom "i" "10") [] [] .null [("q", "urn:q")]] .null
        [("p", "urn:t"), ("", "")],
      .elem "{urn:t}c" (.atom "i" "20") [] [] .null []] .null [("", "urn:t")] := rfl

/-! ### content re-ordering helpers of the encoder (models.py:819-949)

  Property text: "… yields XML that is … equal to the original in element structure …".  Between
  `element_encode` and the emission of children the encoder may re-order the content
  (`iter_unordered_content` for dict content / `unordered=True`, `iter_collapsed_content` for every converter
  that is not `losslessly`).  Whatever the model visitor answers, these helpers neither drop nor duplicate
  nor alter an entry. -/

open XsVerif.Conv.Order in
/-- `iter_unordered_content`: the emitted sequence is a permutation of the cdata entries and of all bucket
    values. -/
theorem iter_unordered_is_permutation {σ : Type} (V : Visitor σ) (fuel : Nat) (s : σ) (c : List (Nat × J))
    (b : Buckets) (out : List (Item J)) (h : iterUnordered V fuel s c b = .ok out) :
    out.Perm (cdataItems c ++ flat b) :=
  iterUnordered_perm V fuel s c b out h

open XsVerif.Conv.Order in
/-- `iter_collapsed_content`: the emitted sequence is a permutation of the input content. -/
theorem iter_collapsed_is_permutation {σ : Type} (V : Visitor σ) (fuel : Nat) (s : σ)
    (content out : List (Item J)) (h : iterCollapsed V fuel s content = .ok out) :
    out.Perm (content.map clear) :=
  iterCollapsed_perm V fuel s content out h

open XsVerif.Conv.Order in
/-- the buffer of postponed same-named children is a queue: for the content model `((a, b?){1,6}, c)` (the
    successive states of its visitor) and the content `a a a a a c`, the four buffered `a`s are handed back to the
    model first in, first out — same-named siblings keep their order.  (A stack instead of a queue gives
    1 5 4 3 2.)  Replayed on the real `iter_collapsed_content` with the real ModelVisitor by the harness. -/
theorem iter_collapsed_fifo_witness :
    iterCollapsed scriptVisitor 60
      [some ["a"], some ["b"], some ["a"], some ["b"], some ["a"], some ["b"], some ["a"], some ["b"], some ["a"],
       some ["b"], some ["a"], some ["c"], none]
      [.child "a" true (.atom "i" "1"), .child "a" true (.atom "i" "2"), .child "a" true (.atom "i" "3"),
       .child "a" true (.atom "i" "4"), .child "a" true (.atom "i" "5"), .child "c" true (.atom "i" "9")]
    = .ok [.child "a" false (.atom "i" "1"), .child "a" false (.atom "i" "2"), .child "a" false (.atom "i" "3"),
           .child "a" false (.atom "i" "4"), .child "a" false (.atom "i" "5"), .child "c" false (.atom "i" "9")] := rfl

open XsVerif.Conv.Order in
/-- non-vacuity: a run where the visitor forces a re-ordering (b is expected before a) -/
example : iterUnordered scriptVisitor 10 [some ["b"], some ["a"], none] [(1, .atom "s" "t")]
    [("a", [.atom "i" "1"]), ("b", [.atom "i" "2"])]
    = .ok [.cdata 1 (.atom "s" "t"), .child "b" false (.atom "i" "2"), .child "a" false (.atom "i" "1")] := by
  simp [iterUnordered, unorderedLoop, popC, findB, scriptVisitor, drain, cdataItems]

open XsVerif.Conv.Order in
/-- non-vacuity: a repeated name that does not match is buffered and emitted when the model asks for it -/
example : iterCollapsed scriptVisitor 10 [some ["a"], some ["b"], some ["a"], none]
    [.child "a" true (.atom "i" "1"), .child "a" true (.atom "i" "2"), .child "b" true (.atom "i" "3")]
    = .ok [.child "a" false (.atom "i" "1"), .child "b" false (.atom "i" "3"), .child "a" false (.atom "i" "2")] := rfl

end XsVerif.Props.C05
