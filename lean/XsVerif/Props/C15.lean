/-
  C15 — schema build accepts a content model exactly when it is deterministic.

  S  `UPA Σ v11 p`  no prefix of children can be continued by one child name attributed to two
                    competing particles (attributed words = words of `p.toRx` under the marked
                    matcher `mm`; names range over the finite alphabet Σ supplied by the harness);
     `EDC T p`      declarations with the same name (directly or through substitution groups) have
                    the same type.
  O  `upaOracle` / `edcCheck`   (Model/Upa.lean), proved sound below: a `cert` answer implies UPA, a
                    `witness` answer implies ¬UPA; `unknown` (fuel) is never a verdict.
  M  `Ctx.checkModel`           (Model/CheckModel.lean), port of the heuristic `check_model`, with each of its
                    five repairs as a flag of `M.fx`.

  The full-strength statement  `∀ M p, M.accepts p = true ↔ UPA Σ v11 p ∧ EDC T p`  is FALSE for the
  algorithm in both directions (known finding C15-F0), with every combination of the repairs.  `M.fx : Fixes`
  says which repairs the modelled tree contains — /repo has all five: `shared` c963102, `repSeq` and `head10`
  d9c10c3, `edc10` af3fb4c, `edcLoop` c5f567b; the harness detects them on the tree under test.  Theorems
  without a hypothesis on `M.fx` hold for every variant.

  Proved exact (accepts ⇔ UPA ∧ EDC), any size, both versions: flat choices `{lo,hi}`, hi ≠ 0, and flat sequences
  `{lo,1}` of plain element particles; every model whose root has `maxOccurs = 0`.  Refusal ⇒ violation: every flat
  sequence; EDC refusals on ALL models.  Where exactness stops: `decide` witnesses, replayed on the real code on
  every run with the outcome the theorem states for the detected variant (corpus/C15/theorem-witnesses.json).
-/
import XsVerif.Lemmas.Upa
import XsVerif.Lemmas.CheckModel
import XsVerif.Lemmas.CheckModelFlat
import XsVerif.Lemmas.CheckModelSeq
import XsVerif.Lemmas.CheckModelErr
import XsVerif.Lemmas.CheckModelSeqRep

namespace XsVerif.Props.C15
open XsVerif XsVerif.CM XsVerif.Wildcard

/-! ### S -/

def OverNames (sigma : List QN) (w : List ASym) : Prop := ∀ c ∈ w, c.1 ∈ sigma

/-- S: Unique Particle Attribution relative to the alphabet Σ.  `u` is a sequence of children already
    attributed to particles; the next child `a` must not be attributable both to particle `x` and to a
    competing particle `y` (each choice being completable to a word of the model). -/
def UPA (sigma : List QN) (v11 : Bool) (p : Particle) : Prop :=
  ∀ (u v1 v2 : List ASym) (a : QN) (x y : Nat),
    OverNames sigma u → OverNames sigma v1 → OverNames sigma v2 → a ∈ sigma →
    competing v11 p x y = true →
    Rx.Lang mm p.toRx (u ++ (a, x) :: v1) → Rx.Lang mm p.toRx (u ++ (a, y) :: v2) → False

/-- S: Element Declarations Consistent over the declarations (name, type id) that the particles of
    the model (those not switched off by `maxOccurs = 0`) contain directly or through their
    substitution groups. -/
def EDC (T : TypeTable) (p : Particle) : Prop :=
  ∀ d1 ∈ declsOf T p, ∀ d2 ∈ declsOf T p, d1.1 = d2.1 → d1.2 = d2.2

/-! ### O is correct -/

/-- The emptiness test used by the oracle is exact: for every expression, `inhabited` holds iff the
    attributed language contains a word over the given symbols. -/
theorem inhabited_iff (syms : List ASym) (r : Rx Leaf) :
    Rx.inhabited mm syms r = true ↔ ∃ w, Rx.Over syms w ∧ Rx.Lang mm r w :=
  Rx.inhabited_iff mm syms r

/-- The state normaliser preserves the language (so exploring normalised derivatives explores the
    left quotients of the model's language). -/
theorem norm_preserves_language (r : Rx Leaf) (w : List ASym) :
    Rx.Lang mm (Rx.norm r) w ↔ Rx.Lang mm r w :=
  Rx.norm_iff mm r w

theorem overNames_mid {sigma : List QN} {u v : List ASym} {c : ASym} :
    OverNames sigma (u ++ c :: v) ↔ OverNames sigma u ∧ c.1 ∈ sigma ∧ OverNames sigma v := by
  simp only [OverNames, List.mem_append, List.mem_cons, or_imp, forall_and, forall_eq]

theorem upa_iff_words {sigma : List QN} {v11 : Bool} {p : Particle} :
    UPA sigma v11 p ↔ ∀ (u v1 v2 : List ASym) (a : QN) (x y : Nat), competing v11 p x y = true →
      Rx.Lang mm p.toRx (u ++ (a, x) :: v1) → Rx.Lang mm p.toRx (u ++ (a, y) :: v2) →
      OverNames sigma (u ++ (a, x) :: v1) → OverNames sigma (u ++ (a, y) :: v2) → False := by
  constructor
  · intro h u v1 v2 a x y hcomp hl1 hl2 o1 o2
    obtain ⟨hu, ha, hv1⟩ := overNames_mid.mp o1
    exact h u v1 v2 a x y hu hv1 (overNames_mid.mp o2).2.2 ha hcomp hl1 hl2
  · intro h u v1 v2 a x y hu hv1 hv2 ha hcomp hl1 hl2
    exact h u v1 v2 a x y hcomp hl1 hl2 (overNames_mid.mpr ⟨hu, ha, hv1⟩) (overNames_mid.mpr ⟨hu, ha, hv2⟩)

theorem overNames_of_lang {sigma : List QN} {items : List FItem} (hn : ∀ it ∈ items, it.name ∈ sigma) {r : Nat}
    {k : GKind} {lo : Nat} {hi : Option Nat} {w : List ASym}
    (h : Rx.Lang mm (Particle.group r k lo hi (mkParticles items)).toRx w) : OverNames sigma w := by
  intro c hc
  obtain ⟨it, hit, rfl⟩ := lang_group_syms h c hc
  exact hn it hit

/-- The spec, stated with names, coincides with the generic automaton-level statement the
    certificate theorem is about. -/
theorem upa_iff_rx (sigma : List QN) (v11 : Bool) (p : Particle) :
    UPA sigma v11 p ↔ Rx.Upa mm (symsOf sigma p) (compete v11 p) p.toRx := by
  rw [upa_iff_words]
  constructor
  · intro h u hu ⟨⟨a, x⟩, hc1, ⟨b, y⟩, hc2, hcmp, v1, v2, hv1, hv2, hl1, hl2⟩
    simp only [compete, Bool.and_eq_true, beq_iff_eq] at hcmp
    obtain ⟨rfl, hcomp⟩ := hcmp
    have names : ∀ {w : List ASym}, Rx.Over (symsOf sigma p) w → OverNames sigma w :=
      fun hw c hc => (mem_symsOf.mp (hw c hc)).1
    exact h u v1 v2 a x y hcomp hl1 hl2 (names (Rx.over_append.mpr ⟨hu, Rx.over_cons.mpr ⟨hc1, hv1⟩⟩))
      (names (Rx.over_append.mpr ⟨hu, Rx.over_cons.mpr ⟨hc2, hv2⟩⟩))
  · intro h u v1 v2 a x y hcomp hl1 hl2 o1 o2
    obtain ⟨hu, h1⟩ := Rx.over_append.mp (lang_over_syms hl1 o1)
    obtain ⟨_, h2⟩ := Rx.over_append.mp (lang_over_syms hl2 o2)
    obtain ⟨hx, hv1⟩ := Rx.over_cons.mp h1
    obtain ⟨hy, hv2⟩ := Rx.over_cons.mp h2
    exact h u hu ⟨(a, x), hx, (a, y), hy, by simp [compete, hcomp], v1, v2, hv1, hv2, hl1, hl2⟩

/-- **The alphabet only matters through the names some particle matches**: enlarging Σ by names that
    no particle of the model matches does not change UPA.  In particular, for a model without
    wildcards, Σ = the element names of the model (with their substitution members) decides UPA over
    every larger alphabet; the choice of one representative name per wildcard region remains an
    assumption of the harness. -/
theorem upa_alphabet_complete (sigma sigma' : List QN) (v11 : Bool) (p : Particle)
    (hsub : ∀ a ∈ sigma, a ∈ sigma')
    (hcov : ∀ a ∈ sigma', (∃ l ∈ p.leaves, l.matches a = true) → a ∈ sigma) :
    UPA sigma v11 p ↔ UPA sigma' v11 p := by
  have matched : ∀ {w : List ASym}, Rx.Lang mm p.toRx w → OverNames sigma' w → OverNames sigma w := by
    intro w hl ho c hc
    obtain ⟨l, hlm, hm, _⟩ := lang_sym_leaf hl c hc
    exact hcov c.1 (ho c hc) ⟨l, hlm, hm⟩
  simp only [upa_iff_words]
  constructor
  · intro h u v1 v2 a x y hcomp hl1 hl2 o1 o2
    exact h u v1 v2 a x y hcomp hl1 hl2 (matched hl1 o1) (matched hl2 o2)
  · intro h u v1 v2 a x y hcomp hl1 hl2 o1 o2
    exact h u v1 v2 a x y hcomp hl1 hl2 (fun c hc => hsub _ (o1 c hc)) (fun c hc => hsub _ (o2 c hc))

/-- **Representatives suffice**: let `rep` map every name of a larger alphabet Σ' to a name of Σ that
    every particle of the model treats in the same way (matches both or neither).  Then UPA relative to
    Σ implies UPA relative to Σ'.  This is the precise form of the harness' assumption "one
    representative name per region": it is an assumption only about the name-matching of the leaves,
    not about the structure of the model. -/
theorem upa_representatives (sigma sigma' : List QN) (v11 : Bool) (p : Particle) (rep : QN → QN)
    (hrep : ∀ a ∈ sigma', rep a ∈ sigma)
    (hsame : ∀ l ∈ p.leaves, ∀ a ∈ sigma', l.matches (rep a) = l.matches a)
    (h : UPA sigma v11 p) : UPA sigma' v11 p := by
  rw [upa_iff_words] at h ⊢
  intro u v1 v2 a x y hcomp hl1 hl2 o1 o2
  let f : ASym → ASym := fun c => (rep c.1, c.2)
  have over : ∀ {w : List ASym}, OverNames sigma' w → OverNames sigma (w.map f) := by
    intro w hw c hc
    obtain ⟨d, hd, rfl⟩ := List.mem_map.mp hc
    exact hrep d.1 (hw d hd)
  have keep : ∀ {w : List ASym}, OverNames sigma' w → Rx.Lang mm p.toRx w → Rx.Lang mm p.toRx (w.map f) := by
    intro w hw hl
    refine Rx.lang_map mm f p.toRx w ?_ hl
    intro l hlm c hc
    rw [Particle.leaves_toRx] at hlm
    simp only [mm, f, hsame l hlm c.1 (hw c hc)]
  have k1 := keep o1 hl1
  have k2 := keep o2 hl2
  have m1 := over o1
  have m2 := over o2
  simp only [List.map_append, List.map_cons] at k1 k2 m1 m2
  exact h (u.map f) (v1.map f) (v2.map f) (rep a) x y hcomp k1 k2 m1 m2

/-- **Certificates are sound**: if the finite set `S` of expressions contains the model, is closed
    under live normalised derivatives by every attributed symbol and no state of `S` lets two
    competing symbols continue, then the model satisfies UPA — for every prefix, of any length. -/
theorem upa_certificate_sound (sigma : List QN) (v11 : Bool) (p : Particle) (S : List (Rx Leaf))
    (h : Rx.certOk mm (symsOf sigma p) (compete v11 p) p.toRx S = true) : UPA sigma v11 p :=
  (upa_iff_rx sigma v11 p).mpr (Rx.certOk_sound mm _ _ _ S h)

/-- **Witnesses are sound**: a validated witness `(u, c1, c2)` is a real violation of UPA. -/
theorem upa_witness_sound (sigma : List QN) (v11 : Bool) (p : Particle) (u : List ASym) (c1 c2 : ASym)
    (h : Rx.witnessOk mm (symsOf sigma p) (compete v11 p) p.toRx u c1 c2 = true) : ¬ UPA sigma v11 p :=
  fun hu => Rx.witnessOk_sound mm _ _ _ u c1 c2 h ((upa_iff_rx sigma v11 p).mp hu)

/-- The oracle's positive answer is a proof of UPA (whatever the fuel). -/
theorem upaOracle_det_sound (sigma : List QN) (v11 : Bool) (p : Particle) (fuel : Nat) (S : List (Rx Leaf))
    (h : upaOracle sigma v11 p fuel = .cert S) : UPA sigma v11 p :=
  (upa_iff_rx sigma v11 p).mpr (Rx.upaCheck_cert mm _ _ _ fuel S h)

/-- The oracle's negative answer is a refutation of UPA. -/
theorem upaOracle_nondet_sound (sigma : List QN) (v11 : Bool) (p : Particle) (fuel : Nat)
    (u : List ASym) (c1 c2 : ASym)
    (h : upaOracle sigma v11 p fuel = .witness u c1 c2) : ¬ UPA sigma v11 p :=
  fun hu => Rx.upaCheck_witness mm _ _ _ fuel u c1 c2 h ((upa_iff_rx sigma v11 p).mp hu)

/-- `edcCheck` decides Element Declarations Consistent. -/
theorem edc_spec (T : TypeTable) (p : Particle) : edcCheck T p = true ↔ EDC T p := by
  simp only [edcCheck, EDC, List.all_eq_true, Bool.or_eq_true, bne_iff_ne, beq_iff_eq]
  constructor
  · intro h d1 h1 d2 h2 hn
    rcases h d1 h1 d2 h2 with h | h
    · exact absurd hn h
    · exact h
  · intro h d1 h1 d2 h2
    by_cases hn : d1.1 = d2.1
    · exact .inr (h d1 h1 d2 h2 hn)
    · exact .inl hn

/-! ### M: what holds for every model -/

/-- An accepted model has no two (visited) element particles with the same name and different types:
    the EDC clause "two same-named elements have different types ⇒ the build fails", for both XSD
    versions, every shape and size of model.  (`M.visited p` are the particles `check_model` visits,
    i.e. those not below a `maxOccurs = 0` item.) -/
theorem checkModel_accepts_edc_direct (M : Ctx) (p : Particle) (h : M.accepts p = true) :
    ∀ v1 ∈ (M.visited p).map (·.1), ∀ v2 ∈ (M.visited p).map (·.1),
      M.isElem v1 = true → M.isElem v2 = true →
      (M.info v1).name = (M.info v2).name → (M.info v1).ty = (M.info v2).ty :=
  accepts_edc_direct M p h

/-- **An EDC refusal is always right**: whenever the port of `check_model` raises "Element Declarations
    Consistent violation" — any model, any nesting, wildcards and substitution groups included, both XSD
    versions — the model does violate EDC: two declarations it contains (directly or through a substitution
    group) have the same name and different types.  Holds for the algorithm with the repair of finding C15-F4
    (`fx.edcLoop`, c5f567b) and every combination of the other repairs, and for the XSD 1.0 name-only test;
    before c5f567b the statement is FALSE when substitutes are walked:
    `checkModel_edc_loop_variable_counterexample`. -/
theorem checkModel_edc_error_sound (M : Ctx) (T : TypeTable) (p : Particle) (hT : M.tableCovers T p = true)
    (hfix : M.fx.edcLoop = true ∨ (M.v11 = false ∧ M.fx.edc10 = false)) (e pe : Nat)
    (h : (M.checkModel p).err = some (.edc e pe)) : ¬ EDC T p := by
  obtain ⟨he, hpe, hc⟩ := checkModel_edc_pair M p e pe h
  obtain ⟨hee, hpee, d1, h1, d2, h2, hn, hty⟩ := consistent_false M hfix hc
  exact fun hedc => hty (hedc d1 (tableCovers_spec M hT e he hee d1 h1) d2 (tableCovers_spec M hT pe hpe hpee d2 h2) hn)

/-- **A UPA refusal always concerns two overlapping particles**: whenever the port of `check_model` raises a
    UPA error (either message) — any model, any nesting, both XSD versions, every variant `M.fx` — the two
    particles it names were visited by `check_model` (not below a `maxOccurs = 0` item), `is_overlap` holds
    for them and `is_consistent` holds; they are two *different* objects unless the shared-group repair is
    in the tree (then one particle object that sits at two places of the model is compared with itself).  (The converse direction, that the competition is real, is
    false from depth 3 on: `checkModel_false_alarm_norepeat_counterexample`.) -/
theorem checkModel_upa_error_overlap (M : Ctx) (p : Particle) (pe e : Nat)
    (h : (M.checkModel p).err = some (.upa pe e) ∨ (M.checkModel p).err = some (.sameGroup pe e)) :
    pe ∈ (M.visited p).map (·.1) ∧ e ∈ (M.visited p).map (·.1) ∧ (M.fx.shared = false → pe ≠ e) ∧
      M.overlap pe e = true ∧ M.consistent e pe = true := by
  obtain ⟨h1, h2, h3, h4, h5, _⟩ := checkModel_upa_pair M p pe e h
  exact ⟨h1, h2, h3, h4, h5⟩

/-- **XSD 1.1 precedence clause**: in XSD 1.1 the algorithm (every variant `M.fx`) never refuses a model because of
    an element particle competing with a wildcard — whenever `check_model` raises a UPA error (either
    form), the two particles are of the same kind; element/wildcard competitions are recorded as
    precedences instead.  Every model, every shape. -/
theorem checkModel_v11_element_wildcard_never_error (M : Ctx) (hv : M.v11 = true) (p : Particle) (pe e : Nat)
    (h : (M.checkModel p).err = some (.upa pe e) ∨ (M.checkModel p).err = some (.sameGroup pe e)) :
    M.isAny pe = M.isAny e :=
  (checkModel_upa_pair M p pe e h).2.2.2.2.2 hv

/-- The same clause on the specification side: under XSD 1.1 an element particle and a wildcard never
    compete, so they can never be the two particles of a UPA violation. -/
theorem spec_v11_element_wildcard_never_compete (p : Particle) (x y : Nat)
    (h : isAnyId p x ≠ isAnyId p y) : competing true p x y = false := by
  simp [competing, h]

/-- Spec sanity: a model in which no two different particles (particles switched off by
    `maxOccurs = 0` do not count) match a common name of Σ is deterministic, whatever its shape and
    occurrence ranges. -/
theorem upa_of_disjoint (sigma : List QN) (v11 : Bool) (p : Particle)
    (h : ∀ l1 ∈ p.liveLeaves, ∀ l2 ∈ p.liveLeaves, l1.id ≠ l2.id → ∀ a ∈ sigma,
      ¬ (l1.matches a = true ∧ l2.matches a = true)) : UPA sigma v11 p := by
  intro u v1 v2 a x y _ _ _ ha hcomp hl1 hl2
  obtain ⟨l1, hm1, hx, hi1⟩ := lang_sym_liveLeaf hl1 (a, x) (by simp)
  obtain ⟨l2, hm2, hy, hi2⟩ := lang_sym_liveLeaf hl2 (a, y) (by simp)
  have hne : l1.id ≠ l2.id := by
    rw [hi1, hi2]
    simp only [competing, Bool.and_eq_true, bne_iff_ne] at hcomp
    exact hcomp.1
  exact h l1 hm1 l2 hm2 hne a ha ⟨hx, hy⟩

/-! ### M refines S on flat choices -/

/-- guard of `checkModel_refines_partial` -/
structure Frag15 (M : Ctx) (sigma : List QN) (T : TypeTable) (r lo : Nat) (hi : Option Nat)
    (items : List FItem) : Prop where
  ctx : FlatCtx M r items
  rootHi : hi ≠ some 0
  rootOcc : Rx.loLeHi lo hi = true
  names : ∀ it ∈ items, it.name ∈ sigma
  occ : ∀ it ∈ items, Rx.loLeHi it.lo it.hi = true
  types : ∀ it ∈ items, T.decls it.id = [(it.name, (M.info it.id).ty)]

theorem upa_flatChoice_iff {sigma : List QN} {v11 : Bool} {r lo : Nat} {hi : Option Nat} {items : List FItem}
    (hhi : hi ≠ some 0) (hro : Rx.loLeHi lo hi = true) (hnames : ∀ it ∈ items, it.name ∈ sigma)
    (hocc : ∀ it ∈ items, Rx.loLeHi it.lo it.hi = true) (hids : items.Pairwise fun a b => a.id ≠ b.id) :
    UPA sigma v11 (flatChoice r lo hi items) ↔ (live items).Pairwise (fun a b => a.name ≠ b.name) := by
  have hsub : (live items).Sublist items := List.filter_sublist
  constructor
  · intro hupa
    refine (hids.sublist hsub).imp_of_mem ?_
    intro it jt hit hjt hid hn
    obtain ⟨v1, v2, hl1, hl2⟩ :=
      conflict_flat (r := r) hhi hro hit hjt (hocc it (hsub.subset hit)) (hocc jt (hsub.subset hjt)) hn
    exact upa_iff_words.mp hupa [] v1 v2 it.name it.id jt.id (competing_mkParticles hid) hl1 hl2
      (overNames_of_lang hnames hl1) (overNames_of_lang hnames hl2)
  · intro hpw
    apply upa_of_disjoint
    intro l1 h1 l2 h2 hne a _ ⟨hm1, hm2⟩
    rw [flatChoice, liveLeaves_group r .choice lo hhi] at h1 h2
    obtain ⟨it, hit, rfl⟩ := List.mem_map.mp h1
    obtain ⟨jt, hjt, rfl⟩ := List.mem_map.mp h2
    simp only [FItem.leaf, Leaf.matches, List.contains_cons, List.contains_nil, Bool.or_false, beq_iff_eq] at hm1 hm2
    exact hne (congrArg FItem.id (eq_of_pairwise_ne hpw it hit jt hjt (hm1.symm.trans hm2)))

/-- **`check_model` (every variant `M.fx`) is exact on flat choices**: for every choice group (any occurrence range
    other than `maxOccurs = 0`) whose members are plain element particles (any number of members, any
    occurrence ranges, both XSD versions), the port accepts the model iff it satisfies Unique Particle
    Attribution and Element Declarations Consistent. -/
theorem checkModel_refines_partial {M : Ctx} {sigma : List QN} {T : TypeTable} {r lo : Nat} {hi : Option Nat}
    {items : List FItem} (h : Frag15 M sigma T r lo hi items) :
    M.accepts (flatChoice r lo hi items) = true ↔
      UPA sigma M.v11 (flatChoice r lo hi items) ∧ EDC T (flatChoice r lo hi items) := by
  rw [accepts_flat h.ctx lo h.rootHi, upa_flatChoice_iff h.rootHi h.rootOcc h.names h.occ h.ctx.ids]
  refine ⟨fun hpw => ⟨hpw, ?_⟩, And.left⟩
  intro d1 h1 d2 h2 hn
  obtain ⟨it, hit, rfl⟩ := (declsOf_group h.types r .choice lo h.rootHi d1).mp h1
  obtain ⟨jt, hjt, rfl⟩ := (declsOf_group h.types r .choice lo h.rootHi d2).mp h2
  rw [eq_of_pairwise_ne hpw it hit jt hjt hn]

/-! ### flat sequences that repeat: refusals are sound (every variant of the algorithm)

  A refused model has an in-iteration conflict (`Bad1`) or, when the sequence repeats, a wrap-around conflict
  (`Bad2`: the last particle of the pair once more, or a new iteration that starts with the first one).  The
  converse fails before d9c10c3 (`checkModel_flat_seq_repeated_counterexample`) and, for names that occur three
  times, for every variant (`checkModel_flat_seq_repeated_patched_counterexample`). -/

/-- guard of `checkModel_flat_seq_refusal_sound` -/
structure FragSeqRep15 (M : Ctx) (sigma : List QN) (r lo : Nat) (rhi : Option Nat) (items : List FItem) : Prop where
  ctx : SeqCtxR M r rhi items
  rootHi0 : rhi ≠ some 0
  rootOcc : Rx.loLeHi lo rhi = true
  names : ∀ it ∈ items, it.name ∈ sigma
  occ : ∀ it ∈ items, Rx.loLeHi it.lo it.hi = true

theorem not_upa_of_bad {sigma : List QN} {v11 : Bool} {r lo : Nat} {rhi : Option Nat} {items : List FItem}
    (hnames : ∀ it ∈ items, it.name ∈ sigma) (hocc : ∀ it ∈ items, Rx.loLeHi it.lo it.hi = true)
    (hids : items.Pairwise fun a b => a.id ≠ b.id) (hr0 : rhi ≠ some 0) (hro : Rx.loLeHi lo rhi = true)
    (hb : BadR rhi items) : ¬ UPA sigma v11 (flatSeq r lo rhi items) := by
  intro hupa
  obtain ⟨u, v1, v2, a, x, y, hxy, w1, w2⟩ := flatSeq_conflict (r := r) (lo := lo) hocc hids hr0 hro hb
  exact upa_iff_words.mp hupa u v1 v2 a x y (competing_mkParticles hxy) w1 w2
    (overNames_of_lang hnames w1) (overNames_of_lang hnames w2)

/-- **On flat sequences a refusal is always right**: for every sequence group `{lo,hi}` (hi ≠ 0, repeating or
    not) whose members are plain element particles (any number, any occurrence ranges, both XSD versions,
    equal names referring to the same declaration) and for every variant `M.fx` of the algorithm: if the port
    of `check_model` refuses the model, the model violates Unique Particle Attribution. -/
theorem checkModel_flat_seq_refusal_sound {M : Ctx} {sigma : List QN} {r lo : Nat} {rhi : Option Nat}
    {items : List FItem} (h : FragSeqRep15 M sigma r lo rhi items)
    (hacc : M.accepts (flatSeq r lo rhi items) = false) : ¬ UPA sigma M.v11 (flatSeq r lo rhi items) :=
  not_upa_of_bad h.names h.occ h.ctx.ids h.rootHi0 h.rootOcc (h.ctx.refused_bad h.rootHi0 lo hacc)

/-! ### M refines S on flat sequences with `maxOccurs = 1`

  The `paths` dict of `check_model` keeps only the *last* particle of every name; `SeqCtx.outer_bad` shows that on
  this fragment nothing is lost by that.  The fragment cannot be widened to `maxOccurs > 1`
  (`checkModel_flat_seq_repeated_counterexample`) nor to one level of nesting, even when every group is `{1,1}`
  (`checkModel_seq_of_choices_counterexample`, `checkModel_choice_of_seqs_counterexample`). -/

/-- guard of `checkModel_refines_flat_seq_partial` -/
structure FragSeq15 (M : Ctx) (sigma : List QN) (T : TypeTable) (r lo : Nat) (items : List FItem) : Prop where
  ctx : SeqCtx M r items
  rootLo : lo ≤ 1
  names : ∀ it ∈ items, it.name ∈ sigma
  occ : ∀ it ∈ items, Rx.loLeHi it.lo it.hi = true
  types : ∀ it ∈ items, T.decls it.id = [(it.name, (M.info it.id).ty)]

theorem upa_flatSeq_iff {sigma : List QN} {v11 : Bool} {r lo : Nat} {items : List FItem}
    (hnames : ∀ it ∈ items, it.name ∈ sigma) (hocc : ∀ it ∈ items, Rx.loLeHi it.lo it.hi = true)
    (hids : items.Pairwise fun a b => a.id ≠ b.id) (hlo : lo ≤ 1) :
    UPA sigma v11 (flatSeq r lo (some 1) items) ↔ ¬ BadS items := by
  constructor
  · intro hupa hb
    exact not_upa_of_bad hnames hocc hids (by simp) (by simpa [Rx.loLeHi] using hlo) (hb.badR _) hupa
  · intro hnb u v1 v2 a x y _ _ _ _ hcomp hl1 hl2
    have hxy : x ≠ y := by
      simp only [competing, Bool.and_eq_true, bne_iff_ne] at hcomp
      exact hcomp.1
    exact hnb (seqW_conflict items hids u v1 v2 a x y hxy
      (seqW_of_lang_flatSeq (by simp) hl1) (seqW_of_lang_flatSeq (by simp) hl2))

/-- **`check_model` (every variant `M.fx`) is exact on flat sequences that do not repeat**: for every sequence group
    `{lo,1}` whose members are plain element particles (any number of members, any occurrence ranges, both
    XSD versions; equal names refer to the same declaration), the port accepts the model iff it satisfies
    Unique Particle Attribution and Element Declarations Consistent. -/
theorem checkModel_refines_flat_seq_partial {M : Ctx} {sigma : List QN} {T : TypeTable} {r lo : Nat}
    {items : List FItem} (h : FragSeq15 M sigma T r lo items) :
    M.accepts (flatSeq r lo (some 1) items) = true ↔
      UPA sigma M.v11 (flatSeq r lo (some 1) items) ∧ EDC T (flatSeq r lo (some 1) items) := by
  rw [h.ctx.accepts_seq lo, upa_flatSeq_iff h.names h.occ h.ctx.ids h.rootLo]
  refine ⟨fun hnb => ⟨hnb, ?_⟩, And.left⟩
  intro d1 h1 d2 h2 hn
  obtain ⟨it, hit, rfl⟩ := (declsOf_group h.types r .seq lo (by simp) d1).mp h1
  obtain ⟨jt, hjt, rfl⟩ := (declsOf_group h.types r .seq lo (by simp) d2).mp h2
  exact h.ctx.sameDecl it (List.mem_filter.mp hit).1 jt (List.mem_filter.mp hjt).1 hn

/-! ### M deviates from S (known finding C15-F0): concrete witnesses, replayed on the real code -/

def qa : QN := ⟨"urn:t", "a"⟩
def qb : QN := ⟨"urn:t", "b"⟩
def qh : QN := ⟨"urn:t", "h"⟩
def qs : QN := ⟨"urn:t", "s"⟩

/-- a context for a model whose elements are references to global declarations of type 0 -/
def ctxOf (v11 : Bool) (n : Nat) (p : Particle) (infos : List (Nat × EInfo)) (fx : Fixes := {}) : Ctx :=
  mkCtx v11 n p.flatten infos [qa, qb, qh, qs] fx

/-- on a model without substitution groups only the shared-group and the repeated-sequence repair can change
    the verdict (`checkModel_fx_plain`) -/
theorem accepts_ctxOf_plain {n : Nat} {p : Particle} {infos : List (Nat × EInfo)}
    (hpl : (ctxOf false n p infos).plain = true) (v11 : Bool) (fx : Fixes) (q : Particle) :
    (ctxOf v11 n p infos fx).accepts q =
      (ctxOf v11 n p infos { shared := fx.shared, repSeq := fx.repSeq }).accepts q :=
  congrArg (·.err.isNone)
    (checkModel_fx_plain (ctxOf v11 n p infos { shared := fx.shared, repSeq := fx.repSeq }) hpl fx rfl rfl q)

theorem accepts_ctxOf_plain_all {n : Nat} {p : Particle} {infos : List (Nat × EInfo)}
    (hpl : (ctxOf false n p infos).plain = true) {v11 : Bool} {q : Particle} {b : Bool}
    (h : ∀ s r, (ctxOf v11 n p infos { shared := s, repSeq := r }).accepts q = b) (fx : Fixes) :
    (ctxOf v11 n p infos fx).accepts q = b :=
  (accepts_ctxOf_plain hpl v11 fx q).trans (h _ _)

/-- `(a, a*)+` -/
def pMissed : Particle :=
  .group 0 .seq 1 none (.cons (.leaf (.elem 1 [qa]) 1 (some 1)) (.cons (.leaf (.elem 2 [qa]) 0 none) .nil))
def iMissed : List (Nat × EInfo) := [(1, { name := qa, ty := 0 }), (2, { name := qa, ty := 0 })]

/-- `check_model` before d9c10c3 accepts `(a, a*)+` although after `a` the next `a` can be attributed to
    the second particle or (new iteration) to the first one.  Both XSD versions. -/
theorem checkModel_missed_counterexample (v11 : Bool) :
    (ctxOf v11 3 pMissed iMissed).accepts pMissed = true ∧ ¬ UPA [qa] v11 pMissed := by
  refine ⟨by cases v11 <;> decide, ?_⟩
  apply upa_witness_sound [qa] v11 pMissed [(qa, 1)] (qa, 1) (qa, 2)
  cases v11 <;> decide

/-- `(b, (b{1,2}){1,2}, a)*` -/
def pAlarm : Particle :=
  .group 0 .seq 0 none (.cons (.leaf (.elem 1 [qb]) 1 (some 1))
    (.cons (.group 2 .seq 1 (some 2) (.cons (.leaf (.elem 3 [qb]) 1 (some 2)) .nil))
      (.cons (.leaf (.elem 4 [qa]) 1 (some 1)) .nil)))
def iAlarm : List (Nat × EInfo) :=
  [(1, { name := qb, ty := 0 }), (3, { name := qb, ty := 0 }), (4, { name := qa, ty := 0 })]

def isCert : Rx.UpaRes Leaf ASym → Bool | .cert _ => true | _ => false

theorem upa_of_isCert (sigma : List QN) (v11 : Bool) (p : Particle) (fuel : Nat)
    (h : isCert (upaOracle sigma v11 p fuel) = true) : UPA sigma v11 p := by
  cases hc : upaOracle sigma v11 p fuel with
  | cert S => exact upaOracle_det_sound sigma v11 p fuel S hc
  | witness u c1 c2 => rw [hc] at h; cases h
  | unknown => rw [hc] at h; cases h

theorem pAlarm_cert : isCert (upaOracle [qa, qb] false pAlarm 40) = true := by decide

/-- `check_model` (every variant `fx`) refuses `(b, (b{1,2}){1,2}, a)*` (UPA error) although it is
    deterministic: the first `b` of an iteration belongs to particle 1, every further `b` to particle 3. -/
theorem checkModel_false_alarm_counterexample (fx : Fixes) :
    (ctxOf false 5 pAlarm iAlarm fx).accepts pAlarm = false ∧ UPA [qa, qb] false pAlarm ∧
      EDC [(1, [(qb, 0)]), (3, [(qb, 0)]), (4, [(qa, 0)])] pAlarm := by
  refine ⟨accepts_ctxOf_plain_all (by decide) (by decide) fx,
    upa_of_isCert _ _ _ 40 pAlarm_cert, (edc_spec _ _).mp (by decide)⟩

/-- `(a | a){0,0}` -/
def pRoot0 : Particle :=
  .group 0 .choice 0 (some 0) (.cons (.leaf (.elem 1 [qa]) 1 (some 1)) (.cons (.leaf (.elem 2 [qa]) 1 (some 1)) .nil))

/-- **An empty content model is accepted, and rightly so** (former finding C15-F2, repaired by commit
    3bbfd3c): for every model whose root has `maxOccurs = 0` — whatever is inside — the port of
    `check_model` accepts, and the model satisfies UPA and EDC (its only word is the empty one). -/
theorem checkModel_empty_root_exact (M : Ctx) (sigma : List QN) (T : TypeTable) (p : Particle)
    (h : p.maxIsZero = true) : M.accepts p = true ∧ UPA sigma M.v11 p ∧ EDC T p := by
  refine ⟨by simp [Ctx.accepts, Ctx.checkModel, Ctx.visited, h, Ctx.outer], ?_, ?_⟩
  · intro u v1 v2 a x y _ _ _ _ _ hl1 _
    exact absurd (lang_of_maxIsZero h hl1) (by simp)
  · intro d1 h1
    simp [declsOf, liveLeaves_of_maxIsZero h] at h1

/-- the hypothesis is met by `(a | a){0,0}`, which the code refused before 3bbfd3c -/
example : pRoot0.maxIsZero = true ∧ (ctxOf false 3 pRoot0 iMissed).accepts pRoot0 = true := by decide

/-- `(h, s)` with `s` a *local* declaration of another type than the global `s` that substitutes `h` -/
def pEdc : Particle :=
  .group 0 .seq 1 (some 1) (.cons (.leaf (.elem 1 [qh, qs]) 1 (some 1)) (.cons (.leaf (.elem 2 [qs]) 1 (some 1)) .nil))
def iEdc : List (Nat × EInfo) :=
  [(1, { name := qh, ty := 0, direct := [qs], subs := [(qs, 0)] }), (2, { name := qs, ty := 1 })]

/-- XSD 1.0 `is_consistent` before af3fb4c compares declared names only: a head whose substitution group contains a
    global `s : T0` next to a local `s : T1` is accepted (XSD 1.1 refuses it). -/
theorem checkModel_edc_missed_counterexample :
    (ctxOf false 3 pEdc iEdc).accepts pEdc = true ∧ (ctxOf true 3 pEdc iEdc).accepts pEdc = false ∧
      ¬ EDC [(1, [(qh, 0), (qs, 0)]), (2, [(qs, 1)])] pEdc := by
  refine ⟨by decide, by decide, ?_⟩
  rw [← edc_spec]
  decide

def qd : QN := ⟨"urn:t", "d"⟩
def qq : QN := ⟨"urn:t", "q"⟩

/-- `(h | d)` where `d` substitutes `h` through the intermediate (abstract) member `q` -/
def pTrans : Particle :=
  .group 0 .choice 1 (some 1) (.cons (.leaf (.elem 1 [qh, qd, qs]) 1 (some 1)) (.cons (.leaf (.elem 2 [qd]) 1 (some 1)) .nil))
def iTrans : List (Nat × EInfo) :=
  [(1, { name := qh, ty := 0, direct := [qq, qs], subs := [(qs, 0), (qd, 0)] }),
   (2, { name := qd, ty := 0, sgHead := some qq })]

/-- XSD 1.0 `is_overlap` looks at the *direct* substitution-group head only: a head and an indirect
    member of its substitution group are accepted side by side in a choice although both match the
    indirect member's name (XSD 1.1, which walks `iter_substitutes`, refuses the model). -/
theorem checkModel_indirect_member_missed_counterexample (fx : Fixes) :
    (ctxOf false 3 pTrans iTrans fx).accepts pTrans = true ∧ (ctxOf true 3 pTrans iTrans fx).accepts pTrans = false ∧
      ¬ UPA [qh, qd, qs] false pTrans := by
  obtain ⟨a, b, c, d, e⟩ := fx
  refine ⟨?_, ?_, upa_witness_sound _ false pTrans [] (qd, 1) (qd, 2) (by decide)⟩
  · cases a <;> cases b <;> cases c <;> cases d <;> cases e <;> decide
  · cases a <;> cases b <;> cases c <;> cases d <;> cases e <;> decide

/-- `(G, G)` with the named group `G = (a?)` referenced twice.  As `check_model` iterates it: each
    reference (ids 1, 4) has the *same* named-group object (id 2) as its only member, whose member is
    the same element object (id 3). -/
def pSharedM : Particle :=
  let g : Particle := .group 2 .seq 1 (some 1) (.cons (.leaf (.elem 3 [qa]) 0 (some 1)) .nil)
  .group 0 .seq 1 (some 1) (.cons (.group 1 .seq 1 (some 1) (.cons g .nil))
    (.cons (.group 4 .seq 1 (some 1) (.cons g .nil)) .nil))
/-- the same content model as validation reads it (`group.content`), with one id per occurrence -/
def pSharedS : Particle :=
  .group 0 .seq 1 (some 1) (.cons (.group 1 .seq 1 (some 1) (.cons (.leaf (.elem 2 [qa]) 0 (some 1)) .nil))
    (.cons (.group 3 .seq 1 (some 1) (.cons (.leaf (.elem 4 [qa]) 0 (some 1)) .nil)) .nil))

/-- `check_model` never compares a particle object with itself (`pe is e`, models.py:155 before commit
    c963102): a model that references one named group twice, `(a?)(a?)`, is accepted although the first `a`
    can be attributed to either occurrence; written inline (`pSharedS` as the iterated tree) it is refused. -/
theorem checkModel_shared_particle_missed_counterexample :
    (ctxOf false 5 pSharedM [(3, { name := qa, ty := 0 })]).accepts pSharedM = true ∧
      (ctxOf false 5 pSharedS [(2, { name := qa, ty := 0 }), (4, { name := qa, ty := 0 })]).accepts pSharedS = false ∧
      ¬ UPA [qa] false pSharedS := by
  refine ⟨by decide, by decide, ?_⟩
  exact upa_witness_sound _ false pSharedS [] (qa, 2) (qa, 4) (by decide)

/-! ### where exactness stops: boundary witnesses -/

def qc : QN := ⟨"urn:t", "c"⟩
def el (i : Nat) (q : QN) (lo : Nat := 1) (hi : Option Nat := some 1) : Particle := .leaf (.elem i [q]) lo hi
def ei (i : Nat) (q : QN) : Nat × EInfo := (i, { name := q, ty := 0 })

/-- `(a, a?){1,2}` -/
def pSeqRep : Particle := .group 0 .seq 1 (some 2) (.cons (el 1 qa) (.cons (el 2 qa 0) .nil))

/-- **Boundary of `checkModel_refines_flat_seq_partial`, root `maxOccurs > 1`**: the flat sequence
    `(a, a?){1,2}` is accepted (the same-parent shortcut `pe.is_univocal() → continue`, models.py:169 before
    commit d9c10c3, ignores that the parent repeats) although after `a` the next `a` belongs to the second particle or, in a new
    iteration, to the first one.  Both XSD versions. -/
theorem checkModel_flat_seq_repeated_counterexample (v11 : Bool) :
    (ctxOf v11 3 pSeqRep [ei 1 qa, ei 2 qa]).accepts pSeqRep = true ∧ ¬ UPA [qa] v11 pSeqRep := by
  refine ⟨by cases v11 <;> decide, ?_⟩
  apply upa_witness_sound [qa] v11 pSeqRep [(qa, 1)] (qa, 2) (qa, 1)
  cases v11 <;> decide

/-- `(a, (c? | b), b)` — every group `{1,1}` -/
def pSeqCh : Particle :=
  .group 0 .seq 1 (some 1) (.cons (el 1 qa)
    (.cons (.group 2 .choice 1 (some 1) (.cons (el 3 qc 0) (.cons (el 4 qb) .nil))) (.cons (el 5 qb) .nil)))

/-- **Boundary, one level of nesting (sequence of choices, every group `{1,1}`)**: `(a, (c? | b), b)` is
    accepted — a required particle before the choice makes `distinguishable_paths` ignore that the choice
    is emptiable — although after `a` the child `b` belongs to the `b` of the choice or to the last `b`. -/
theorem checkModel_seq_of_choices_counterexample (v11 : Bool) (fx : Fixes) :
    (ctxOf v11 6 pSeqCh [ei 1 qa, ei 3 qc, ei 4 qb, ei 5 qb] fx).accepts pSeqCh = true ∧
      ¬ UPA [qa, qb, qc] v11 pSeqCh := by
  refine ⟨?_, upa_witness_sound [qa, qb, qc] v11 pSeqCh [(qa, 1)] (qb, 4) (qb, 5) ?_⟩
  · cases v11 <;> exact accepts_ctxOf_plain_all (by decide) (by decide) fx
  · cases v11 <;> decide

/-- `((a, a) | a)` — every group `{1,1}` -/
def pChSeq : Particle :=
  .group 0 .choice 1 (some 1) (.cons (.group 1 .seq 1 (some 1) (.cons (el 2 qa) (.cons (el 3 qa) .nil))) (.cons (el 4 qa) .nil))

/-- **Boundary, one level of nesting (choice of sequences, every group `{1,1}`)**: `((a, a) | a)` is
    accepted because `paths` is a dict keyed by name (models.py:182): when the last `a` is visited the first
    `a` has been replaced by the second one, which is distinguishable; the first and the last `a` both
    start the model. -/
theorem checkModel_choice_of_seqs_counterexample (v11 : Bool) (fx : Fixes) :
    (ctxOf v11 5 pChSeq [ei 2 qa, ei 3 qa, ei 4 qa] fx).accepts pChSeq = true ∧ ¬ UPA [qa] v11 pChSeq := by
  refine ⟨?_, upa_witness_sound [qa] v11 pChSeq [] (qa, 2) (qa, 4) ?_⟩
  · cases v11 <;> exact accepts_ctxOf_plain_all (by decide) (by decide) fx
  · cases v11 <;> decide

/-- `(((a)?, c), a)` — no group repeats -/
def pDeep : Particle :=
  .group 0 .seq 1 (some 1) (.cons (.group 1 .seq 1 (some 1)
    (.cons (.group 2 .seq 0 (some 1) (.cons (el 3 qa) .nil)) (.cons (el 4 qc) .nil))) (.cons (el 5 qa) .nil))

/-- **Refusals are not sound even without any repetition, from depth 3 on**: `(((a)?, c), a)` is refused
    (UPA error) although the required `c` separates the two `a`. -/
theorem checkModel_false_alarm_norepeat_counterexample (fx : Fixes) :
    (ctxOf false 6 pDeep [ei 3 qa, ei 4 qc, ei 5 qa] fx).accepts pDeep = false ∧ UPA [qa, qc] false pDeep := by
  refine ⟨accepts_ctxOf_plain_all (by decide) (by decide) fx,
    upa_of_isCert _ _ _ 20 (by decide)⟩

def qhd : QN := ⟨"urn:t", "hd"⟩
def qmd : QN := ⟨"urn:t", "md"⟩
def qmd2 : QN := ⟨"urn:t", "md2"⟩
/-- `(hd, b, md)`: references to the head `hd : T0`, to `b`, and to the member `md : T1` of the group of `hd`,
    which has a member `md2 : T2` of its own -/
def pLoop : Particle :=
  .group 0 .seq 1 (some 1) (.cons (.leaf (.elem 1 [qhd, qmd, qmd2]) 1 (some 1))
    (.cons (el 2 qb) (.cons (.leaf (.elem 3 [qmd, qmd2]) 1 (some 1)) .nil)))
def iLoop : List (Nat × EInfo) :=
  [(1, { name := qhd, ty := 0, direct := [qmd], subs := [(qmd, 1), (qmd2, 2)] }), ei 2 qb,
   (3, { name := qmd, ty := 1, sgHead := some qhd, direct := [qmd2], subs := [(qmd2, 2)] })]
def tLoop : TypeTable := [(1, [(qhd, 0), (qmd, 1), (qmd2, 2)]), (2, [(qb, 0)]), (3, [(qmd, 1), (qmd2, 2)])]

/-- **Finding C15-F4** — `is_consistent` lets the loop variable of its first, unsuccessful search leak into the type
    comparison: for `md` against the earlier `hd` it compares the type of `md2` (the last substitute of `md`)
    with the type of the `md` found among the substitutes of `hd`.  `(hd, b, md)` is refused with an EDC error
    although it is deterministic and consistent (and the type table covers the port's data: only the guard
    `fx.edcLoop` of `checkModel_edc_error_sound` fails).  XSD 1.1, and XSD 1.0 with `fx.edc10`; with the
    repair of the loop (`fx.edcLoop`, c5f567b) the model is accepted. -/
theorem checkModel_edc_loop_variable_counterexample :
    ((ctxOf true 4 pLoop iLoop).checkModel pLoop).err = some (.edc 3 1) ∧
    ((ctxOf false 4 pLoop iLoop { edc10 := true }).checkModel pLoop).err = some (.edc 3 1) ∧
    (ctxOf true 4 pLoop iLoop { edcLoop := true }).accepts pLoop = true ∧
    (ctxOf false 4 pLoop iLoop { edc10 := true, edcLoop := true }).accepts pLoop = true ∧
    (ctxOf true 4 pLoop iLoop).tableCovers tLoop pLoop = true ∧
    UPA [qhd, qmd, qmd2, qb] true pLoop ∧ EDC tLoop pLoop := by
  refine ⟨by decide, by decide, by decide, by decide, by decide, upa_of_isCert _ _ _ 20 (by decide),
    (edc_spec _ _).mp (by decide)⟩

/-! ### the repairs on the witnesses

  The counter-examples above stated for `ctxOf … {}` describe the code before the repairs; the others are stated
  for every combination of the repairs. -/

/-- `(a, a, a*)*` -/
def pSeqRep3 : Particle := .group 0 .seq 0 none (.cons (el 1 qa) (.cons (el 2 qa) (.cons (el 3 qa 0 none) .nil)))

/-- the models whose defect a repair removes are refused once the repair is in the tree -/
theorem checkModel_repairs_effective (v11 : Bool) (fx : Fixes) :
    (fx.repSeq = true → (ctxOf v11 3 pMissed iMissed fx).accepts pMissed = false ∧
        (ctxOf v11 3 pSeqRep [ei 1 qa, ei 2 qa] fx).accepts pSeqRep = false) ∧
    (fx.shared = true → (ctxOf v11 5 pSharedM [(3, { name := qa, ty := 0 })] fx).accepts pSharedM = false) ∧
    (fx.edc10 = true → (ctxOf v11 3 pEdc iEdc fx).accepts pEdc = false) := by
  refine ⟨fun hr => ⟨?_, ?_⟩, fun hs => ?_, fun hd => ?_⟩
  · rw [accepts_ctxOf_plain (by decide), hr]
    generalize fx.shared = s
    cases v11 <;> cases s <;> decide
  · rw [accepts_ctxOf_plain (by decide), hr]
    generalize fx.shared = s
    cases v11 <;> cases s <;> decide
  · rw [accepts_ctxOf_plain (by decide), hs]
    generalize fx.repSeq = r
    cases v11 <;> cases r <;> decide
  · obtain ⟨a, b, c, d, e⟩ := fx
    cases hd
    cases v11 <;> cases a <;> cases b <;> cases c <;> cases e <;> decide

/-- **What the repeated-sequence repair leaves open on flat sequences**: `(a, a, a*)*` is accepted by every
    variant although after `a a` the next `a` belongs to the third particle or, in a new iteration, to the
    first one — `paths` keeps only the last particle of a name, the third `a` is never compared with the
    first.  (On the tree with `fx.repSeq` no deviation was observed on repeated flat sequences in which no name occurs
    more than twice.) -/
theorem checkModel_flat_seq_repeated_patched_counterexample (v11 : Bool) (fx : Fixes) :
    (ctxOf v11 4 pSeqRep3 [ei 1 qa, ei 2 qa, ei 3 qa] fx).accepts pSeqRep3 = true ∧ ¬ UPA [qa] v11 pSeqRep3 := by
  refine ⟨?_, upa_witness_sound [qa] v11 pSeqRep3 [(qa, 1), (qa, 2)] (qa, 3) (qa, 1) ?_⟩
  · cases v11 <;> exact accepts_ctxOf_plain_all (by decide) (by decide) fx
  · cases v11 <;> decide

def qs2 : QN := ⟨"urn:t", "s2"⟩
/-- XSD 1.0 `(h:string | s)` with a LOCAL `h` of another type and `s` a member of the substitution group of the
    global `h` -/
def pLocalHead : Particle :=
  .group 0 .choice 1 (some 1) (.cons (.leaf (.elem 1 [qh]) 1 (some 1)) (.cons (.leaf (.elem 2 [qs, qs2]) 1 (some 1)) .nil))
def iLocalHead : List (Nat × EInfo) :=
  [(1, { name := qh, ty := 1, direct := [qq, qs], headOk := false }),
   (2, { name := qs, ty := 0, sgHead := some qh, direct := [qs2], subs := [(qs2, 0)] })]

/-- XSD 1.0 `is_overlap` compares `other.substitution_group` with `self.name` whatever `self` is: a local
    element merely *named* like a substitution-group head is treated as overlapping with the members of the
    group, so `(h:string | s)` is refused although deterministic and consistent.  With the head guard of
    d9c10c3 (`fx.head10`) it is accepted. -/
theorem checkModel_local_head_false_alarm_counterexample (fx : Fixes) :
    (ctxOf false 3 pLocalHead iLocalHead fx).accepts pLocalHead = fx.head10 ∧
      UPA [qh, qs, qs2] false pLocalHead ∧ EDC [(1, [(qh, 1)]), (2, [(qs, 0), (qs2, 0)])] pLocalHead := by
  refine ⟨?_, upa_of_isCert _ _ _ 20 (by decide), (edc_spec _ _).mp (by decide)⟩
  obtain ⟨a, b, c, d, e⟩ := fx
  cases a <;> cases b <;> cases c <;> cases d <;> cases e <;> decide

/-! ### non-vacuity -/

example : isCert (upaOracle [qa, qb] false pAlarm 40) = true := pAlarm_cert

/-- `(a, b?, a)` : accepted by the port and certified by the oracle -/
def pOk : Particle :=
  .group 0 .seq 1 (some 1) (.cons (.leaf (.elem 1 [qa]) 1 (some 1))
    (.cons (.leaf (.elem 2 [qb]) 0 (some 1)) (.cons (.leaf (.elem 3 [qa]) 1 (some 1)) .nil)))
theorem pOk_accepted :
    (ctxOf false 4 pOk [(1, { name := qa, ty := 0 }), (2, { name := qb, ty := 0 }), (3, { name := qa, ty := 0 })]).accepts pOk =
      true := by decide
example : (ctxOf false 4 pOk [(1, { name := qa, ty := 0 }), (2, { name := qb, ty := 0 }), (3, { name := qa, ty := 0 })]).accepts pOk = true ∧
    UPA [qa, qb] false pOk :=
  ⟨pOk_accepted, upa_of_isCert _ _ _ 20 (by decide)⟩

/-- XSD 1.1: `(any[##any]? | a)` is a conflict in 1.0 and none in 1.1 (element takes precedence) -/
def pPrec : Particle :=
  .group 0 .choice 1 (some 1) (.cons (.leaf (.any 1 { ns := .any, tns := "urn:t" }) 0 (some 1))
    (.cons (.leaf (.elem 2 [qa]) 1 (some 1)) .nil))
example : ¬ UPA [qa] false pPrec ∧ UPA [qa] true pPrec :=
  ⟨upa_witness_sound [qa] false pPrec [] (qa, 1) (qa, 2) (by decide), upa_of_isCert _ _ _ 10 (by decide)⟩

/-- `(any[##other] | any[urn:o])` in XSD 1.1: a UPA error between two wildcards (hypotheses of
    `checkModel_v11_element_wildcard_never_error` are met) -/
def pTwoAny : Particle :=
  .group 0 .choice 1 (some 1) (.cons (.leaf (.any 1 { ns := .other, tns := "urn:t" }) 1 (some 1))
    (.cons (.leaf (.any 2 { ns := .set ["urn:o"], tns := "urn:t" }) 1 (some 1)) .nil))
example : ((ctxOf true 3 pTwoAny []).checkModel pTwoAny).err = some (.sameGroup 1 2) := by decide

/-- `(a, b?, a)`: Σ = {a, b} is complete w.r.t. Σ' = {a, b, h, s} (hypotheses of `upa_alphabet_complete`) -/
example : (∀ a ∈ [qa, qb], a ∈ [qa, qb, qh, qs]) ∧
    (∀ a ∈ [qa, qb, qh, qs], (∃ l ∈ pOk.leaves, l.matches a = true) → a ∈ [qa, qb]) := by decide

/-- `(any[##any]? | a)`: with Σ = {a, b}, every name of Σ' = {a, b, h, s} has a representative
    (hypotheses of `upa_representatives`: b represents the names the wildcard alone matches) -/
example : (∀ a ∈ [qa, qb, qh, qs], (if a = qa then qa else qb) ∈ [qa, qb]) ∧
    (∀ l ∈ pPrec.leaves, ∀ a ∈ [qa, qb, qh, qs], l.matches (if a = qa then qa else qb) = l.matches a) := by decide

/-- `(a, b?, a)` over Σ = {b}: the hypothesis of `upa_of_disjoint` holds (over Σ = {a, b} it fails: both `a`) -/
example : ∀ l1 ∈ pOk.liveLeaves, ∀ l2 ∈ pOk.liveLeaves, l1.id ≠ l2.id → ∀ a ∈ [qb], ¬ (l1.matches a = true ∧ l2.matches a = true) := by
  decide

/-- `(a{1,2} | b? | a{0,0})*`: a member of the fragment of `checkModel_refines_partial` (guard holds),
    accepted; and `(a{1,2} | b? | a)*`: a member that is refused -/
def fragItems (hi3 : Option Nat) : List FItem := [⟨1, qa, 1, some 2⟩, ⟨2, qb, 0, some 1⟩, ⟨3, qa, 0, hi3⟩]
def fragInfos : List (Nat × EInfo) := [(1, { name := qa, ty := 0 }), (2, { name := qb, ty := 0 }), (3, { name := qa, ty := 0 })]
def fragT : TypeTable := [(1, [(qa, 0)]), (2, [(qb, 0)]), (3, [(qa, 0)])]
def fragP (hi3 : Option Nat) : Particle := flatChoice 0 0 none (fragItems hi3)
example : Frag15 (ctxOf false 4 (fragP (some 0)) fragInfos) [qa, qb] fragT 0 0 none (fragItems (some 0)) :=
  ⟨⟨by decide, by decide, by decide, by decide, by decide, by decide⟩, by decide, by decide, by decide, by decide, by decide⟩
example : (ctxOf false 4 (fragP (some 0)) fragInfos).accepts (fragP (some 0)) = true := by decide
example : Frag15 (ctxOf true 4 (fragP (some 0)) fragInfos) [qa, qb] fragT 0 0 none (fragItems (some 0)) :=
  ⟨⟨by decide, by decide, by decide, by decide, by decide, by decide⟩, by decide, by decide, by decide, by decide, by decide⟩
example : Frag15 (ctxOf false 4 (fragP (some 1)) fragInfos) [qa, qb] fragT 0 0 none (fragItems (some 1)) ∧
    (ctxOf false 4 (fragP (some 1)) fragInfos).accepts (fragP (some 1)) = false :=
  ⟨⟨⟨by decide, by decide, by decide, by decide, by decide, by decide⟩, by decide, by decide, by decide, by decide, by decide⟩,
    by decide⟩

/-- the hypotheses of `checkModel_accepts_edc_direct` are met by a model with two same-named elements -/
example : (ctxOf false 4 pOk [(1, { name := qa, ty := 0 }), (2, { name := qb, ty := 0 }), (3, { name := qa, ty := 0 })]).accepts pOk = true ∧
    (1 ∈ ((ctxOf false 4 pOk []).visited pOk).map (·.1) ∧ 3 ∈ ((ctxOf false 4 pOk []).visited pOk).map (·.1)) :=
  ⟨pOk_accepted, by decide⟩

/-- `(a, a?){1,2}` with the repeated-sequence repair: a member of the fragment of
    `checkModel_flat_seq_refusal_sound` that is refused (wrap-around conflict); `(a?, a)+` is a member that every
    variant refuses (in-iteration conflict) -/
def repItems : List FItem := [⟨1, qa, 1, some 1⟩, ⟨2, qa, 0, some 1⟩]
example : FragSeqRep15 (ctxOf false 3 pSeqRep [ei 1 qa, ei 2 qa] { repSeq := true }) [qa] 0 1 (some 2) repItems ∧
    pSeqRep = flatSeq 0 1 (some 2) repItems ∧
    (ctxOf false 3 pSeqRep [ei 1 qa, ei 2 qa] { repSeq := true }).accepts pSeqRep = false :=
  ⟨⟨⟨by decide, by decide, by decide, by decide, by decide, by decide, by decide, by decide, by decide,
    by decide, by decide, by decide⟩, by decide, by decide, by decide, by decide⟩, rfl,
    ((checkModel_repairs_effective false { repSeq := true }).1 rfl).2⟩
def repItems2 : List FItem := [⟨1, qa, 0, some 1⟩, ⟨2, qa, 1, some 1⟩]
example (fx : Fixes) : (ctxOf false 3 (flatSeq 0 1 none repItems2) [ei 1 qa, ei 2 qa] fx).accepts (flatSeq 0 1 none repItems2) = false :=
  accepts_ctxOf_plain_all (by decide) (by decide) fx

/-- the hypothesis of `checkModel_upa_error_overlap` is met by `(((a)?, c), a)` (UPA error between particles 3 and 5) -/
example : ((ctxOf false 6 pDeep [ei 3 qa, ei 4 qc, ei 5 qa]).checkModel pDeep).err = some (.upa 3 5) := by decide

/-- the hypotheses of `checkModel_edc_error_sound` are met: XSD 1.1 refuses `(h, s:int)` with an EDC error and
    the type table covers the port's data -/
example : ((ctxOf true 3 pEdc iEdc { edcLoop := true }).checkModel pEdc).err = some (.edc 2 1) ∧
    (ctxOf true 3 pEdc iEdc { edcLoop := true }).tableCovers [(1, [(qh, 0), (qs, 0)]), (2, [(qs, 1)])] pEdc = true ∧
    (ctxOf true 3 pEdc iEdc { edcLoop := true }).fx.edcLoop = true := by decide

/-- `(a?, b, a{2,2}, a+)?` is a member of the fragment of `checkModel_refines_flat_seq_partial` (guard holds) and
    is accepted; `(a?, c?, a)` is a member that is refused -/
def seqItems : List FItem := [⟨1, qa, 0, some 1⟩, ⟨2, qb, 1, some 1⟩, ⟨3, qa, 2, some 2⟩, ⟨4, qa, 1, none⟩]
def seqInfos : List (Nat × EInfo) := [ei 1 qa, ei 2 qb, ei 3 qa, ei 4 qa]
def seqT : TypeTable := [(1, [(qa, 0)]), (2, [(qb, 0)]), (3, [(qa, 0)]), (4, [(qa, 0)])]
def seqP : Particle := flatSeq 0 0 (some 1) seqItems
example (v11 : Bool) : FragSeq15 (ctxOf v11 5 seqP seqInfos) [qa, qb] seqT 0 0 seqItems := by
  cases v11 <;>
  exact ⟨⟨by decide, by decide, by decide, by decide, by decide, by decide, by decide, by decide, by decide,
    by decide, by decide, by decide⟩, by decide, by decide, by decide, by decide⟩
example : (ctxOf false 5 seqP seqInfos).accepts seqP = true := by decide
def seqItems2 : List FItem := [⟨1, qa, 0, some 1⟩, ⟨2, qc, 0, some 1⟩, ⟨3, qa, 1, some 1⟩]
def seqP2 : Particle := flatSeq 0 1 (some 1) seqItems2
example : FragSeq15 (ctxOf false 4 seqP2 [ei 1 qa, ei 2 qc, ei 3 qa]) [qa, qc] [(1, [(qa, 0)]), (2, [(qc, 0)]), (3, [(qa, 0)])] 0 1 seqItems2 ∧
    (ctxOf false 4 seqP2 [ei 1 qa, ei 2 qc, ei 3 qa]).accepts seqP2 = false :=
  ⟨⟨⟨by decide, by decide, by decide, by decide, by decide, by decide, by decide, by decide, by decide,
    by decide, by decide, by decide⟩, by decide, by decide, by decide, by decide⟩, by decide⟩

end XsVerif.Props.C15
