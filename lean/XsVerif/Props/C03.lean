/-
  C03 — attribute sets are validated per declared uses, value constraints and wildcards.
  Model: XsVerif/Model/Attributes.lean.  The validity clause is proved
  for the chain of Model/AttrFixed.lean (both variants of the fixed-value test, `errorsX_nil_iff`); the chain
  of Model/Attributes.lean is its instance with no marked type (`attrs_valid_iff`).
-/
import XsVerif.Model.Attributes
import XsVerif.Lemmas.AttrFixed

namespace XsVerif.Props.C03
open XsVerif.Wildcard XsVerif.Attributes

/-! ## Specification (S) -/
def DeclOk (s : Sem) (d : Decl) (v : String) : Prop :=
  s.validT d.ty v = true ∧ ∀ f, d.fixed = some f → s.valueEq d.ty v f = true

def Uses (G : Group) (n : QN) (d : Decl) : Prop := d ∈ G.decls ∧ d.name = n ∧ d.use ≠ .prohibited

/-- processContents clause -/
def PcOk (s : Sem) (env : Env) (pc : PC) (n : QN) (v : String) : Prop :=
  match pc with
  | .skip => True
  | .lax => n.ns ∈ env.loaded → ∀ g ∈ env.globals, g.name = n → DeclOk s g v
  | .strict => n.ns ∈ env.loaded ∧ ∃ g ∈ env.globals, g.name = n ∧ DeclOk s g v

def WildOk (s : Sem) (env : Env) (G : Group) (n : QN) (v : String) : Prop :=
  ∃ a, G.any = some a ∧ anyMatches env a n = true ∧ PcOk s env a.pc n v

/-- the name is one of the always-available xsi attributes known to the maps -/
def XsiBuiltin (env : Env) (n : QN) : Prop := n.ns = xsiNs ∧ ∃ g ∈ env.globals, g.name = n

/-- S: one present attribute is acceptable. -/
def AttrOk (s : Sem) (env : Env) (G : Group) (n : QN) (v : String) : Prop :=
  (∃ d, Uses G n d ∧ DeclOk s d v) ∨
  ((¬ ∃ d, Uses G n d) ∧
    ((XsiBuiltin env n ∧ ∃ g ∈ env.globals, g.name = n ∧ DeclOk s g v) ∨
     (¬ XsiBuiltin env n ∧ WildOk s env G n v)))

/-- S: the attribute set `A` is valid for the group `G`. -/
def Ok (s : Sem) (env : Env) (G : Group) (A : List Attr) : Prop :=
  (∀ d ∈ G.decls, d.use = .required → ∃ v, (d.name, v) ∈ A) ∧
  ∀ a ∈ A, AttrOk s env G a.1 a.2

/-- schema-build guarantees: value constraints are valid for their type -/
def WF (s : Sem) (G : Group) : Prop :=
  ∀ d ∈ G.decls, (∀ f, d.fixed = some f → s.validT d.ty f = true) ∧
                 (∀ f, d.dflt = some f → s.validT d.ty f = true)

theorem missing_nil_iff (G : Group) (A : List Attr) :
    missing G A = [] ↔ ∀ d ∈ G.decls, d.use = .required → ∃ v, (d.name, v) ∈ A := by
  unfold missing
  simp only [List.map_eq_nil_iff, List.filter_eq_nil_iff, Bool.and_eq_true, beq_iff_eq,
    Bool.not_eq_true', not_and, Bool.not_eq_false, present_iff]

/-! ## The spec read off the dict lookups -/

theorem uses_iff {G : Group} (hnd : (G.decls.map (·.name)).Nodup) {n : QN} {d : Decl} :
    Uses G n d ↔ lookup G.decls n = some d ∧ d.use ≠ .prohibited := by
  rw [lookup_eq_some_iff hnd, and_assoc]; rfl

theorem attrOk_live {s : Sem} {env : Env} {G : Group} (hnd : (G.decls.map (·.name)).Nodup) {n : QN}
    {v : String} {d : Decl} (hlk : lookup G.decls n = some d) (hu : d.use ≠ .prohibited) :
    AttrOk s env G n v ↔ DeclOk s d v := by
  constructor
  · rintro (⟨d', h', hok⟩ | ⟨hno, -⟩)
    · cases hlk.symm.trans ((uses_iff hnd).mp h').1
      exact hok
    · exact absurd ⟨d, (uses_iff hnd).mpr ⟨hlk, hu⟩⟩ hno
  · exact fun hok => Or.inl ⟨d, (uses_iff hnd).mpr ⟨hlk, hu⟩, hok⟩

theorem attrOk_wild {s : Sem} {env : Env} {G : Group} (hnd : (G.decls.map (·.name)).Nodup) {n : QN}
    {v : String} (hlk : ∀ d, lookup G.decls n = some d → d.use = .prohibited) (hb : ¬ XsiBuiltin env n) :
    AttrOk s env G n v ↔ WildOk s env G n v := by
  have hno : ¬ ∃ d, Uses G n d := fun ⟨d, h⟩ => ((uses_iff hnd).mp h).2 (hlk d ((uses_iff hnd).mp h).1)
  exact (or_iff_right fun ⟨d, h, _⟩ => hno ⟨d, h⟩).trans <| (and_iff_right hno).trans <|
    (or_iff_right fun h => hb h.1).trans (and_iff_right hb)

theorem attrOk_xsi {s : Sem} {env : Env} {G : Group} (hg : (env.globals.map (·.name)).Nodup) {n : QN}
    {v : String} {g : Decl} (hlk : lookup G.decls n = none) (hx : n.ns = xsiNs)
    (hgl : lookup env.globals n = some g) : AttrOk s env G n v ↔ DeclOk s g v := by
  have hno : ¬ ∃ d, Uses G n d := fun ⟨d, h1, h2, _⟩ => lookup_none_iff.mp hlk d h1 h2
  have hb : XsiBuiltin env n := ⟨hx, g, lookup_some_mem hgl⟩
  refine (or_iff_right fun ⟨d, h, _⟩ => hno ⟨d, h⟩).trans <| (and_iff_right hno).trans <|
    (or_iff_left fun h => h.1 hb).trans <| (and_iff_right hb).trans ?_
  rw [exists_named_iff hg, hgl]
  simp

/-! ## The decoder against the spec, for any marking `q` of context-dependent types -/

theorem anyErrsX_nil_iff (s : Sem) (q : Nat → Bool) (hrefl : ∀ t x, q t = false → s.valueEq t x x = true)
    (env : Env) (hg : (env.globals.map (·.name)).Nodup) (a : AnyAttr) (n : QN) (v : String) :
    anyErrsX s q env a n v = [] ↔ (anyMatches env a n = true ∧ PcOk s env a.pc n v) := by
  unfold anyErrsX PcOk
  rw [List.append_eq_nil_iff]
  refine and_congr (by cases anyMatches env a n <;> simp) ?_
  simp only [forall_named_iff hg, exists_named_iff hg, DeclOk, ← declErrsX_nil_iff s q hrefl _ n v]
  by_cases hl : n.ns ∈ env.loaded
  · cases a.pc <;> cases lookup env.globals n <;> simp [hl]
  · cases a.pc <;> simp [hl]

theorem wildErrsX_nil_iff (s : Sem) (q : Nat → Bool) (hrefl : ∀ t x, q t = false → s.valueEq t x x = true)
    (env : Env) (hg : (env.globals.map (·.name)).Nodup) (G : Group) (n : QN) (v : String) (e : Err) :
    (match G.any with
      | some w => anyErrsX s q env w n v
      | none => [e]) = [] ↔ WildOk s env G n v := by
  unfold WildOk
  cases G.any <;> simp [anyErrsX_nil_iff s q hrefl env hg]

theorem stepErrsX_nil_iff (s : Sem) (q : Nat → Bool) (hrefl : ∀ t x, q t = false → s.valueEq t x x = true)
    (env : Env) (G : Group) (hnd : (G.decls.map (·.name)).Nodup)
    (hg : (env.globals.map (·.name)).Nodup) (hxsi : ∀ d ∈ G.decls, d.name.ns ≠ xsiNs)
    (a : Attr) : stepErrsX s q env false G a = [] ↔ AttrOk s env G a.1 a.2 := by
  obtain ⟨n, v⟩ := a
  have hw := wildErrsX_nil_iff s q hrefl env hg G n v
  unfold stepErrsX
  dsimp only
  cases hlk : lookup G.decls n with
  | some d =>
    obtain ⟨hd, rfl⟩ := lookup_some_mem hlk
    dsimp only
    unfold declaredErrsX
    by_cases hu : d.use = .prohibited
    · rw [attrOk_wild hnd (fun d' h => Option.some.inj (hlk.symm.trans h) ▸ hu) fun h => hxsi d hd h.1,
        if_pos (by rw [hu]; rfl)]
      unfold WildOk
      cases G.any with
      | none => simp
      | some w => cases hm : anyMatches env w d.name <;> simp [hm, anyErrsX_nil_iff s q hrefl env hg]
    · rw [attrOk_live hnd hlk hu, if_neg (by simpa using hu)]
      exact declErrsX_nil_iff s q hrefl d _ v
  | none =>
    have hnone : ∀ d : Decl, none = some d → d.use = .prohibited := fun _ h => nomatch h
    dsimp only
    by_cases hx : n.ns = xsiNs
    · rw [if_pos (by simpa using hx)]
      cases hgl : lookup env.globals n with
      | some g => exact (declErrsX_nil_iff s q hrefl g n v).trans (attrOk_xsi hg hlk hx hgl).symm
      | none =>
        exact (hw _).trans
          (attrOk_wild hnd (hlk ▸ hnone) fun ⟨_, g, h1, h2⟩ => lookup_none_iff.mp hgl g h1 h2).symm
    · rw [if_neg (by simpa using hx)]
      exact (hw _).trans (attrOk_wild hnd (hlk ▸ hnone) fun h => hx h.1).symm

theorem anyErrs_nil_iff (s : Sem) (hrefl : ∀ t x, s.valueEq t x x = true) (env : Env)
    (hg : (env.globals.map (·.name)).Nodup) (a : AnyAttr) (n : QN) (v : String) :
    anyErrs s env a n v = [] ↔ (anyMatches env a n = true ∧ PcOk s env a.pc n v) :=
  anyErrsX_eq s env a n v ▸ anyErrsX_nil_iff s _ (fun t x _ => hrefl t x) env hg a n v

theorem stepErrs_nil_iff (s : Sem) (hrefl : ∀ t x, s.valueEq t x x = true) (env : Env) (o : Opts)
    (G : Group) (hleg : o.legacy = false) (hnd : (G.decls.map (·.name)).Nodup)
    (hg : (env.globals.map (·.name)).Nodup) (hxsi : ∀ d ∈ G.decls, d.name.ns ≠ xsiNs)
    (a : Attr) : stepErrs s env o G a = [] ↔ AttrOk s env G a.1 a.2 :=
  stepErrsX_eq s env o hleg false G a ▸ stepErrsX_nil_iff s _ (fun t x _ => hrefl t x) env G hnd hg hxsi a

/-- **C03, validity clause, both variants of the fixed-value test.**  `q` marks the context-dependent types
    (none before the repair of C03-F3, xs:QName after it): the decoder reports no error exactly when the
    attribute set is valid. -/
theorem errorsX_nil_iff (s : Sem) (q : Nat → Bool) (env : Env) (o : Opts) (G : Group)
    (A : List Attr) (hleg : o.legacy = false) (hrefl : ∀ t x, q t = false → s.valueEq t x x = true)
    (hwf : ∀ d ∈ G.decls, q d.ty = false → ∀ f, constraintOf o d = some f → s.validT d.ty f = true)
    (hnd : (G.decls.map (·.name)).Nodup) (hg : (env.globals.map (·.name)).Nodup)
    (hxsi : ∀ d ∈ G.decls, d.name.ns ≠ xsiNs) :
    errorsX s q env o G A = [] ↔ Ok s env G A := by
  unfold errorsX Ok
  simp only [List.append_eq_nil_iff, List.flatMap_eq_nil_iff, missing_nil_iff,
    stepErrsX_nil_iff s q hrefl env G hnd hg hxsi]
  exact ⟨fun h => h.1, fun h => ⟨h, stepErrsX_additional s q env o G A hleg hwf hnd⟩⟩

/-- **C03, validity clause.**  The decoder (current code, `legacy = false`) reports no error exactly when
    the attribute set is valid — for every group, including groups with `use="prohibited"` declarations. -/
theorem attrs_valid_iff (s : Sem) (env : Env) (o : Opts) (G : Group) (A : List Attr)
    (hleg : o.legacy = false) (hrefl : ∀ t x, s.valueEq t x x = true) (hwf : WF s G)
    (hnd : (G.decls.map (·.name)).Nodup) (hg : (env.globals.map (·.name)).Nodup)
    (hxsi : ∀ d ∈ G.decls, d.name.ns ≠ xsiNs) :
    errors s env o G A = [] ↔ Ok s env G A := by
  rw [← errorsX_eq_errors s env o hleg G A]
  exact errorsX_nil_iff s _ env o G A hleg (fun t x _ => hrefl t x)
    (fun d hd _ f hc => (constraintOf_fixed_or_dflt hleg hc).elim ((hwf d hd).1 f) ((hwf d hd).2 f)) hnd hg hxsi

/-! ## Decoded data: absent attributes -/

/-- S: what decoded data must say about a name `n` that does not occur in the element. -/
def AbsentOut (o : Opts) (G : Group) (n : QN) (s : Src) : Prop :=
  ∃ d ∈ G.decls, d.name = n ∧
    ((d.use ≠ .prohibited ∧ ∃ f, d.fixed = some f ∧ s = .typed d.ty f) ∨
     (d.use ≠ .prohibited ∧ d.fixed = none ∧ o.useDefaults = true ∧ ∃ f, d.dflt = some f ∧ s = .typed d.ty f) ∨
     (o.fillMissing = true ∧ s = .nil ∧
        (d.use = .prohibited ∨ (d.fixed = none ∧ (o.useDefaults = false ∨ d.dflt = none)))))

/-- **C03, decoded-data clause.**  For a name that does not occur in the element, the decoded list
    contains exactly: the fixed value of a (non-prohibited) declaration; its default value when
    `use_defaults` is on; `None` for every other declared name when `fill_missing` is requested —
    and nothing else. -/
theorem decoded_absent_iff (env : Env) (o : Opts) (G : Group) (A : List Attr)
    (hleg : o.legacy = false) (hnd : (G.decls.map (·.name)).Nodup)
    (n : QN) (habs : ∀ v, (n, v) ∉ A) (s : Src) :
    (n, s) ∈ decoded env o G A ↔ AbsentOut o G n s := by
  have hpn : present A n = false := present_false_iff.mpr habs
  have h1 : (n, s) ∈ (augmented o G A).filterMap (stepItem env o G) ↔
      ∃ d ∈ G.decls, d.name = n ∧ ∃ f, constraintOf o d = some f ∧ s = .typed d.ty f := by
    simp only [augmented, List.mem_filterMap, List.mem_append]
    constructor
    · rintro ⟨⟨m, v⟩, ha | ha, hst⟩
      · -- an attribute of the element cannot produce an item for an absent name
        cases (stepItem_name hst : n = m)
        exact absurd ha (habs v)
      · obtain ⟨d, hd, -, hc, hn⟩ := mem_additional.mp ha
        cases (hn : m = d.name)
        rw [stepItem_additional env o G hleg hnd d hd v hc] at hst
        cases hst
        exact ⟨d, hd, rfl, v, hc, rfl⟩
    · rintro ⟨d, hd, rfl, f, hc, rfl⟩
      exact ⟨(d.name, f), Or.inr (mem_additional.mpr ⟨d, hd, hpn, hc, rfl⟩),
        stepItem_additional env o G hleg hnd d hd f hc⟩
  have h2 : (n, s) ∈ filled o G A ↔
      ∃ d ∈ G.decls, d.name = n ∧ o.fillMissing = true ∧ s = .nil ∧ constraintOf o d = none := by
    unfold filled
    cases o.fillMissing
    · simp
    · simp only [if_true, List.mem_map, List.mem_filter, Prod.mk.injEq, true_and]
      constructor
      · rintro ⟨d, ⟨hd, hp⟩, rfl, rfl⟩
        rw [present_augmented o G A hnd hd hpn] at hp
        exact ⟨d, hd, rfl, rfl, by simpa using hp⟩
      · rintro ⟨d, hd, rfl, rfl, hc⟩
        refine ⟨d, ⟨hd, ?_⟩, rfl, rfl⟩
        rw [present_augmented o G A hnd hd hpn, hc]
        rfl
  unfold decoded AbsentOut
  rw [List.mem_append, h1, h2]
  simp only [constraintOf_some_iff o hleg, constraintOf_none_iff o hleg]
  constructor
  · rintro (⟨d, hd, hn, f, ⟨hu, hf | ⟨hf, hud, hdf⟩⟩, hs⟩ | ⟨d, hd, hn, h⟩)
    · exact ⟨d, hd, hn, Or.inl ⟨hu, f, hf, hs⟩⟩
    · exact ⟨d, hd, hn, Or.inr (Or.inl ⟨hu, hf, hud, f, hdf, hs⟩)⟩
    · exact ⟨d, hd, hn, Or.inr (Or.inr h)⟩
  · rintro ⟨d, hd, hn, ⟨hu, f, hf, hs⟩ | ⟨hu, hf, hud, f, hdf, hs⟩ | h⟩
    · exact Or.inl ⟨d, hd, hn, f, ⟨hu, Or.inl hf⟩, hs⟩
    · exact Or.inl ⟨d, hd, hn, f, ⟨hu, Or.inr ⟨hf, hud, hdf⟩⟩, hs⟩
    · exact Or.inr ⟨d, hd, hn, h⟩

/-! ## The step as it was before fix 9474062 (`legacy = true`, finding C03-F1 — fixed)

  The pre-fix behaviour survives only in the two counter-example theorems below, which
  are about the old step of the model (`Opts.legacy = true`), not about /repo. -/

def semStr : Sem := { validT := fun _ _ => true, valueEq := fun _ a b => a == b }

def qa : QN := ⟨"", "a"⟩
/-- `<xs:attribute name="a" type="xs:int" use="prohibited" fixed="3"/>`, no wildcard -/
def gProhibitedFixed : Group :=
  { decls := [{ name := qa, use := .prohibited, fixed := some "3", ty := 0 }], any := none }
def envEmpty : Env := { globals := [], loaded := [] }

/-- C03-F1 (fixed), witness 1: the OLD step reported no error for `<e a="3"/>` although the attribute
    set is not valid (the only declaration of `a` is prohibited and there is no wildcard); the current
    step reports "prohibited". -/
theorem oldstep_admits_counterexample :
    errors semStr envEmpty { legacy := true } gProhibitedFixed [(qa, "3")] = [] ∧
    ¬ Ok semStr envEmpty gProhibitedFixed [(qa, "3")] ∧
    errors semStr envEmpty { legacy := false } gProhibitedFixed [(qa, "3")] = [.prohibited qa] := by
  refine ⟨by decide +kernel, ?_, by decide +kernel⟩
  rintro ⟨-, h⟩
  have h := h (qa, "3") (by simp)
  rcases h with ⟨d, ⟨hd, -, hu⟩, -⟩ | ⟨-, (⟨⟨hx, -⟩, -⟩ | ⟨-, a, ha, -⟩)⟩
  · simp only [gProhibitedFixed, List.mem_singleton] at hd
    subst hd
    exact hu rfl
  · exact absurd hx (by decide +kernel)
  · simp [gProhibitedFixed] at ha

/-- C03-F1 (fixed), witness 2: for `<e/>` the OLD step injected the fixed value of the prohibited
    declaration into the decoded data; the current one reports nothing. -/
theorem oldstep_injects_counterexample :
    decoded envEmpty { legacy := true } gProhibitedFixed [] = [(qa, .typed 0 "3")] ∧
    decoded envEmpty { legacy := false } gProhibitedFixed [] = [] := by
  constructor <;> decide +kernel

/-- **C03, required attributes.**  A "missing required attribute" error for `n` is reported exactly
    when a declaration with `use="required"` names `n` and the element does not carry it. -/
theorem required_error_located (s : Sem) (env : Env) (o : Opts) (G : Group) (A : List Attr) (n : QN) :
    Err.missing n ∈ errors s env o G A ↔
      ∃ d ∈ G.decls, d.name = n ∧ d.use = .required ∧ ∀ v, (n, v) ∉ A := by
  unfold errors
  rw [List.mem_append, mem_missing, List.mem_flatMap]
  exact or_iff_left fun ⟨a, _, h⟩ => stepErrs_no_missing s env o G a n h

/-- **C03, "no other attribute occurs".**  An attribute of the element that is neither named by a
    declaration of the group nor in the xsi namespace, in a group without wildcard, is reported as
    not allowed. -/
theorem unknown_attr_error (s : Sem) (env : Env) (o : Opts) (G : Group) (A : List Attr) (n : QN)
    (v : String) (ha : (n, v) ∈ A) (hno : ∀ d ∈ G.decls, d.name ≠ n) (hw : G.any = none)
    (hx : n.ns ≠ xsiNs) : Err.notAllowed n ∈ errors s env o G A := by
  unfold errors augmented
  simp only [List.mem_append, List.mem_flatMap]
  refine Or.inr ⟨(n, v), Or.inl ha, ?_⟩
  unfold stepErrs
  have hb : (n.ns == xsiNs) = false := by simpa using hx
  simp [lookup_none_iff.mpr hno, hb, hw]

/-! ## Corollaries of `decoded_absent_iff`, one per sentence of the property -/

/-- An absent attribute that declares a fixed value is reported with that value. -/
theorem absent_fixed_reported (env : Env) (o : Opts) (G : Group) (A : List Attr)
    (hleg : o.legacy = false) (hnd : (G.decls.map (·.name)).Nodup)
    (d : Decl) (hd : d ∈ G.decls) (hu : d.use ≠ .prohibited) (f : String) (hf : d.fixed = some f)
    (habs : ∀ v, (d.name, v) ∉ A) : (d.name, Src.typed d.ty f) ∈ decoded env o G A :=
  (decoded_absent_iff env o G A hleg hnd d.name habs _).mpr ⟨d, hd, rfl, Or.inl ⟨hu, f, hf, rfl⟩⟩

/-- An absent attribute that declares a default is reported with its default value exactly when
    default filling is enabled. -/
theorem absent_default_iff (env : Env) (o : Opts) (G : Group) (A : List Attr)
    (hleg : o.legacy = false) (hnd : (G.decls.map (·.name)).Nodup)
    (d : Decl) (hd : d ∈ G.decls) (hu : d.use ≠ .prohibited) (hf : d.fixed = none)
    (f : String) (hdf : d.dflt = some f) (habs : ∀ v, (d.name, v) ∉ A) :
    ((d.name, Src.typed d.ty f) ∈ decoded env o G A ↔ o.useDefaults = true) := by
  rw [decoded_absent_iff env o G A hleg hnd d.name habs]
  constructor
  · rintro ⟨d', hd', hn, h⟩
    cases eq_of_name_eq hnd hd hd' hn.symm
    rcases h with ⟨-, f', hf', -⟩ | ⟨-, -, hud, -⟩ | ⟨-, hs, -⟩
    · rw [hf] at hf'; cases hf'
    · exact hud
    · cases hs
  · intro hud
    exact ⟨d, hd, rfl, Or.inr (Or.inl ⟨hu, hf, hud, f, hdf, rfl⟩)⟩

/-- No other absent attribute appears unless filling of missing attributes is requested. -/
theorem absent_silent (env : Env) (o : Opts) (G : Group) (A : List Attr)
    (hleg : o.legacy = false) (hnd : (G.decls.map (·.name)).Nodup) (hfm : o.fillMissing = false)
    (n : QN) (habs : ∀ v, (n, v) ∉ A) (s : Src) (h : (n, s) ∈ decoded env o G A) :
    ∃ d ∈ G.decls, d.name = n ∧ d.use ≠ .prohibited ∧
      ((∃ f, d.fixed = some f ∧ s = .typed d.ty f) ∨
       (d.fixed = none ∧ o.useDefaults = true ∧ ∃ f, d.dflt = some f ∧ s = .typed d.ty f)) := by
  obtain ⟨d, hd, hn, h⟩ := (decoded_absent_iff env o G A hleg hnd n habs s).mp h
  rcases h with ⟨hu, h⟩ | ⟨hu, h⟩ | ⟨h, -⟩
  · exact ⟨d, hd, hn, hu, Or.inl h⟩
  · exact ⟨d, hd, hn, hu, Or.inr h⟩
  · rw [hfm] at h; cases h

/-! ## Non-vacuity: a concrete group meeting every hypothesis, with valid and invalid sets -/

namespace Demo
def tns : String := "urn:t"
def qb : QN := ⟨"", "b"⟩
def qq : QN := ⟨tns, "q"⟩
def qg : QN := ⟨"urn:f", "g"⟩
def qz : QN := ⟨"urn:u", "z"⟩
/-- type 0 = "int": valid iff not "x"; "3" and "03" are the same value -/
def sem : Sem :=
  { validT := fun _ v => v != "x"
    valueEq := fun _ a b => a == b || (a == "03" && b == "3") || (a == "3" && b == "03") }
def G : Group :=
  { decls := [ { name := qa, use := .prohibited, ty := 0 },
               { name := qb, use := .required, ty := 0 },
               { name := qq, fixed := some "3", ty := 0 },
               { name := ⟨"", "c"⟩, dflt := some "4", ty := 0 } ],
    any := some { wc := { ns := .other, tns := tns }, pc := .lax } }
def env : Env := { globals := [{ name := qg, ty := 0 }], loaded := [tns, "urn:f"] }

theorem sem_refl : ∀ t x, sem.valueEq t x x = true := by intro t x; simp [sem]
theorem wf : WF sem G := by
  intro d hd
  simp only [G, List.mem_cons, List.not_mem_nil, or_false] at hd
  rcases hd with rfl | rfl | rfl | rfl <;> simp [sem]
theorem nd : (G.decls.map (·.name)).Nodup := by decide +kernel
theorem gnd : (env.globals.map (·.name)).Nodup := by decide +kernel
theorem noxsi : ∀ d ∈ G.decls, d.name.ns ≠ xsiNs := by decide +kernel

/-- a valid set: required present, fixed value in another lexical form, foreign attribute with a
    global declaration, unknown-namespace attribute under lax -/
example : errors sem env {} G [(qb, "1"), (qq, "03"), (qg, "5"), (qz, "x")] = [] := by decide +kernel
example : Ok sem env G [(qb, "1"), (qq, "03"), (qg, "5"), (qz, "x")] :=
  (attrs_valid_iff sem env {} G _ rfl sem_refl wf nd gnd noxsi).mp (by decide +kernel)
/-- invalid sets: each clause of the property fails in turn -/
example : errors sem env {} G [] = [.missing qb] := by decide +kernel
example : errors sem env {} G [(qb, "1"), (qq, "4")] = [.fixedMismatch qq] := by decide +kernel
example : errors sem env {} G [(qb, "x")] = [.invalidValue qb] := by decide +kernel
example : errors sem env {} G [(qb, "1"), (qa, "1")] = [.prohibited qa] := by decide +kernel
example : errors sem env {} G [(qb, "1"), (⟨tns, "zz"⟩, "1")] = [.wildcardDenied ⟨tns, "zz"⟩] := by decide +kernel
example : errors sem env {} G [(qb, "1"), (qg, "x")] = [.invalidValue qg] := by decide +kernel
example : ¬ Ok sem env G [(qb, "1"), (qg, "x")] := fun h =>
  absurd ((attrs_valid_iff sem env {} G _ rfl sem_refl wf nd gnd noxsi).mpr h) (by decide +kernel)
/-- decoded data of `<e b="1"/>`: fixed injected, default injected iff use_defaults, fillers on request -/
example : decoded env {} G [(qb, "1")] =
    [(qb, .typed 0 "1"), (qq, .typed 0 "3"), (⟨"", "c"⟩, .typed 0 "4")] := by decide +kernel
example : decoded env { useDefaults := false } G [(qb, "1")] = [(qb, .typed 0 "1"), (qq, .typed 0 "3")] := by
  decide +kernel
example : decoded env { useDefaults := false, fillMissing := true } G [(qb, "1")] =
    [(qb, .typed 0 "1"), (qq, .typed 0 "3"), (qa, .nil), (⟨"", "c"⟩, .nil)] := by decide +kernel
example : AbsentOut {} G qq (.typed 0 "3") :=
  (decoded_absent_iff env {} G [(qb, "1")] rfl nd qq (by intro v h; simp [qq, qb] at h) _).mp (by decide +kernel)
end Demo

end XsVerif.Props.C03
