/-
  C10 — validation results never depend on what the schema object processed before.
  The model is XsVerif/Model/History.lean (port of the code as it is now).

  A call = the list of steps of the (possibly aborted) walk over one document; its
  observations `(call …).2` are everything the walk reads from state that outlives a call (which
  constraints collect fields at each element end and with which selectors, memoised values, the scratch
  context, what a namespace lookup finds).  A history =
  any list of calls, each complete or aborted at any step — and, inside an xsi:type block, after any
  number of its writes (`xsiType d t (some k)`).
-/
import XsVerif.Lemmas.History

namespace XsVerif.Props.C10
open XsVerif.History

theorem exact_guard {α : Type} {A : α → Prop} {b : Bool} (h1 : b = true → ∀ x, A x) (h2 : b = false → ∃ x, ¬ A x) :
    (∀ x, A x) ↔ b = true := by
  refine ⟨fun h => ?_, h1⟩
  cases hb : b
  · obtain ⟨x, hx⟩ := h2 hb
    exact absurd (h x) hx
  · rfl

/-! ### the residue invariant survives every complete or aborted call, for every algorithm -/

theorem inv_init (sch : Sch) : Inv sch Res.init := XsVerif.History.inv_init sch

example : Inv { complex := [5], wtab := [((0, 10, 5), [11])], base := [], pure := id, nsBase := [0], loadable := [7] } Res.init := inv_init _

/-- whatever a call does — on a whole document or aborted anywhere — the invariant of the residue is kept:
    additions to `selected_by` / `identity.elements` are widenings the schema permits, memo entries are in
    the graph of the pure function, and a recorded (type, constraint) pair means the constraint has been
    widened for that type ("widen, then record") -/
theorem inv_call (sch : Sch) (m : Mode) (r : Res) (doc : List Step) (h : Inv sch r) :
    Inv sch (call sch m r doc).1 := XsVerif.History.inv_call sch m r doc h

theorem inv_call_prefix (sch : Sch) (m : Mode) (r : Res) (doc : List Step) (k : Nat) (h : Inv sch r) :
    Inv sch (call sch m r (doc.take k)).1 := XsVerif.History.inv_call sch m r _ h

/-- the invariant holds after every history of (complete or aborted) calls -/
theorem inv_after (sch : Sch) (m : Mode) (hist : List (List Step)) : Inv sch (after sch m hist) :=
  XsVerif.History.inv_after sch m hist

/-- a call aborted INSIDE the xsi:type block (after any number `k` of its writes: between
    `self.elements[e] = …` and `e.selected_by.add`, between `update_elements` and `xsi_types.add`, …)
    keeps the invariant as well — this is what the order "test recorded → widen → record" buys -/
theorem inv_abort_inside_xsi (sch : Sch) (m : Mode) (s : Res × Ctx) (d : Decl) (t : TyId) (k : Nat)
    (h : Inv sch s.1) : Inv sch (step sch m s (.xsiType d t (some k))).1.1 :=
  inv_step sch m s _ h

/-- nothing is ever removed from the residue by a call that loads no namespace (a load re-creates the
    components: `rebuild_resets`) -/
theorem residue_grows (sch : Sch) (m : Mode) (r : Res) (doc : List Step)
    (hw : (doc.all fun x => !isWild x) = true) :
    (∀ p ∈ r.sel, p ∈ (call sch m r doc).1.sel) ∧ (∀ p ∈ r.elems, p ∈ (call sch m r doc).1.elems) ∧
    (∀ p ∈ r.xsi, p ∈ (call sch m r doc).1.xsi) := by
  have h := run_le sch m doc ({ r with stale := false }, []) hw
  exact ⟨h.sel, h.elems, h.xsi⟩

/-- only the xsi:type block, a first memo call, a scratch use and a wildcard that loads a namespace write the residue: entering / leaving
    elements, collecting fields and lazy counter rebuilding leave the schema object untouched -/
theorem residue_frame (sch : Sch) (m : Mode) (s : Res × Ctx) (x : Step)
    (h : match x with
      | .xsiType _ _ _ => False | .memoCall _ => False | .scratchUse _ => False | .wild _ _ _ => False
      | .nsRead _ => False | _ => True) :
    (step sch m s x).1.1 = s.1 := by
  cases x <;> first | rfl | exact absurd h id

/-- the counters (`context.identities`) of a call never depend on the residue: they are a function of the
    steps of THIS call alone (a new context per call) -/
theorem counters_call_local (sch : Sch) (m : Mode) (r1 r2 : Res) (ctx : Ctx) (x : Step) :
    (step sch m (r1, ctx) x).1.2 = (step sch m (r2, ctx) x).1.2 := step_ctx sch m r1 r2 ctx x

/-- what the last user left in the scratch context is never seen: a use observes the cleared context -/
theorem scratch_isolated (sch : Sch) (m : Mode) (r : Res) (ctx : Ctx) (junk dirt : List Nat) :
    (step sch m ({ r with scratch := junk }, ctx) (.scratchUse dirt)).2 = some (.scratch []) ∧
    (step sch m ({ r with scratch := junk }, ctx) (.scratchUse dirt)).1.1 = { r with scratch := dirt } :=
  ⟨rfl, rfl⟩

/-! ### the code as it is (collection for every open scope, namespaces loaded on demand) -/

/-- **history neutrality of the code as it is**, on namespace-quiet documents: after ANY history of complete
    or aborted calls (which may have loaded namespaces and rebuilt the components any number of times) the
    observations of a call — complete or aborted, whatever xsi:type uses it contains — are those of a fresh
    schema object.

    Full statement (without `nsQuiet`): FALSE for the code as it is — `namespace_load_counterexample`
    (finding C10-F3); `neutral_iff_nsQuiet` shows the guard is exactly the region where it holds. -/
theorem history_neutral_partial (sch : Sch) (hist : List (List Step)) (doc : List Step)
    (hq : nsQuiet sch doc = true) :
    (call sch .ungated (after sch .ungated hist) doc).2 = (call sch .ungated Res.init doc).2 :=
  ungated_gen sch doc _ _ (sim_start sch .ungated hist) hq

/-- the same for a call that is itself aborted after `k` steps -/
theorem history_neutral_prefix (sch : Sch) (hist : List (List Step)) (doc : List Step) (k : Nat)
    (hq : nsQuiet sch doc = true) :
    (call sch .ungated (after sch .ungated hist) (doc.take k)).2 = (call sch .ungated Res.init (doc.take k)).2 :=
  history_neutral_partial sch hist _ (quiet_take sch doc k hq)

/-- a document that is not quiet — a lax or strict wildcard, element or attribute, or the root lookup meets a
    namespace that is not in the maps after the build but has a location — IS influenced by some history:
    one earlier call in which a wildcard met that namespace -/
theorem history_dependent_of_not_nsQuiet (sch : Sch) (doc : List Step) (hq : nsQuiet sch doc = false) :
    ∃ hist, (call sch .ungated (after sch .ungated hist) doc).2 ≠ (call sch .ungated Res.init doc).2 := by
  obtain ⟨n, hn, hnb, hall⟩ := ns_dependent_gen sch doc ({ Res.init with stale := false }, [])
    (inv_unstale (XsVerif.History.inv_init sch)) rfl hq
  refine ⟨[[.wild false .strict n]], hall _ (sim_start sch .ungated _) ?_⟩
  show n ∈ (wildStep sch .ungated { Res.init with stale := false } false .strict n).1.loaded
  rw [wild_loads (pc := .strict) false nofun (isLoaded_fresh hnb rfl) (List.contains_iff_mem.2 hn)]
  exact List.mem_cons_self ..

/-- **exact characterisation** for the code as it is: a document gives the fresh observations after every
    history IF AND ONLY IF it is namespace-quiet -/
theorem neutral_iff_nsQuiet (sch : Sch) (doc : List Step) :
    (∀ hist, (call sch .ungated (after sch .ungated hist) doc).2 = (call sch .ungated Res.init doc).2) ↔
    nsQuiet sch doc = true :=
  exact_guard (fun hq hist => history_neutral_partial sch hist doc hq) (history_dependent_of_not_nsQuiet sch doc)

def availOf : Option Obs → Option Bool
  | some (.ns a _) => some a
  | _ => none

/-- **which lookups consult the loaded set, and how**: for the code as it is, WHETHER a wildcard — element or
    attribute, lax or strict — consults the global declaration of a name never depends on the residue: it does
    exactly when the namespace is in the maps after the build or has a location (it is then loaded on the
    spot); a skip wildcard never looks.  What does depend on the history is only whether this call pays the
    rebuild (`Obs.ns _ rebuilt`) and the lookups that do not load (`nsRead`). -/
theorem wild_avail_neutral (sch : Sch) (r : Res) (h : Inv sch r) (a : Bool) (pc : PC) (n : Nat) :
    availOf (wildStep sch .ungated r a pc n).2 =
      match pc with | .skip => none | _ => some (sch.nsBase.contains n || sch.loadable.contains n) := by
  cases pc with
  | skip => rfl
  | lax => obtain ⟨b, e⟩ := wild_avail h a n (pc := .lax) nofun; rw [e]; rfl
  | strict => obtain ⟨b, e⟩ := wild_avail h a n (pc := .strict) nofun; rw [e]; rfl

/-- a wildcard that loads a namespace re-creates the components: every recorded xsi:type use, binding and
    cache entry is gone, and what the REST of that call writes (it runs on the old components) is lost -/
theorem rebuild_resets (sch : Sch) (r : Res) (ctx : Ctx) (a : Bool) (pc : PC) (n : Nat) (d : Decl) (t : TyId)
    (b : Option Nat) (hpc : pc ≠ .skip) (hl : isLoaded sch r n = false) (hd : sch.loadable.contains n = true) :
    let s := (step sch .ungated (r, ctx) (.wild a pc n)).1
    s.1.xsi = [] ∧ s.1.sel = [] ∧ s.1.elems = [] ∧ s.1.memo = [] ∧ s.1.loaded = n :: r.loaded ∧
    (step sch .ungated s (.xsiType d t b)).1.1 = s.1 := by
  have e : (step sch .ungated (r, ctx) (.wild a pc n)).1 = (rebuild r n, ctx) :=
    congrArg (fun p => (p.1, ctx)) (wild_loads a hpc hl hd)
  rw [e]
  exact ⟨rfl, rfl, rfl, rfl, rfl, rfl⟩

/-- **`identity.elements` is a cache that is a function of its key**: with the invariant (`Inv.cacheOK`: the
    selectors stored under a declaration are those of the declaration's own type) the field selectors that
    extract the key values of an element are, for every collecting constraint and for EVERY algorithm, those of
    the type the element is validated with — whatever earlier documents left in the cache -/
theorem field_typing_neutral (sch : Sch) (m : Mode) (r : Res) (ctx : Ctx) (d : Decl) (t : TyId) (h : Inv sch r) :
    (step sch m (r, ctx) (.fields d t)).2 = some (.typing ((ctx.filter (·.2)).map fun p => (p.1, t))) := by
  simp only [step, typing_eq h]

/-- a value computed from call-local data is a function of the step alone for the code as it is: it is recomputed
    at every use and leaves nothing behind (the decoded `fixed` literal under the instance's effective type) -/
theorem local_value_neutral (sch : Sch) (m : Mode) (r1 r2 : Res) (ctx : Ctx) (k v : Nat) :
    (step sch m (r1, ctx) (.localValue k v)).2 = (step sch m (r2, ctx) (.localValue k v)).2 ∧
    (step sch m (r1, ctx) (.localValue k v)).1.1 = r1 := ⟨rfl, rfl⟩

/-- the variant that MEMOISES such a value under the key alone (seeded change C10-5: `_fixed_value` on the
    element declaration, filled by whichever effective type needs it first): first writer wins -/
def memoLocal (r : Res) (k v : Nat) : Res × Nat :=
  match r.memo.lookup k with
  | some w => (r, w)
  | none => ({ r with memo := (k, v) :: r.memo }, v)

/-- **memo entries must lie in the graph of a function of the KEY**: a memo fed with a call-local value that is
    not the pure function's breaks the invariant, whatever the schema … -/
theorem memo_local_breaks_inv (sch : Sch) (r : Res) (k v : Nat) (hv : v ≠ sch.pure k) (hk : r.memo.lookup k = none) :
    ¬ Inv sch (memoLocal r k v).1 := by
  intro h
  have := h.memo (k, v) (by simp [memoLocal, hk])
  exact hv this

/-- … and makes the value an instance sees depend on the history: after ANY earlier call that computed `v1` for
    the key, an instance whose own data give `v2 ≠ v1` is shown `v1`; a fresh schema object shows it `v2` -/
theorem memo_local_history_dependent (r : Res) (k v1 v2 : Nat) (hne : v1 ≠ v2) (hk : r.memo.lookup k = none) :
    (memoLocal (memoLocal r k v1).1 k v2).2 = v1 ∧ (memoLocal r k v2).2 = v2 ∧
    (memoLocal (memoLocal r k v1).1 k v2).2 ≠ (memoLocal r k v2).2 := by
  have h1 : (memoLocal (memoLocal r k v1).1 k v2).2 = v1 := by simp [memoLocal, hk]
  have h2 : (memoLocal r k v2).2 = v2 := by simp [memoLocal, hk]
  exact ⟨h1, h2, by rw [h1, h2]; exact hne⟩

/-- non-vacuity: declared xs:decimal fixed="1" (key 20): 1 = the integer read by `xsi:type="xs:integer"`,
    2 = the decimal read by the declared type -/
example : (memoLocal (memoLocal Res.init 20 1).1 20 2).2 = 1 ∧ (memoLocal Res.init 20 2).2 = 2 := by decide +kernel

/-! ### the code before 1e49c64 (collection gated by `selected_by`; finding C10-F2, fixed) -/

/-- on plain (no namespace lookups, no abort inside an xsi block), self-sufficient documents the gated code was
    neutral; `gated_dependent_counterexample` and `gated_neutral_iff_selfSufficient` show the guard was exact -/
theorem gated_neutral_partial (sch : Sch) (hist : List (List Step)) (doc : List Step)
    (hc : plainDoc doc = true) (hss : selfSufficient sch (Res.init, []) doc = true) :
    (call sch .gated (after sch .gated hist) doc).2 = (call sch .gated Res.init doc).2 :=
  neutral_gen sch doc _ _ ⟨sim_start sch .gated hist, nofun, rfl, rfl⟩ hc hss

theorem gated_dependent_of_not_selfSufficient (sch : Sch) (doc : List Step)
    (hc : plainDoc doc = true) (hss : selfSufficient sch (Res.init, []) doc = false) :
    ∃ hist, (call sch .gated (after sch .gated hist) doc).2 ≠ (call sch .gated Res.init doc).2 := by
  obtain ⟨c, d, ⟨d0, t, hcx, hd⟩, hall⟩ := dependent_gen sch doc ({ Res.init with stale := false }, []) hc hss
  refine ⟨[[.enter [c], .xsiType d0 t none]], hall _ ⟨sim_start sch .gated _, nofun, rfl, rfl⟩ ?_⟩
  exact sat_xsiWrites (ctx := [(c, true)]) (inv_unstale (XsVerif.History.inv_init sch)) hcx
    (List.mem_cons_self ..) hd

theorem gated_neutral_iff_selfSufficient (sch : Sch) (doc : List Step) (hc : plainDoc doc = true) :
    (∀ hist, (call sch .gated (after sch .gated hist) doc).2 = (call sch .gated Res.init doc).2) ↔
    selfSufficient sch (Res.init, []) doc = true :=
  exact_guard (fun hss hist => gated_neutral_partial sch hist doc hc hss)
    (gated_dependent_of_not_selfSufficient sch doc hc)

/-! ### concrete witnesses -/

/-- constraints 0 / 1 (`unique` with selector `.//x` on two elements `secA` / `secB`), declaration
    10 = the shared global element `item`, 11 = the local element `x` of the extension type 5,
    12 = a global element `memb` of type 5 in the substitution group of `head`;
    namespace 0 = the schema's own (in the maps after the build), 7 = XLink / XHTML (bundled location),
    9 = a namespace nobody has a location for; types: 4 = Base, 5 = Ext, 8 = xs:anySimpleType (declared type of
    12), 6 = xs:integer -/
def wSch : Sch where
  complex := [5]
  wtab := [((0, 10, 5), [11]), ((1, 10, 5), [11])]
  base := []
  pure k := k
  declTy := [(10, 4), (11, 3), (12, 8)]
  nsBase := [0]
  loadable := [7]

/-- `<secA><item xsi:type="Ext"><x/><x/></item></secA>` -/
def docA : List Step :=
  [.nsRead 0, .enter [0], .xsiType 10 5 none, .collect 11, .collect 11, .collect 10, .leave [(0, none)]]
/-- `<secB><item xsi:type="Ext"><x/><x/></item></secB>` -/
def docB : List Step :=
  [.enter [1], .xsiType 10 5 none, .collect 11, .collect 11, .collect 10, .leave [(1, none)]]
/-- `<secA><memb><x/><x/></memb></secA>`: the `x` elements arrive through a substitution-group member, no xsi:type -/
def docM : List Step :=
  [.enter [0], .collect 11, .collect 11, .collect 12, .leave [(0, none)]]
/-- `<secA><item/></secA><secB><item xsi:type="Ext">…`: the counter of `ua` exists but is disabled -/
def docD : List Step :=
  [.enter [0], .collect 10, .leave [(0, none)], .enter [1], .xsiType 10 5 none, .collect 11, .collect 10,
   .leave [(1, none)]]
/-- `<root><open><h:p/></open></root>`: an element of namespace 7 under a lax element wildcard -/
def docE : List Step := [.nsRead 0, .wild false .lax 7]
/-- `<root x:type="bogus"/>`: an attribute of namespace 7 under a lax attribute wildcard -/
def docT : List Step := [.nsRead 0, .wild true .lax 7]
/-- `<h:p/>`: the root element itself is in namespace 7 -/
def docR : List Step := [.nsRead 7]
/-- attributes / elements of the schema's namespace, of the unknown namespace 9, and of 7 under skip wildcards -/
def docQ : List Step :=
  [.nsRead 0, .wild true .lax 0, .wild false .strict 9, .wild true .strict 9, .wild true .skip 7, .wild false .skip 7,
   .enter [0], .xsiType 10 5 none, .collect 11, .leave [(0, none)]]

example : nsQuiet wSch docQ = true ∧ nsQuiet wSch docA = true := by decide +kernel
example : nsQuiet wSch docE = false ∧ nsQuiet wSch docT = false ∧ nsQuiet wSch docR = false := by decide +kernel
example : plainDoc docB = true ∧ selfSufficient wSch (Res.init, []) docB = true := by decide +kernel
example : plainDoc docM = true ∧ selfSufficient wSch (Res.init, []) docM = false := by decide +kernel

/-- finding C10-F1 (fixed by 962be1e), kept as a theorem about the OLD step: once the type was recorded the
    widening was skipped also for constraints that were not enabled when it was first met, so after document A
    the `x` elements of document B were not collected for `ub`; the later algorithms give the fresh result. -/
theorem history_counterexample :
    (call wSch .old (after wSch .old [docA]) docB).2 ≠ (call wSch .old Res.init docB).2 ∧
    (call wSch .old (after wSch .old [docA]) docB).2.take 1 = [.collected [(1, true)] []] ∧
    (call wSch .old Res.init docB).2.take 1 = [.collected [(1, true)] [1]] ∧
    (call wSch .gated (after wSch .gated [docA]) docB).2 = (call wSch .gated Res.init docB).2 ∧
    (call wSch .ungated (after wSch .ungated [docA]) docB).2 = (call wSch .ungated Res.init docB).2 := by
  decide +kernel

/-- finding C10-F2 (fixed by 1e49c64), kept as a theorem about the gated collection: after document A the `x`
    children of a substitution-group member inside `secA` were collected; a fresh schema did not collect them.
    The code as it is gives the same on both. -/
theorem gated_dependent_counterexample :
    (call wSch .gated (after wSch .gated [docA]) docM).2.take 1 = [.collected [(0, true)] [0]] ∧
    (call wSch .gated Res.init docM).2.take 1 = [.collected [(0, true)] []] ∧
    (call wSch .ungated (after wSch .ungated [docA]) docM).2 = (call wSch .ungated Res.init docM).2 := by
  decide +kernel

/-- finding C10-F3: the code as it is, on documents that are not namespace-quiet.  (a) the same document E
    twice: the first call (= a fresh schema) rebuilds the components in its middle, the second does not;
    (b) after E, the root of namespace 7 is found in the maps, a fresh schema does not find it;
    (c) the rebuild drops what document A had recorded. -/
theorem namespace_load_counterexample :
    (call wSch .ungated Res.init docE).2 = [.nsSeen true, .ns true true] ∧
    (call wSch .ungated (after wSch .ungated [docE]) docE).2 = [.nsSeen true, .ns true false] ∧
    (call wSch .ungated Res.init docR).2 = [.nsSeen false] ∧
    (call wSch .ungated (after wSch .ungated [docE]) docR).2 = [.nsSeen true] ∧
    (after wSch .ungated [docA]).xsi ≠ [] ∧ (after wSch .ungated [docA, docE]).xsi = [] := by
  decide +kernel

/-- seeded change C10-3 (a non-strict attribute wildcard does not load): WHETHER the attribute is checked
    against its global declaration then depends on what an earlier document loaded — `avail` false on a fresh
    schema, true after document E — while the code as it is answers `true` both times (`wild_avail_neutral`) -/
theorem lax_attr_noload_counterexample :
    (call wSch .laxAttrNoLoad Res.init docT).2 = [.nsSeen true, .ns false false] ∧
    (call wSch .laxAttrNoLoad (after wSch .laxAttrNoLoad [docE]) docT).2 = [.nsSeen true, .ns true false] ∧
    (call wSch .ungated Res.init docT).2.map (fun o => availOf (some o)) = [none, some true] ∧
    (call wSch .ungated (after wSch .ungated [docE]) docT).2.map (fun o => availOf (some o)) = [none, some true] := by
  decide +kernel

/-- seeded change C10-4: `collect_key_fields` stores the selectors it builds for a retyped COPY under the
    declaration (`identity.elements.setdefault(declaration, selectors)`): the cache entry (constraint 0,
    declaration 12) gets the typing of the xsi:type 6 although the declaration has type 8 … -/
def cacheUnderDeclaration (r : Res) (c : Con) (d : Decl) (t : TyId) : Res :=
  { r with cache := if (r.cache.lookup (c, d)).isSome then r.cache else ((c, d), t) :: r.cache }

/-- … which breaks the invariant (the cache is not a function of its key) … -/
theorem cache_under_declaration_breaks_inv : ¬ Inv wSch (cacheUnderDeclaration Res.init 0 12 6) := by
  intro h
  have := h.cacheOK ((0, 12), 6) (by decide)
  revert this
  decide +kernel

/-- … and from that residue the code as it is extracts the keys of `<memb>01</memb><memb>1</memb>` (no
    xsi:type) with the integer selectors of the earlier document: 01 = 1, a duplicate that a fresh schema does
    not see.  Witness history: `<memb xsi:type="xs:integer">1</memb>` inside the scope, then the untyped one. -/
theorem cache_under_declaration_counterexample :
    (call wSch .ungated (cacheUnderDeclaration Res.init 0 12 6) [.enter [0], .fields 12 8]).2
      = [.typing [(0, 6)]] ∧
    (call wSch .ungated Res.init [.enter [0], .fields 12 8]).2 = [.typing [(0, 8)]] ∧
    (call wSch .ungated (after wSch .ungated [[.enter [0], .fields 12 6, .fields 12 6]]) [.enter [0], .fields 12 8]).2
      = [.typing [(0, 8)]] := by
  decide +kernel

/-- the order matters.  A variant of the block that records the (type, constraint) pair for every counter of
    the context — also the DISABLED ones, without widening them (seeded change C10-2) — breaks the invariant:
    the pair (10, 5, 0) is recorded while `x` is not bound to constraint 0 … -/
def recordDisabled (r : Res) (ctx : Ctx) (d : Decl) (t : TyId) : Res :=
  applyWrites r (ctx.map fun p => Write.pair d t p.1)

theorem record_disabled_breaks_inv :
    let r := recordDisabled (call wSch .gated Res.init docD).1 [(0, false), (1, true)] 10 5
    ¬ Inv wSch r := by
  intro r h
  have := h.pairs 10 5 0 (by decide) 11 (by decide)
  revert this
  decide +kernel

/-- … and from that residue the gated code did not give the fresh result on the (self-sufficient) document A -/
theorem record_disabled_counterexample :
    let r := recordDisabled (call wSch .gated Res.init docD).1 [(0, false), (1, true)] 10 5
    selfSufficient wSch (Res.init, []) docB = true ∧
    (call wSch .gated r [.enter [0], .xsiType 10 5 none, .collect 11]).2 ≠
      (call wSch .gated Res.init [.enter [0], .xsiType 10 5 none, .collect 11]).2 := by
  decide +kernel

/-- a call aborted between `update_elements` and `xsi_types.add((type, identity))` (2 of the 4 writes of the
    block done) leaves a residue from which document B still gets the fresh observations -/
example : (call wSch .ungated (after wSch .ungated [[.enter [1], .xsiType 10 5 (some 2)]]) docB).2
    = (call wSch .ungated Res.init docB).2 := by decide +kernel

end XsVerif.Props.C10
