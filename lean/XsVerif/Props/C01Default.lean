/-
  C01 — applicability of xs:defaultOpenContent (appliesToEmpty) is part of the content language.
-/
import XsVerif.Lemmas.Rx
import XsVerif.Model.DefaultOpen

namespace XsVerif.Props.C01Default
open XsVerif XsVerif.CM XsVerif.Wildcard

/-- A complex type whose explicit content is empty (no group, empty sequence/all, empty optional
    choice, maxOccurs = 0), not mixed, under a defaultOpenContent with appliesToEmpty = false:
    the open content does NOT apply and the only valid child sequence is the empty one. -/
theorem empty_content_without_applying_open (d : DefaultOpen) (c : Option Particle) (w : List QN)
    (hate : d.appliesToEmpty = false) (he : explicitEmpty c = true) (hr : rangeOk c) :
    openContentApplies d false c = false ∧
      (Rx.Lang Leaf.matches (typeRx (some d) false c) w ↔ w = []) := by
  have hap : openContentApplies d false c = false := by simp [openContentApplies, he, hate]
  refine ⟨hap, ?_⟩
  simp only [typeRx, hap, Bool.false_eq_true, if_false]
  cases c with
  | none => simp [contentRx, Rx.Lang]
  | some p =>
    cases p with
    | leaf l lo hi => simp [explicitEmpty] at he
    | group i k lo hi items =>
      have hr' : Rx.leHi lo hi := hr
      obtain ⟨R, hR, hnil, hz⟩ : ∃ R, contentRx (some (.group i k lo hi items)) = .rep R lo hi ∧
          (hi = some 0 ∨ ∀ x, Rx.Lang Leaf.matches R x → x = []) ∧ (lo = 0 ∨ Rx.Lang Leaf.matches R []) := by
        have hlo : hi = some 0 → lo = 0 := fun h => by subst h; exact Nat.le_zero.mp hr'
        cases items with
        | nil =>
          cases k
          · exact ⟨.eps, rfl, .inr fun x hx => hx, .inr rfl⟩
          · have h2 : hi = some 0 ∨ lo = 0 := by simpa [explicitEmpty] using he
            exact ⟨.empty, rfl, .inr fun x hx => hx.elim, .inl (h2.elim hlo id)⟩
          · exact ⟨.eps, rfl, .inr fun x hx => hx, .inr rfl⟩
        | cons q qs =>
          have h0 : hi = some 0 := by simpa [explicitEmpty] using he
          cases k <;> exact ⟨_, rfl, .inl h0, .inl (hlo h0)⟩
      rw [hR]
      constructor
      · intro h
        rcases hnil with rfl | hnil
        · exact Rx.lang_rep_hi_zero _ h
        · exact Rx.lang_rep_eq_nil _ hnil h
      · rintro rfl
        exact (Rx.lang_rep_nil _ R lo hi).mpr ⟨hr', hz⟩

/-- When it applies (mixed, non-empty explicit content or appliesToEmpty = true) the language is the
    open-content language of `oracle_decides_open_content`. -/
theorem applying_open_is_withOpen (d : DefaultOpen) (mixed : Bool) (c : Option Particle)
    (h : mixed = true ∨ explicitEmpty c = false ∨ d.appliesToEmpty = true) :
    typeRx (some d) mixed c = withOpen d.mode d.wild (contentRx c) := by
  have : openContentApplies d mixed c = true := by
    rcases h with h | h | h <;> simp [openContentApplies, h]
  simp [typeRx, this]

end XsVerif.Props.C01Default
